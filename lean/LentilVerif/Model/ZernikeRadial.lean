import LentilVerif.Gen.ZernikeR
/-! Integer kernel of `lentil/zernike.py`: Noll index → (n, m) and the radial polynomial coefficients with their exact tables
(`radialAtOne`, `gramNum`, …). It imports only the generated `Gen/ZernikeR.lean` (the coefficient formula of `R`). -/
namespace Lentil

/-! ## Noll index -/

def tri (n : Nat) : Nat := n * (n + 1) / 2

/-- `rowPos n q fuel`: `q` is the 0-based position counted from the start of row `n` -/
def rowPos : Nat → Nat → Nat → Nat × Nat
  | n, q, 0 => (n, q)
  | n, q, fuel + 1 => if q ≤ n then (n, q) else rowPos (n + 1) (q - (n + 1)) fuel

/-- Noll `j ≥ 1` ↦ `(n, p)`: radial order and position in its row (`p ≤ n`, `j = tri n + p + 1`) -/
def nollRow (j : Nat) : Nat × Nat := rowPos 0 (j - 1) j

/-- |m| at position `p` of row `n`: rows read 0,2,2,4,4,… (n even) or 1,1,3,3,… (n odd) -/
def absM (n p : Nat) : Nat := if n % 2 = 0 then 2 * ((p + 1) / 2) else 2 * (p / 2) + 1

/-- radial order of Noll index `j` -/
def nollN (j : Nat) : Nat := (nollRow j).1

/-- signed azimuthal order as `zernike_index` returns it: `+` for even `j` (cosine), `-` for odd `j` (sine) -/
def nollM (j : Nat) : Int :=
  if j % 2 = 0 then (absM (nollRow j).1 (nollRow j).2 : Int) else -(absM (nollRow j).1 (nollRow j).2 : Int)

/-- explicit inverse: the Noll index of the mode with radial order `n` and signed azimuthal order `m` -/
def nollInv (n : Nat) (m : Int) : Nat :=
  -- row n holds |m| = a > 0 at the two adjacent positions a-1, a (indices tri n + a, tri n + a + 1): the even one is +a
  if m.natAbs = 0 then tri n + 1
  else if 0 < m then (if (tri n + m.natAbs) % 2 = 0 then tri n + m.natAbs else tri n + m.natAbs + 1)
  else (if (tri n + m.natAbs) % 2 = 1 then tri n + m.natAbs else tri n + m.natAbs + 1)

/-- the literal list construction of `zernike_index`, from the REGENERATED pieces: seed `Gen.rowSeed n` (`[1, 1]` for odd n, `[0]` otherwise),
then `Gen.rowLoops n` (= ⌊n/2⌋) passes each appending `Gen.rowStep last` (= `last + 2` twice) -/
def rowMLoop : Nat → List Nat → List Nat
  | 0, l => l
  | t + 1, l => rowMLoop t (l ++ Gen.rowStep (l.getLastD 0))

def rowMList (n : Nat) : List Nat := rowMLoop (Gen.rowLoops n) (Gen.rowSeed n)

/-- `zernike_index(j)` as written: row `n`, `r = j - (n+1)(n+2)/2 - 1` (a negative index from the end of `row_m`) -/
def codeIndex (j : Nat) : Int × Nat :=
  let n := nollN j
  if n = 0 then (0, 0) else
    let r : Int := Gen.idxR j n
    let l := rowMList n
    let idx : Int := if r < 0 then (l.length : Int) + r else r
    let sign : Int := Gen.idxSign j
    ((l.getD idx.toNat 0 : Int) * sign, n)

/-! ## radial polynomials -/

/-- coefficient of ρ^(n-2k) in R_n^m: the exact value of the quotient `lentil.zernike.R` computes, numerator and denominator
REGENERATED from the source (`Gen.radialNum`, `Gen.radialDen`) -/
def radialCoeff (n m k : Nat) : Int := Gen.radialNum n m k / (Gen.radialDen n m k : Int)

/-- every coefficient of every valid (n, m) with n ≤ N is an exact integer: the denominator of the quotient the code forms divides its
numerator (so the Int division of `radialCoeff` is the true value of the float quotient) -/
def allCoeffExact (N : Nat) : Bool :=
  (List.range (N + 1)).all fun n => (List.range (n + 1)).all fun m => (n - m) % 2 != 0 ||
    (List.range ((n - m) / 2 + 1)).all fun k => Gen.radialNum n m k % (Gen.radialDen n m k : Int) == 0 && Gen.radialDen n m k != 0

/-- Pascal's binomial coefficients (kernel-evaluable) -/
def chooseN : Nat → Nat → Nat
  | _, 0 => 1
  | 0, _ + 1 => 0
  | n + 1, k + 1 => chooseN n k + chooseN n (k + 1)
/-- the code's factorial quotient is the textbook binomial form `(-1)^k C(n-k, k) C(n-2k, (n-m)/2 - k)` for all valid (n, m, k), n ≤ N -/
def allBinomial (N : Nat) : Bool :=
  (List.range (N + 1)).all fun n => (List.range (n + 1)).all fun m => (n - m) % 2 != 0 ||
    (List.range ((n - m) / 2 + 1)).all fun k =>
      radialCoeff n m k == (-1 : Int) ^ k * ((chooseN (n - k) k * chooseN (n - 2 * k) ((n - m) / 2 - k) : Nat) : Int)

/-- R_n^m(1) -/
def radialAtOne (n m : Nat) : Int := ((List.range ((n - m) / 2 + 1)).map (radialCoeff n m)).foldl (· + ·) 0

/-- all valid (n, m) with n ≤ N have R_n^m(1) = 1 -/
def allAtOne (N : Nat) : Bool :=
  (List.range (N + 1)).all fun n => (List.range (n + 1)).all fun m => (n - m) % 2 != 0 || radialAtOne n m == 1

/-- `D · ∫₀¹ R_n^m R_n'^m ρ dρ = Σ_k Σ_l a_k b_l · D/(n-2k + n'-2l + 2)` for a common denominator `D` -/
def gramNum (n n' m : Nat) (D : Nat) : Int :=
  ((List.range ((n - m) / 2 + 1)).map fun k =>
    ((List.range ((n' - m) / 2 + 1)).map fun l =>
      radialCoeff n m k * radialCoeff n' m l * ((D / (n - 2 * k + n' - 2 * l + 2) : Nat) : Int)).foldl (· + ·) 0).foldl (· + ·) 0

def lcmUpTo (k : Nat) : Nat := (List.range (k + 1)).foldl (fun a i => if i = 0 then a else Nat.lcm a i) 1

/-- every denominator that occurs divides `D` (so the cleared-denominator sum is exact) -/
def allDenomsDivide (N : Nat) : Bool :=
  let D := lcmUpTo (2 * N + 2)
  (List.range (2 * N + 2)).all fun d => D % (d + 1) == 0

/-- radial orthogonality table: `D·∫₀¹ R_n^m R_n'^m ρ dρ = D/(2(n+1))` if `n = n'`, else `0`, all valid n, n' ≤ N, m -/
def allGram (N : Nat) : Bool :=
  let D := lcmUpTo (2 * N + 2)
  (List.range (N + 1)).all fun n => (List.range (N + 1)).all fun n' => (List.range (min n n' + 1)).all fun m =>
    (n - m) % 2 != 0 || (n' - m) % 2 != 0 || gramNum n n' m D == (if n = n' then ((D / (2 * (n + 1)) : Nat) : Int) else 0)

end Lentil
