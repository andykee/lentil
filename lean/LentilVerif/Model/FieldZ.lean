import LentilVerif.Model.Field
import LentilVerif.Gen.FieldDispatch
/-! 0-d aware model of `lentil.field._merge` / `reduce` / `merge` / `overlap` (C06).

`Wavefront.__init__` creates fields whose data is a **0-d** array. Everywhere except one corner a 0-d field behaves as a
1×1 array at its offset (`array_extent` maps `len(shape) < 2` to `(1, 1)`, and `out[row, col] += data` broadcasts). The
corner is `_merge` on a collection whose bounding box is the single origin pixel — i.e. every member is a one-element
field at offset (0, 0): every slice is `Ellipsis`; `_merge_shape` returns `()` when every member is 0-d (the result is
then 0-d) and `(1, 1)` otherwise (/repo fix: it used to return `()` always, and a (1, 1) array member made NumPy raise).

`ZFld` = a `Fld` plus the flag "data is 0-d". The existing `Fld`/`mergeL`/`reduce` are not changed; `mergeZ`/`reduceZ`
refine them (`Lemmas/Merge.lean`, `Lemmas/ReduceZ.lean`: they agree wherever `mergeL`/`reduce` answer). Mathlib-free. -/
namespace Lentil
variable {K : Type}

/-- a field together with the flag "its data is a 0-d array" (then `fld.arr` is 1×1) -/
structure ZFld (K : Type) where
  fld : Fld K
  zd : Bool

def b2i (b : Bool) : Int := if b then 1 else 0

/-- `Field.__mul__`, 0-d aware: the data of the product is 0-d exactly when both operands are 0-d (NumPy: `() * ()` is
`()`, `() * (1, 1)` is `(1, 1)`, and a one-element operand is broadcast to the other's shape) -/
def ZFld.mul [Mul K] (a b : ZFld K) : Option (ZFld K) :=
  (a.fld.mul b.fld).map fun p => { fld := p, zd := a.zd && b.zd }

/-- `lentil.field._merge`, 0-d aware. `_merge_shape` (generated, with `all0d` = "every member is 0-d") returns `()` only on
the single-origin-pixel box of an all-0-d collection: then `out = np.zeros(())` and `out[...] += field.data` adds every
member, and the result is 0-d. In every other case (also (1, 1) arrays, or a mix, at the origin) the result is an array and
`mergeL` applies. -/
def mergeZ [Add K] [Zero K] (fs : List (ZFld K)) : Option (ZFld K) :=
  let b := boundaryL (fs.map fun z => z.fld.extent)
  match Gen.mergeShape b.rmin b.rmax b.cmin b.cmax (b2i (fs.all fun z => z.zd)) with
  | none =>
    let off := Gen.mergeOffset b.rmin b.rmax b.cmin b.cmax
    some { fld := { arr := { s0 := 1, s1 := 1, get := fun _ _ => sumList fs fun z => z.fld.arr.get 0 0 },
                    o0 := off.1, o1 := off.2 },
           zd := true }
  | some _ => (mergeL (fs.map fun z => z.fld)).map fun p => { fld := p, zd := false }

/-- a group of `_reduce` whose members carry the 0-d flag -/
structure GroupZ (K : Type) where
  fields : List (ZFld K)
  extent : Extent

/-- forget the flags -/
def GroupZ.toG (g : GroupZ K) : Group K := { fields := g.fields.map fun z => z.fld, extent := g.extent }

def GroupZ.single (z : ZFld K) : GroupZ K := { fields := [z], extent := z.fld.extent }

/-- `fields[m]['field'].extend(fields[n]['field']); fields[m]['extent'] = boundary(fields[m]['field'])` -/
def mergeGroupsZ (gm gk : GroupZ K) : GroupZ K :=
  { fields := gm.fields ++ gk.fields, extent := boundaryL ((gm.fields ++ gk.fields).map fun z => z.fld.extent) }

/-- `lentil.field._disjoint` on flagged groups (the pair search only reads the cached extents); the merge step follows the
recognised constants `Gen.disjointStep`, as in `Lentil.disjoint` -/
def disjointZ : Nat → List (GroupZ K) → List (GroupZ K)
  | 0, gs => gs
  | fuel + 1, gs =>
    match firstPair (gs.map GroupZ.toG) with
    | none => gs
    | some (m, k) =>
      let st := Gen.disjointStep
      let ix := fun (c : Int) => if c = 0 then m else k
      match gs[ix st.1]?, gs[ix st.2.1]? with
      | some gkeep, some gsrc =>
        let gs1 := gs.set (ix st.1) { fields := gkeep.fields ++ gsrc.fields, extent := gkeep.extent }
        let gs2 := match gs1[ix st.2.2.1]? with
          | some gr => gs1.set (ix st.2.2.1) { gr with extent := boundaryL (gr.fields.map fun (z : ZFld K) => z.fld.extent) }
          | none => gs1
        disjointZ fuel (gs2.eraseIdx (ix st.2.2.2))
      | _, _ => gs

/-- `_merge(f['field']) if len(f['field']) > 1 else f['field'][0]`; the test is the generated `Gen.reduceMerges` -/
def GroupZ.out [Add K] [Zero K] (g : GroupZ K) : Option (ZFld K) :=
  if Gen.reduceMerges (g.fields.length : Int) then mergeZ g.fields
  else match g.fields with
    | [z] => some z
    | l => mergeZ l          -- not reached with the current test (an empty group does not occur)

/-- `lentil.field.reduce`, 0-d aware -/
def reduceZ [Add K] [Zero K] (zs : List (ZFld K)) : List (Option (ZFld K)) :=
  (disjointZ zs.length (zs.map GroupZ.single)).map GroupZ.out

/-- public `lentil.field.overlap(fields)`: `len(fields) == 2` (generated `Gen.overlapIsPair`) → the extent test on
`fields[0]`, `fields[1]`; otherwise `_reduce` and the generated test `Gen.overlapManyFalse` on the number of groups -/
def overlapL (fs : List (Fld K)) : Bool :=
  if Gen.overlapIsPair (fs.length : Int) then
    match fs with
    | a :: b :: _ => intersect a.extent b.extent
    | _ => false             -- not reached with the current test (`fields[1]` would raise IndexError)
  else
    !(Gen.overlapManyFalse ((disjoint fs.length (fs.map fun f => { fields := [f], extent := f.extent })).length : Int))

/-- public `lentil.field.merge(a, b, enforce_overlap)`: the refusal test is the generated `Gen.mergeRefuses`
(`enforce_overlap and not overlap((a, b))`, `none` = `ValueError`), else `_merge((a, b))` -/
def mergePublic [Add K] [Zero K] (a b : ZFld K) (enforce : Bool) : Option (ZFld K) :=
  if Gen.mergeRefuses (b2i enforce) (b2i (overlapL [a.fld, b.fld])) then none else mergeZ [a, b]

end Lentil
