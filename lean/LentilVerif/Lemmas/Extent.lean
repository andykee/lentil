import LentilVerif.Model.Basic
/-! The generated extent kernel (`lentil/extent.py`) in closed form. An extent is an inclusive box of pixel coordinates; everything
about an intersection (shift, slices, shape) is read off `intersectionExtent`, and a common translation of the operands moves it along. -/
namespace Lentil

theorem Extent.inb_iff (e : Extent) (r c : Int) :
    e.inb r c = true ↔ e.rmin ≤ r ∧ r ≤ e.rmax ∧ e.cmin ≤ c ∧ c ≤ e.cmax := by
  unfold Extent.inb; simp only [Bool.and_eq_true, decide_eq_true_eq]; omega

theorem Extent.inb_iff_mem (e : Extent) (r c : Int) : e.inb r c = true ↔ e.mem r c := Extent.inb_iff e r c

theorem arrayExtent_eq (s0 s1 o0 o1 : Int) :
    arrayExtent s0 s1 o0 o1 = ⟨-(s0 / 2) + o0, -(s0 / 2) + o0 + s0 - 1, -(s1 / 2) + o1, -(s1 / 2) + o1 + s1 - 1⟩ := by
  simp [arrayExtent, Gen.arrayExtent, Extent.ofT]

theorem intersect_eq_true_iff (a b : Extent) :
    intersect a b = true ↔ a.rmin ≤ b.rmax ∧ b.rmin ≤ a.rmax ∧ a.cmin ≤ b.cmax ∧ b.cmin ≤ a.cmax := by
  simp only [intersect, Gen.intersect, Bool.and_eq_true, decide_eq_true_eq, ge_iff_le]; omega

theorem intersectionExtent_eq (a b : Extent) :
    intersectionExtent a b = ⟨max a.rmin b.rmin, min a.rmax b.rmax, max a.cmin b.cmin, min a.cmax b.cmax⟩ := by
  simp [intersectionExtent, Gen.intersectionExtent, Extent.ofT]

theorem intersectionShift_eq (a b : Extent) :
    intersectionShift a b =
      (max a.rmin b.rmin + (min a.rmax b.rmax - max a.rmin b.rmin + 1) / 2,
       max a.cmin b.cmin + (min a.cmax b.cmax - max a.cmin b.cmin + 1) / 2) := by
  simp [intersectionShift, Gen.intersectionShift, Gen.intersectionExtent]

theorem intersectionSlices_eq (a b : Extent) :
    intersectionSlices a b =
      (((max a.rmin b.rmin - a.rmin, min a.rmax b.rmax - a.rmin + 1), (max a.cmin b.cmin - a.cmin, min a.cmax b.cmax - a.cmin + 1)),
       ((max a.rmin b.rmin - b.rmin, min a.rmax b.rmax - b.rmin + 1), (max a.cmin b.cmin - b.cmin, min a.cmax b.cmax - b.cmin + 1))) := by
  simp [intersectionSlices, Gen.intersectionSlices, Gen.intersectionExtent]

theorem arrayCenter_eq (e : Extent) :
    arrayCenter e = (e.rmin + (e.rmax - e.rmin + 1) / 2, e.cmin + (e.cmax - e.cmin + 1) / 2) := by
  simp [arrayCenter, Gen.arrayCenter]

theorem arrayExtent_center (e : Extent) : arrayExtent e.nrow e.ncol (arrayCenter e).1 (arrayCenter e).2 = e := by
  rw [arrayExtent_eq, arrayCenter_eq]; cases e; simp only [Extent.nrow, Extent.ncol, Extent.mk.injEq]; omega

theorem _root_.Gen.arrayCenter_arrayExtent (s0 s1 o0 o1 : Int) :
    Gen.arrayCenter (Gen.arrayExtent s0 s1 o0 o1).1 (Gen.arrayExtent s0 s1 o0 o1).2.1 (Gen.arrayExtent s0 s1 o0 o1).2.2.1
      (Gen.arrayExtent s0 s1 o0 o1).2.2.2 = (o0, o1) := by
  simp only [Gen.arrayCenter, Gen.arrayExtent, Prod.mk.injEq]; omega

theorem arrayExtent_valid (s0 s1 o0 o1 : Int) (h : 0 < s0 ∧ 0 < s1) :
    (arrayExtent s0 s1 o0 o1).rmin ≤ (arrayExtent s0 s1 o0 o1).rmax ∧ (arrayExtent s0 s1 o0 o1).cmin ≤ (arrayExtent s0 s1 o0 o1).cmax := by
  rw [arrayExtent_eq]; simp only; omega

theorem intersectionShift_eq_center (a b : Extent) : intersectionShift a b = arrayCenter (intersectionExtent a b) := rfl

theorem intersectionSlices_eq_extent (a b : Extent) :
    intersectionSlices a b =
      ((((intersectionExtent a b).rmin - a.rmin, (intersectionExtent a b).rmax - a.rmin + 1),
        ((intersectionExtent a b).cmin - a.cmin, (intersectionExtent a b).cmax - a.cmin + 1)),
       (((intersectionExtent a b).rmin - b.rmin, (intersectionExtent a b).rmax - b.rmin + 1),
        ((intersectionExtent a b).cmin - b.cmin, (intersectionExtent a b).cmax - b.cmin + 1))) := rfl

theorem intersectionShape_eq_extent (a b : Extent) :
    intersectionShape a b =
      if decide ((intersectionExtent a b).rmax - (intersectionExtent a b).rmin + 1 ≤ 0) ||
         decide ((intersectionExtent a b).cmax - (intersectionExtent a b).cmin + 1 ≤ 0) then none
      else some ((intersectionExtent a b).rmax - (intersectionExtent a b).rmin + 1,
                 (intersectionExtent a b).cmax - (intersectionExtent a b).cmin + 1) := rfl

theorem intersectionExtent_bounds (a b : Extent) :
    (a.rmin ≤ (intersectionExtent a b).rmin ∧ b.rmin ≤ (intersectionExtent a b).rmin ∧
      (intersectionExtent a b).rmax ≤ a.rmax ∧ (intersectionExtent a b).rmax ≤ b.rmax) ∧
    (a.cmin ≤ (intersectionExtent a b).cmin ∧ b.cmin ≤ (intersectionExtent a b).cmin ∧
      (intersectionExtent a b).cmax ≤ a.cmax ∧ (intersectionExtent a b).cmax ≤ b.cmax) := by
  rw [intersectionExtent_eq]
  exact ⟨⟨Int.le_max_left .., Int.le_max_right .., Int.min_le_left .., Int.min_le_right ..⟩,
    Int.le_max_left .., Int.le_max_right .., Int.min_le_left .., Int.min_le_right ..⟩

theorem intersect_iff_inter_valid (a b : Extent) (ha : a.rmin ≤ a.rmax ∧ a.cmin ≤ a.cmax)
    (hb : b.rmin ≤ b.rmax ∧ b.cmin ≤ b.cmax) :
    intersect a b = true ↔ (intersectionExtent a b).rmin ≤ (intersectionExtent a b).rmax ∧
      (intersectionExtent a b).cmin ≤ (intersectionExtent a b).cmax := by
  rw [intersect_eq_true_iff, intersectionExtent_eq]; simp only [Int.max_le, Int.le_min]; omega

theorem inter_roundtrip (a b : Extent) :
    arrayExtent (intersectionExtent a b).nrow (intersectionExtent a b).ncol (intersectionShift a b).1 (intersectionShift a b).2
      = intersectionExtent a b := arrayExtent_center _

theorem inter_shape_pos (a b : Extent) (ha : a.rmin ≤ a.rmax ∧ a.cmin ≤ a.cmax) (hb : b.rmin ≤ b.rmax ∧ b.cmin ≤ b.cmax)
    (h : intersect a b = true) : 0 < (intersectionExtent a b).nrow ∧ 0 < (intersectionExtent a b).ncol := by
  have := (intersect_iff_inter_valid a b ha hb).mp h
  simp only [Extent.nrow, Extent.ncol]; omega

theorem intersectionShape_of_valid (a b : Extent)
    (ha : a.rmin ≤ a.rmax ∧ a.cmin ≤ a.cmax) (hb : b.rmin ≤ b.rmax ∧ b.cmin ≤ b.cmax) :
    intersectionShape a b =
      if intersect a b then some ((intersectionExtent a b).nrow, (intersectionExtent a b).ncol) else none := by
  have hv := intersect_iff_inter_valid a b ha hb
  rw [intersectionShape_eq_extent]
  generalize intersectionExtent a b = e at hv ⊢
  have hg : (decide (e.rmax - e.rmin + 1 ≤ 0) || decide (e.cmax - e.cmin + 1 ≤ 0)) = !intersect a b := by
    rw [Bool.eq_iff_iff, Bool.not_eq_true', ← Bool.not_eq_true, hv, Bool.or_eq_true, decide_eq_true_eq, decide_eq_true_eq]
    omega
  rw [hg]
  cases intersect a b <;> rfl

theorem intersectionShape_some (a b : Extent) (ha : a.rmin ≤ a.rmax ∧ a.cmin ≤ a.cmax) (hb : b.rmin ≤ b.rmax ∧ b.cmin ≤ b.cmax)
    (h : intersect a b = true) :
    intersectionShape a b = some ((intersectionExtent a b).nrow, (intersectionExtent a b).ncol) := by
  rw [intersectionShape_of_valid a b ha hb, h]; rfl

theorem intersectionShape_pos (a b : Extent) (p : Int × Int) (h : intersectionShape a b = some p) : 0 < p.1 ∧ 0 < p.2 := by
  rw [intersectionShape_eq_extent, Option.ite_none_left_eq_some, Bool.or_eq_true, decide_eq_true_eq, decide_eq_true_eq,
    Option.some.injEq] at h
  obtain ⟨hc, rfl⟩ := h
  simp only
  omega

theorem inter_inb (a b : Extent) (r c : Int) :
    (intersectionExtent a b).inb r c = (a.inb r c && b.inb r c) := by
  rw [Bool.eq_iff_iff, Bool.and_eq_true, Extent.inb_iff, Extent.inb_iff, Extent.inb_iff, intersectionExtent_eq]
  simp only [Int.max_le, Int.le_min]; omega

theorem not_intersect_inb (a b : Extent) (h : intersect a b = false) (r c : Int) :
    (a.inb r c && b.inb r c) = false := by
  rw [← Bool.not_eq_true, intersect_eq_true_iff] at h
  rw [← Bool.not_eq_true, Bool.and_eq_true, Extent.inb_iff, Extent.inb_iff]; omega

/-- the product array of `Fld.mulArr` (shape of the `a` slice, offset the intersection shift) occupies the intersection extent -/
theorem mulArr_extent (a b : Extent) :
    arrayExtent ((intersectionSlices a b).1.1.2 - (intersectionSlices a b).1.1.1)
                ((intersectionSlices a b).1.2.2 - (intersectionSlices a b).1.2.1)
                (intersectionShift a b).1 (intersectionShift a b).2 = intersectionExtent a b := by
  rw [intersectionSlices_eq_extent, intersectionShift_eq_center]
  have hs : ∀ x y m : Int, x - m + 1 - (y - m) = x - y + 1 := by intros; omega
  simp only [hs]
  exact arrayExtent_center _

/-! ### translation covariance -/

/-- an extent moved by (d0, d1) pixels -/
def Extent.shift (e : Extent) (d0 d1 : Int) : Extent := ⟨e.rmin + d0, e.rmax + d0, e.cmin + d1, e.cmax + d1⟩

theorem arrayExtent_translate (s0 s1 o0 o1 d0 d1 : Int) :
    arrayExtent s0 s1 (o0 + d0) (o1 + d1) = (arrayExtent s0 s1 o0 o1).shift d0 d1 := by
  rw [arrayExtent_eq, arrayExtent_eq]; simp only [Extent.shift, Extent.mk.injEq]; omega

theorem intersect_translate (a b : Extent) (d0 d1 : Int) :
    intersect (a.shift d0 d1) (b.shift d0 d1) = intersect a b := by
  rw [Bool.eq_iff_iff, intersect_eq_true_iff, intersect_eq_true_iff]; simp only [Extent.shift]; omega

theorem intersectionExtent_translate (a b : Extent) (d0 d1 : Int) :
    intersectionExtent (a.shift d0 d1) (b.shift d0 d1) = (intersectionExtent a b).shift d0 d1 := by
  rw [intersectionExtent_eq, intersectionExtent_eq]
  simp only [Extent.shift, Int.max_add_right, Int.min_add_right]

theorem intersectionSlices_translate (a b : Extent) (d0 d1 : Int) :
    intersectionSlices (a.shift d0 d1) (b.shift d0 d1) = intersectionSlices a b := by
  rw [intersectionSlices_eq_extent, intersectionSlices_eq_extent, intersectionExtent_translate]
  simp only [Extent.shift, Prod.mk.injEq]; omega

theorem intersectionShift_translate (a b : Extent) (d0 d1 : Int) :
    intersectionShift (a.shift d0 d1) (b.shift d0 d1) = ((intersectionShift a b).1 + d0, (intersectionShift a b).2 + d1) := by
  rw [intersectionShift_eq_center, intersectionShift_eq_center, intersectionExtent_translate, arrayCenter_eq, arrayCenter_eq]
  simp only [Extent.shift, Prod.mk.injEq]; omega

theorem Extent.shift_inb (e : Extent) (d0 d1 r c : Int) : (e.shift d0 d1).inb r c = e.inb (r - d0) (c - d1) := by
  rw [Bool.eq_iff_iff, Extent.inb_iff, Extent.inb_iff]; simp only [Extent.shift]; omega

end Lentil
