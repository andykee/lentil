import LentilVerif.Model.Geometry
/-! The index arithmetic of the array helpers in closed form: `pad` in coordinates relative to the origin sample `⌊n/2⌋` (`pad2_get`), the searches
behind `boundary`, `boundary_slice` and `slice_offset`, `subarray` and the window views. Core Lean only (`omega`): the field-algebra and FFT lemmas
import this module. -/
namespace Lentil

theorem inWin_iff (lo hi i : Int) : inWin lo hi i = true ↔ lo ≤ i ∧ i < hi := by
  unfold inWin; simp only [Bool.and_eq_true, decide_eq_true_eq]

/-- per-axis closed form of the pad index block: (src start, src stop, dst start, dst stop) -/
def padAxis (m S : Int) : Int × Int × Int × Int :=
  if S - m ≤ 0 then (m / 2 - S / 2, m / 2 - S / 2 + S, 0, S) else (0, m, S / 2 - m / 2, S / 2 - m / 2 + m)

theorem padIdx2_eq (m0 m1 S0 S1 : Int) :
    Gen.padIdx2 m0 m1 S0 S1 =
      (((padAxis m0 S0).1, (padAxis m0 S0).2.1, (padAxis m1 S1).1, (padAxis m1 S1).2.1),
       ((padAxis m0 S0).2.2.1, (padAxis m0 S0).2.2.2, (padAxis m1 S1).2.2.1, (padAxis m1 S1).2.2.2)) := by
  unfold Gen.padIdx2 padAxis
  by_cases h0 : S0 - m0 ≤ 0 <;> by_cases h1 : S1 - m1 ≤ 0 <;> simp [h0, h1]

theorem padIdx3_eq_padIdx2 (d m0 m1 S0 S1 : Int) : Gen.padIdx3 d m0 m1 S0 S1 = Gen.padIdx2 m0 m1 S0 S1 := rfl

theorem padAxis_bounds (m S : Int) (hm : 0 ≤ m) (hS : 0 ≤ S) :
    0 ≤ (padAxis m S).1 ∧ (padAxis m S).1 ≤ (padAxis m S).2.1 ∧ (padAxis m S).2.1 ≤ m ∧
    0 ≤ (padAxis m S).2.2.1 ∧ (padAxis m S).2.2.1 ≤ (padAxis m S).2.2.2 ∧ (padAxis m S).2.2.2 ≤ S ∧
    (padAxis m S).2.1 - (padAxis m S).1 = (padAxis m S).2.2.2 - (padAxis m S).2.2.1 := by
  unfold padAxis; split <;> simp only <;> omega

/-- destination index `i` is copied iff its centre-relative coordinate `i - S/2` is a source coordinate, and then from the sample with the
same coordinate -/
theorem padAxis_centre (m S i : Int) (hi0 : 0 ≤ i) (hi1 : i < S) :
    (inWin (padAxis m S).2.2.1 (padAxis m S).2.2.2 i = inWin 0 m (i - S / 2 + m / 2)) ∧
    (inWin 0 m (i - S / 2 + m / 2) = true → i - (padAxis m S).2.2.1 + (padAxis m S).1 = i - S / 2 + m / 2) := by
  unfold padAxis
  split
  · refine ⟨?_, ?_⟩
    · rw [Bool.eq_iff_iff, inWin_iff, inWin_iff]; simp only; omega
    · intro _; simp only; omega
  · refine ⟨?_, ?_⟩
    · rw [Bool.eq_iff_iff, inWin_iff, inWin_iff]; simp only; omega
    · rw [inWin_iff]; intro _; simp only; omega

theorem Cube.slice_get {K : Type} (a : Cube K) (k i j : Int) : (a.slice k).get i j = a.get k i j := rfl

section Pad
variable {K : Type} [Zero K]

theorem Arr.centred_of_mem (a : Arr K) {r c : Int} (hr : 0 ≤ r + a.s0 / 2 ∧ r + a.s0 / 2 < a.s0)
    (hc : 0 ≤ c + a.s1 / 2 ∧ c + a.s1 / 2 < a.s1) : a.centred r c = a.get (r + a.s0 / 2) (c + a.s1 / 2) := by
  unfold Arr.centred; rw [(inWin_iff ..).2 hr, (inWin_iff ..).2 hc]; rfl

theorem Arr.get_eq_centred (a : Arr K) {i j : Int} (hi : 0 ≤ i ∧ i < a.s0) (hj : 0 ≤ j ∧ j < a.s1) :
    a.get i j = a.centred (i - a.s0 / 2) (j - a.s1 / 2) := by
  rw [Arr.centred_of_mem a (by omega) (by omega), Int.sub_add_cancel, Int.sub_add_cancel]

theorem pad2_get (a : Arr K) (S0 S1 i j : Int) (hi : 0 ≤ i ∧ i < S0) (hj : 0 ≤ j ∧ j < S1) :
    (pad2 a S0 S1).get i j = a.centred (i - S0 / 2) (j - S1 / 2) := by
  obtain ⟨r1, r2⟩ := padAxis_centre a.s0 S0 i hi.1 hi.2
  obtain ⟨c1, c2⟩ := padAxis_centre a.s1 S1 j hj.1 hj.2
  unfold pad2 Arr.centred
  rw [padIdx2_eq]
  simp only [r1, c1]
  exact ite_congr rfl (fun g => by rw [Bool.and_eq_true] at g; rw [r2 g.1, c2 g.2]) (fun _ => rfl)

theorem pad2_centred (a : Arr K) (S0 S1 : Int) {r c : Int} (hr : 0 ≤ r + S0 / 2 ∧ r + S0 / 2 < S0) (hc : 0 ≤ c + S1 / 2 ∧ c + S1 / 2 < S1) :
    (pad2 a S0 S1).centred r c = a.centred r c := by
  rw [Arr.centred_of_mem (pad2 a S0 S1) hr hc]
  change (pad2 a S0 S1).get (r + S0 / 2) (c + S1 / 2) = _
  rw [pad2_get a S0 S1 _ _ hr hc, Int.add_sub_cancel, Int.add_sub_cancel]

theorem pad3_slice (a : Cube K) (S0 S1 k : Int) : (pad3 a S0 S1).slice k = pad2 (a.slice k) S0 S1 := by
  simp only [pad3, pad2, Cube.slice, padIdx3_eq_padIdx2]
  rfl

end Pad

theorem anyBelow_eq_any (p : Nat → Bool) : ∀ n, anyBelow n p = (List.range n).any p
  | 0 => rfl
  | n + 1 => by
    rw [anyBelow, anyBelow_eq_any p n, List.range_succ, List.any_append, List.any_cons, List.any_nil, Bool.or_false, Bool.or_comm]

theorem anyBelow_iff (n : Nat) (p : Nat → Bool) : anyBelow n p = true ↔ ∃ k, k < n ∧ p k = true := by
  simp only [anyBelow_eq_any, List.any_eq_true, List.mem_range]

theorem firstTrue_eq_find? (p : Nat → Bool) : ∀ n, firstTrue n p = (List.range n).find? p
  | 0 => rfl
  | n + 1 => by
    rw [firstTrue, firstTrue_eq_find? p n, List.range_succ, List.find?_append, List.find?_singleton]
    cases (List.range n).find? p <;> rfl

theorem firstTrue_none (n : Nat) (p : Nat → Bool) (h : firstTrue n p = none) : ∀ i, i < n → p i = false := by
  rw [firstTrue_eq_find?, List.find?_range_eq_none] at h
  exact fun i hi => by simpa using h i hi

theorem firstTrue_some (n : Nat) (p : Nat → Bool) (k : Nat) (h : firstTrue n p = some k) :
    k < n ∧ p k = true ∧ ∀ i, i < n → p i = true → k ≤ i := by
  rw [firstTrue_eq_find?, List.find?_range_eq_some] at h
  exact ⟨List.mem_range.1 h.2.1, h.1, fun i _ hp => Nat.le_of_not_lt fun hik => by simpa [hp] using h.2.2 i hik⟩

theorem lastTrue_none (n : Nat) (p : Nat → Bool) (h : lastTrue n p = none) : ∀ i, i < n → p i = false := by
  induction n with
  | zero => intro i hi; omega
  | succ n ih =>
    simp only [lastTrue] at h
    by_cases hp : p n = true
    · simp [hp] at h
    · simp only [hp] at h
      intro i hi
      by_cases e : i = n
      · subst e; simpa using hp
      · exact ih (by simpa using h) i (by omega)

theorem lastTrue_some (n : Nat) (p : Nat → Bool) (k : Nat) (h : lastTrue n p = some k) :
    k < n ∧ p k = true ∧ ∀ i, i < n → p i = true → i ≤ k := by
  induction n with
  | zero => simp [lastTrue] at h
  | succ n ih =>
    simp only [lastTrue] at h
    by_cases hp : p n = true
    · simp only [hp, if_true, Option.some.injEq] at h; subst h
      exact ⟨by omega, hp, fun i hi _ => by omega⟩
    · simp only [hp] at h
      obtain ⟨a, b, c⟩ := ih (by simpa using h)
      refine ⟨by omega, b, fun i hi hpi => ?_⟩
      by_cases e : i = n
      · subst e; exact absurd hpi hp
      · exact c i (by omega) hpi

theorem firstTrue_exists {n : Nat} {p : Nat → Bool} {i : Nat} (hi : i < n) (hp : p i = true) : ∃ k, firstTrue n p = some k := by
  cases h : firstTrue n p with
  | none => rw [firstTrue_none n p h i hi] at hp; cases hp
  | some k => exact ⟨k, rfl⟩

theorem lastTrue_exists {n : Nat} {p : Nat → Bool} {i : Nat} (hi : i < n) (hp : p i = true) : ∃ k, lastTrue n p = some k := by
  cases h : lastTrue n p with
  | none => rw [lastTrue_none n p h i hi] at hp; cases hp
  | some k => exact ⟨k, rfl⟩

theorem boundary_bbox (x : Arr Bool) (b : Extent) (h : boundary x = some b) :
    (0 ≤ b.rmin ∧ b.rmin ≤ b.rmax ∧ b.rmax < x.s0 ∧ 0 ≤ b.cmin ∧ b.cmin ≤ b.cmax ∧ b.cmax < x.s1) ∧
    (∀ i j : Nat, (i : Int) < x.s0 → (j : Int) < x.s1 → x.get i j = true →
      b.rmin ≤ i ∧ (i : Int) ≤ b.rmax ∧ b.cmin ≤ j ∧ (j : Int) ≤ b.cmax) ∧
    (∃ j : Nat, (j : Int) < x.s1 ∧ x.get b.rmin j = true) ∧ (∃ j : Nat, (j : Int) < x.s1 ∧ x.get b.rmax j = true) ∧
    (∃ i : Nat, (i : Int) < x.s0 ∧ x.get i b.cmin = true) ∧ (∃ i : Nat, (i : Int) < x.s0 ∧ x.get i b.cmax = true) := by
  unfold boundary at h
  split at h
  · rename_i r0 r1 c0 c1 h1 h2 h3 h4
    cases h
    obtain ⟨a1, a2, a3⟩ := firstTrue_some _ _ _ h1
    obtain ⟨b1, b2, b3⟩ := lastTrue_some _ _ _ h2
    obtain ⟨d1, d2, d3⟩ := firstTrue_some _ _ _ h3
    obtain ⟨e1, e2, e3⟩ := lastTrue_some _ _ _ h4
    have rle := b3 r0 a1 a2
    have cle := e3 c0 d1 d2
    simp only
    refine ⟨⟨by omega, by omega, by omega, by omega, by omega, by omega⟩, fun i j hi hj hx => ?_, ?_, ?_, ?_, ?_⟩
    · have hr : rowAny x i = true := (anyBelow_iff _ _).2 ⟨j, by omega, hx⟩
      have hc : colAny x j = true := (anyBelow_iff _ _).2 ⟨i, by omega, hx⟩
      have := a3 i (by omega) hr; have := b3 i (by omega) hr
      have := d3 j (by omega) hc; have := e3 j (by omega) hc
      omega
    · obtain ⟨j, hj, hx⟩ := (anyBelow_iff _ _).1 a2; exact ⟨j, by omega, hx⟩
    · obtain ⟨j, hj, hx⟩ := (anyBelow_iff _ _).1 b2; exact ⟨j, by omega, hx⟩
    · obtain ⟨i, hi, hx⟩ := (anyBelow_iff _ _).1 d2; exact ⟨i, by omega, hx⟩
    · obtain ⟨i, hi, hx⟩ := (anyBelow_iff _ _).1 e2; exact ⟨i, by omega, hx⟩
  · cases h

theorem sliceOffset_eq (r0 r1 c0 c1 S0 S1 : Int) :
    Gen.sliceOffset r0 r1 c0 c1 S0 S1 = (r0 + (r1 - r0) / 2 - S0 / 2, c0 + (c1 - c0) / 2 - S1 / 2) := by
  unfold Gen.sliceOffset
  simp only
  split
  · rename_i h
    simp only [Bool.and_eq_true, decide_eq_true_eq] at h
    simp only [Prod.mk.injEq]; omega
  · rfl

theorem boundarySlice_spec (rmin rmax cmin cmax S0 S1 p0 p1 : Int)
    (hb : 0 ≤ rmin ∧ rmin ≤ rmax ∧ rmax < S0 ∧ 0 ≤ cmin ∧ cmin ≤ cmax ∧ cmax < S1) (hp : 0 ≤ p0 ∧ 0 ≤ p1) :
    let sl := Gen.boundarySlice rmin rmax cmin cmax S0 S1 p0 p1
    (0 ≤ sl.1.1 ∧ sl.1.1 ≤ rmin ∧ rmax < sl.1.2 ∧ sl.1.2 ≤ S0 ∧ 0 ≤ sl.2.1 ∧ sl.2.1 ≤ cmin ∧ cmax < sl.2.2 ∧ sl.2.2 ≤ S1) ∧
    (sl.1.1 = 0 ∨ sl.1.1 = rmin - p0) ∧ (sl.1.2 = S0 ∨ sl.1.2 = rmax + p0 + 1) ∧
    (sl.2.1 = 0 ∨ sl.2.1 = cmin - p1) ∧ (sl.2.2 = S1 ∨ sl.2.2 = cmax + p1 + 1) ∧
    (rmin - p0 ≤ sl.1.1 ∧ sl.1.2 ≤ rmax + p0 + 1 ∧ cmin - p1 ≤ sl.2.1 ∧ sl.2.2 ≤ cmax + p1 + 1) := by
  simp only [Gen.boundarySlice]
  omega

theorem boundarySlice_pad0 (rmin rmax cmin cmax S0 S1 : Int) (h : 0 ≤ rmin ∧ rmax < S0 ∧ 0 ≤ cmin ∧ cmax < S1) :
    Gen.boundarySlice rmin rmax cmin cmax S0 S1 0 0 = ((rmin, rmax + 1), (cmin, cmax + 1)) := by
  simp only [Gen.boundarySlice, Prod.mk.injEq]
  omega

/-- a window `[r0,r1) × [c0,c1)` carried as a field with offset `slice_offset` occupies exactly the pixels it was cut from (coordinates
relative to the parent's `⌊n/2⌋` origin) -/
theorem sliceOffset_extent (r0 r1 c0 c1 S0 S1 : Int) :
    arrayExtent (r1 - r0) (c1 - c0) (Gen.sliceOffset r0 r1 c0 c1 S0 S1).1 (Gen.sliceOffset r0 r1 c0 c1 S0 S1).2
      = ⟨r0 - S0 / 2, r1 - 1 - S0 / 2, c0 - S1 / 2, c1 - 1 - S1 / 2⟩ := by
  rw [sliceOffset_eq]
  simp only [arrayExtent, Gen.arrayExtent, Extent.ofT, Extent.mk.injEq]
  omega

section Windows
variable {K : Type}

theorem subarray_eq (a : Arr K) (h w o0 o1 : Int) :
    subarray a h w o0 o1 =
      if a.s0 / 2 - h / 2 + o0 < 0 ∨ a.s1 / 2 - w / 2 + o1 < 0 ∨ a.s0 / 2 - h / 2 + o0 + h > a.s0 ∨ a.s1 / 2 - w / 2 + o1 + w > a.s1
      then .error "ValueError"
      else .ok ⟨h, w, fun i j => a.get (i - h / 2 + o0 + a.s0 / 2) (j - w / 2 + o1 + a.s1 / 2)⟩ := by
  have e : ∀ x y : Int, x + y - x = y := fun x y => by omega
  have g : ∀ i x y z : Int, i + (x - y + z) = i - y + z + x := fun i x y z => by omega
  simp only [subarray, Gen.subarrayIdx, Bool.or_eq_true, decide_eq_true_eq, or_assoc]
  by_cases c : a.s0 / 2 - h / 2 + o0 < 0 ∨ a.s1 / 2 - w / 2 + o1 < 0 ∨ a.s0 / 2 - h / 2 + o0 + h > a.s0 ∨ a.s1 / 2 - w / 2 + o1 + w > a.s1
  · rw [if_pos c, if_pos c]
  · rw [if_neg c, if_neg c]; simp only [e, g]

theorem sliceBound_inside {n lo hi : Int} (h : 0 ≤ lo ∧ lo ≤ hi ∧ hi ≤ n) : sliceBound n lo = lo ∧ sliceBound n hi = hi ∧ ¬ hi < lo := by
  unfold sliceBound; refine ⟨?_, ?_, by omega⟩ <;> split <;> split <;> omega

theorem viewSlice_inside (a : Arr K) {r0 r1 c0 c1 : Int} (hr : 0 ≤ r0 ∧ r0 ≤ r1 ∧ r1 ≤ a.s0) (hc : 0 ≤ c0 ∧ c0 ≤ c1 ∧ c1 ≤ a.s1) :
    viewSlice a r0 r1 c0 c1 = ⟨r1 - r0, c1 - c0, fun i j => a.get (r0 + i) (c0 + j)⟩ := by
  obtain ⟨b0, e0, n0⟩ := sliceBound_inside hr
  obtain ⟨b1, e1, n1⟩ := sliceBound_inside hc
  simp only [viewSlice, b0, e0, b1, e1, if_neg n0, if_neg n1]

theorem viewSlice3_inside (a : Cube K) {r0 r1 c0 c1 : Int} (hr : 0 ≤ r0 ∧ r0 ≤ r1 ∧ r1 ≤ a.s0) (hc : 0 ≤ c0 ∧ c0 ≤ c1 ∧ c1 ≤ a.s1) :
    viewSlice3 true a r0 r1 c0 c1 = ⟨a.d, r1 - r0, c1 - c0, fun k i j => a.get k (r0 + i) (c0 + j)⟩ := by
  obtain ⟨b0, e0, n0⟩ := sliceBound_inside hr
  obtain ⟨b1, e1, n1⟩ := sliceBound_inside hc
  simp only [viewSlice3, if_true, b0, e0, b1, e1, if_neg n0, if_neg n1]

/-- the decision tree of `util.window` in closed form: a one-element input wins over everything, then `slice` over `shape` -/
theorem windowAct_eq (size : Int) (shNone slNone : Bool) (sh : Int × Int) (sl : Int × Int × Int × Int) :
    Gen.windowAct size shNone slNone sh sl =
      if size = 1 then .whole
      else if slNone = false then
        (if shNone = true ∨ (sl.2.1 - sl.1 = sh.1 ∧ sl.2.2.2 - sl.2.2.1 = sh.2)
         then .view sl.1 sl.2.1 sl.2.2.1 sl.2.2.2 else .refuse)
      else if shNone = true then .whole else .pad sh.1 sh.2 := by
  unfold Gen.windowAct
  by_cases h1 : size = 1
  · simp [h1]
  · cases shNone <;> cases slNone <;> simp [h1]
    by_cases ha : sl.2.1 - sl.1 = sh.1 <;> by_cases hb : sl.2.2.2 - sl.2.2.1 = sh.2 <;> simp [ha, hb]

theorem window_eq [Zero K] (a : Arr K) (shape : Option (Int × Int)) (slice : Option (Int × Int × Int × Int)) :
    window a shape slice =
      if a.s0 * a.s1 = 1 then .ok a else
      match slice, shape with
      | none, none => .ok a
      | none, some (S0, S1) => .ok (pad2 a S0 S1)
      | some (r0, r1, c0, c1), none => .ok (viewSlice a r0 r1 c0 c1)
      | some (r0, r1, c0, c1), some (S0, S1) =>
        if r1 - r0 = S0 ∧ c1 - c0 = S1 then .ok (viewSlice a r0 r1 c0 c1) else .error "AssertionError" := by
  unfold window
  rw [windowAct_eq]
  by_cases h : a.s0 * a.s1 = 1
  · simp [h]
  · cases shape <;> cases slice <;> simp [h]
    rename_i S s
    by_cases hc : s.2.1 - s.1 = S.1 ∧ s.2.2.2 - s.2.2.1 = S.2 <;> simp [hc]

theorem window3_eq [Zero K] (a : Cube K) (shape : Option (Int × Int)) (slice : Option (Int × Int × Int × Int)) :
    window3 a shape slice =
      if a.d * a.s0 * a.s1 = 1 then .ok a else
      match slice, shape with
      | none, none => .ok a
      | none, some (S0, S1) => .ok (pad3 a S0 S1)
      | some (r0, r1, c0, c1), none => .ok (viewSlice3 true a r0 r1 c0 c1)
      | some (r0, r1, c0, c1), some (S0, S1) =>
        if r1 - r0 = S0 ∧ c1 - c0 = S1 then .ok (viewSlice3 true a r0 r1 c0 c1) else .error "AssertionError" := by
  unfold window3
  rw [windowAct_eq]
  by_cases h : a.d * a.s0 * a.s1 = 1
  · simp [h]
  · cases shape <;> cases slice <;> simp [h, Gen.windowSliceAxesFromEnd]
    rename_i S s
    by_cases hc : s.2.1 - s.1 = S.1 ∧ s.2.2.2 - s.2.2.1 = S.2 <;> simp [hc]

theorem window3Shape_eq [Zero K] (a : Cube K) (S0 S1 : Int) :
    window3Shape a S0 S1 = .ok (if a.d * a.s0 * a.s1 = 1 then a else pad3 a S0 S1) := by
  unfold window3Shape
  rw [windowAct_eq]
  by_cases h : a.d * a.s0 * a.s1 = 1 <;> simp [h]

end Windows

end Lentil
