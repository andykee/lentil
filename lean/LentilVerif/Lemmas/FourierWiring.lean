import LentilVerif.Lemmas.Fourier
import LentilVerif.Model.FourierOut
/-! The hand model of `fourier.py` follows the wiring regenerated from the source (`Gen/FourierWiring.lean`), and the `out=`
path of `dft2` and `idft2` in closed form (both decide by `outcome`). Kept apart from Lemmas/Fourier.lean, which the blur and fft
lemmas import too, so that only the properties resting on C01 depend on the regenerated wiring. -/
open Finset
namespace Lentil

/-- `np.exp(1j · φ)` for a real phase `φ` (the phase `c · π · t` itself is regenerated: `Gen.fwExpPhase1/2`) -/
noncomputable def srcExp (φ : ℝ) : ℂ := Complex.exp (Complex.I * (φ : ℂ))

/-- the right-hand side is the shape the regenerated wiring has once its definitions are unfolded: `np.exp(-2 · 1j · π · t)` with
`t = α · (x − ⌊m/2⌋ + off) · (u − ⌊M/2⌋ − s)`; both matrices `E1`, `E2` are instances -/
theorem dftKernel_eq_srcExp (α : ℝ) (m M off : ℤ) (s : ℝ) (x u : ℤ) :
    (dftKernel α m M off s x u : ℂ)
      = srcExp (((-2 : ℤ) : ℝ) * Real.pi * (α * (((x - m / 2 + off : ℤ) : ℝ) * (((u - M / 2 : ℤ) : ℝ) - s)))) := by
  rw [dftKernel_eq]
  unfold ker srcExp cc
  refine congrArg _ ?_
  push_cast
  ring

theorem dft2Default_eq (f : Arr ℂ) (αr αc : ℝ) : dft2Default f αr αc = dft2 f αr αc f.s0 f.s1 0 0 0 0 true := by
  simp only [dft2Default, Gen.fwDft2ShapeDefault, Gen.fwDft2DefaultShift, Gen.fwDft2DefaultOffset, Gen.fwDft2DefaultUnitary,
    RealLike.ofInt, Int.cast_zero]

theorem idft2Default_eq (F : Arr ℂ) (αr αc : ℝ) : idft2Default F αr αc = idft2 F αr αc F.s0 F.s1 0 0 true := by
  simp only [idft2Default, Gen.fwDft2ShapeDefault, Gen.fwIdft2DefaultShift, Gen.fwIdft2DefaultUnitary, RealLike.ofInt, Int.cast_zero]

/-! ## the `out=` path -/

/-- what a call with `out=b` makes of its `(M, N)` result `r`: `dft2`'s dtype guard first, then `np.dot`'s acceptance, then `r`
is written into `b`, which is the returned object -/
def outcome {K : Type} (b : OutBuf K) (M N : ℤ) (r : Arr K) : OutCall K :=
  if b.dtype.canCastComplex = true then
    if dotAccepts b M N = true then .ok r (some r) true else .valueError
  else .typeError

theorem outcome_spec {K : Type} (b : OutBuf K) (M N : ℤ) (r : Arr K) :
    (b.dtype.canCastComplex = false → outcome b M N r = OutCall.typeError) ∧
    (b.dtype.canCastComplex = true → dotAccepts b M N = false → outcome b M N r = OutCall.valueError) ∧
    (b.dtype.canCastComplex = true → dotAccepts b M N = true → outcome b M N r = OutCall.ok r (some r) true) :=
  ⟨fun h => if_neg (ne_true_of_eq_false h), fun h h' => (if_pos h).trans (if_neg (ne_true_of_eq_false h')),
    fun h h' => (if_pos h).trans (if_pos h')⟩

theorem dft2Out_some (f : Arr ℂ) (αr αc : ℝ) (M N : ℤ) (shr shc : ℝ) (offr offc : ℤ) (unitary : Bool) (b : OutBuf ℂ) :
    dft2Out f αr αc M N shr shc offr offc unitary (some b) = outcome b M N (dft2 f αr αc M N shr shc offr offc unitary) := by
  simp only [dft2Out, outcome, Gen.fwOutRefused, Gen.fwOutResultIsBuffer]
  cases b.dtype.canCastComplex <;> cases dotAccepts b M N <;> rfl

/-- `idft2` hands `out` on to `dft2` and then conjugates and divides the returned array in place (the regenerated flags) -/
theorem idft2Out_some (F : Arr ℂ) (αr αc : ℝ) (M N : ℤ) (shr shc : ℝ) (unitary : Bool) (b : OutBuf ℂ) :
    idft2Out F αr αc M N shr shc unitary (some b) = outcome b M N (idft2 F αr αc M N shr shc unitary) := by
  simp only [idft2Out, Gen.fwIdft2PassesOut, Gen.fwIdft2Offset, Gen.fwIdft2ConjInPlace, Gen.fwIdft2DivideInPlace, if_true,
    Bool.or_true, Bool.and_true, dft2Out_some, outcome]
  cases b.dtype.canCastComplex <;> cases dotAccepts b M N <;> rfl

theorem dotAccepts_iff {K : Type} (b : OutBuf K) (M N : ℤ) :
    dotAccepts b M N = true ↔ b.dtype = BufDtype.complex128 ∧ b.writeable = true ∧
        ∃ s t, b.shape = [M, N] ∧ b.strides = [s, t] ∧ (N = 1 ∨ t = 1) ∧ (M = 1 ∨ s = N) := by
  unfold dotAccepts
  split
  · rename_i a c s t hs ht
    simp only [hs, ht, cContiguous2, Bool.and_eq_true, Bool.or_eq_true, beq_iff_eq, List.cons.injEq, and_true, and_assoc]
    constructor
    · rintro ⟨hd, hw, rfl, rfl, h1, h2⟩; exact ⟨hd, hw, s, t, rfl, rfl, rfl, rfl, h1, h2⟩
    · rintro ⟨hd, hw, s, t, rfl, rfl, rfl, rfl, h1, h2⟩; exact ⟨hd, hw, rfl, rfl, h1, h2⟩
  · rename_i h
    simp only [Bool.and_false, Bool.false_eq_true, false_iff, not_and, not_exists]
    intro _ _ s t hs ht
    exact (h _ _ _ _ hs ht).elim

/-- a buffer `np.dot` accepts is complex128, so it has passed `dft2`'s guard: acceptance alone decides -/
theorem outcome_ok_iff {K : Type} (b : OutBuf K) (M N : ℤ) (r : Arr K) :
    (∃ r' a t, outcome b M N r = OutCall.ok r' a t) ↔ b.dtype = BufDtype.complex128 ∧ b.writeable = true ∧
        ∃ s t, b.shape = [M, N] ∧ b.strides = [s, t] ∧ (N = 1 ∨ t = 1) ∧ (M = 1 ∨ s = N) := by
  rw [← dotAccepts_iff]
  constructor
  · rintro ⟨r', a, t, h⟩
    unfold outcome at h
    split_ifs at h with hc ha
    exact ha
  · intro h
    have hc : b.dtype.canCastComplex = true := by rw [((dotAccepts_iff b M N).mp h).1]; rfl
    exact ⟨r, some r, true, (outcome_spec b M N r).2.2 hc h⟩

end Lentil
