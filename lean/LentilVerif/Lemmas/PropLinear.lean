import LentilVerif.Model.PropSeg
import LentilVerif.Lemmas.PlaneAlg
import LentilVerif.Lemmas.Sums
/-! `dft2` of a field with its own offset, written over *global* coordinates: the kernel depends on the sample index only
through `cc m x + off`, the sample's position on the infinite plane, so zero padding (any box around the field) does not
change the result and the summed transforms of a list of fields depend only on their total embedded field
(`dft2_total_congr`). At the end the common-shift propagation `propagateDftCommon` in closed form. -/
namespace Lentil
open Finset

variable {K : Type}

theorem exists_box (l : List (Fld K)) :
    ∃ (R0 : Int) (H : Nat) (C0 : Int) (W : Nat), ∀ f ∈ l,
      R0 ≤ f.extent.rmin ∧ f.extent.rmax < R0 + H ∧ C0 ≤ f.extent.cmin ∧ f.extent.cmax < C0 + W := by
  induction l with
  | nil => exact ⟨0, 0, 0, 0, by simp⟩
  | cons f l ih =>
    obtain ⟨R0, H, C0, W, h⟩ := ih
    refine ⟨min R0 f.extent.rmin, (max (R0 + H) (f.extent.rmax + 1) - min R0 f.extent.rmin).toNat,
            min C0 f.extent.cmin, (max (C0 + W) (f.extent.cmax + 1) - min C0 f.extent.cmin).toNat, ?_⟩
    exact List.forall_mem_cons.mpr ⟨by omega, fun g hg => by have := h g hg; omega⟩

theorem shape_nonneg_of_pos {l : List (Fld K)} (h : ∀ f ∈ l, 0 < f.arr.s0 ∧ 0 < f.arr.s1) : ∀ f ∈ l, 0 ≤ f.arr.s0 ∧ 0 ≤ f.arr.s1 :=
  fun f hf => (h f hf).imp le_of_lt le_of_lt

section dft
variable {R : Type} [Sub R] [Mul R] [Neg R] [RealLike R] [NonUnitalNonAssocSemiring K] [CxLike K R]

/-- the DFT kernel as a function of the global coordinate of the input sample -/
def gKernel (α : R) (M : Int) (shift : R) (u : Int) (r : Int) : K :=
  CxLike.expI (-(RealLike.twoPi * α * RealLike.ofInt r * (RealLike.ofInt (cc M u) - shift)))

omit [NonUnitalNonAssocSemiring K] in
theorem dftKernel_eq_gKernel (α : R) (m M off : Int) (sh : R) (x u : Int) :
    (dftKernel α m M off sh x u : K) = gKernel α M sh u (-(m / 2) + off + x) := by
  unfold dftKernel gKernel cc
  rw [show x - m / 2 + off = -(m / 2) + off + x by omega]

/-- the (unscaled) transform of an embedded field `E` summed over a box of the infinite plane -/
def boxDft (E : Int → Int → K) (αr αc : R) (M N : Int) (shr shc : R) (u v : Int) (R0 : Int) (H : Nat) (C0 : Int) (W : Nat) : K :=
  ∑ l ∈ range W, (∑ k ∈ range H, (gKernel αr M shr u (R0 + k) : K) * E (R0 + k) (C0 + l)) * gKernel αc N shc v (C0 + l)

theorem dft2_eq_boxDft (f : Fld K) (hpos : 0 ≤ f.arr.s0 ∧ 0 ≤ f.arr.s1) (αr αc : R) (M N : Int) (shr shc : R) (u v : Int)
    (R0 : Int) (H : Nat) (C0 : Int) (W : Nat)
    (hb : R0 ≤ f.extent.rmin ∧ f.extent.rmax < R0 + H ∧ C0 ≤ f.extent.cmin ∧ f.extent.cmax < C0 + W) :
    (dft2 f.arr αr αc M N shr shc f.o0 f.o1 false).get u v = boxDft (fun r c => f.emb r c) αr αc M N shr shc u v R0 H C0 W := by
  have hext : f.extent = ⟨-(f.arr.s0 / 2) + f.o0, -(f.arr.s0 / 2) + f.o0 + f.arr.s0 - 1,
      -(f.arr.s1 / 2) + f.o1, -(f.arr.s1 / 2) + f.o1 + f.arr.s1 - 1⟩ := arrayExtent_eq _ _ _ _
  rw [hext] at hb; simp only at hb
  have hemb := f.emb_apply
  unfold boxDft dft2
  simp only [Bool.false_eq_true, if_false, sumRange_eq, dftKernel_eq_gKernel]
  rw [sum_window2 (gKernel αr M shr u) (gKernel αc N shc v) (fun r c => f.emb r c) (-(f.arr.s0 / 2) + f.o0) (-(f.arr.s1 / 2) + f.o1)
    f.arr.s0.toNat f.arr.s1.toNat R0 C0 H W ⟨by omega, by omega⟩ ⟨by omega, by omega⟩
    (fun r c h => by rw [hemb, if_neg (by omega)]) (fun r c h => by rw [hemb, if_neg (by omega)])]
  refine sum_congr rfl fun y hy => congrArg (· * _) (sum_congr rfl fun x hx => congrArg (_ * ·) ?_)
  rw [mem_range] at hx hy
  rw [hemb, if_pos (by omega)]
  congr 1 <;> omega

theorem boxDft_add (E1 E2 : Int → Int → K) (αr αc : R) (M N : Int) (shr shc : R) (u v : Int) (R0 : Int) (H : Nat) (C0 : Int) (W : Nat) :
    boxDft (fun r c => E1 r c + E2 r c) αr αc M N shr shc u v R0 H C0 W
      = boxDft E1 αr αc M N shr shc u v R0 H C0 W + boxDft E2 αr αc M N shr shc u v R0 H C0 W := by
  simp only [boxDft, mul_add, add_mul, sum_add_distrib]

theorem sum_dft2_eq_boxDft (l : List (Fld K)) (hpos : ∀ f ∈ l, 0 ≤ f.arr.s0 ∧ 0 ≤ f.arr.s1) (αr αc : R) (M N : Int) (shr shc : R)
    (u v : Int) (R0 : Int) (H : Nat) (C0 : Int) (W : Nat)
    (hb : ∀ f ∈ l, R0 ≤ f.extent.rmin ∧ f.extent.rmax < R0 + H ∧ C0 ≤ f.extent.cmin ∧ f.extent.cmax < C0 + W) :
    sumList l (fun f => (dft2 f.arr αr αc M N shr shc f.o0 f.o1 false).get u v)
      = boxDft (fun r c => sumList l (fun f => f.emb r c)) αr αc M N shr shc u v R0 H C0 W := by
  induction l with
  | nil => simp [boxDft]
  | cons f l ih =>
    simp only [sumList_cons]
    rw [ih (fun g hg => hpos g (List.mem_cons_of_mem _ hg)) (fun g hg => hb g (List.mem_cons_of_mem _ hg)),
        dft2_eq_boxDft f (hpos f (List.mem_cons_self ..)) αr αc M N shr shc u v R0 H C0 W (hb f (List.mem_cons_self ..)),
        ← boxDft_add]

theorem dft2_total_congr (A B : List (Fld K)) (hA : ∀ f ∈ A, 0 ≤ f.arr.s0 ∧ 0 ≤ f.arr.s1) (hB : ∀ f ∈ B, 0 ≤ f.arr.s0 ∧ 0 ≤ f.arr.s1)
    (htot : ∀ r c, sumList A (fun f => f.emb r c) = sumList B (fun f => f.emb r c))
    (αr αc : R) (M N : Int) (shr shc : R) (un : Bool) (u v : Int) :
    sumList A (fun f => (dft2 f.arr αr αc M N shr shc f.o0 f.o1 un).get u v)
      = sumList B (fun f => (dft2 f.arr αr αc M N shr shc f.o0 f.o1 un).get u v) := by
  obtain ⟨R0, H, C0, W, hbox⟩ := exists_box (A ++ B)
  have key : sumList A (fun f => (dft2 f.arr αr αc M N shr shc f.o0 f.o1 false).get u v)
      = sumList B (fun f => (dft2 f.arr αr αc M N shr shc f.o0 f.o1 false).get u v) := by
    rw [sum_dft2_eq_boxDft A hA αr αc M N shr shc u v R0 H C0 W (fun f hf => hbox f (List.mem_append_left _ hf)),
        sum_dft2_eq_boxDft B hB αr αc M N shr shc u v R0 H C0 W (fun f hf => hbox f (List.mem_append_right _ hf))]
    simp only [htot]
  cases un with
  | false => exact key
  | true =>
    have hscale : ∀ f : Fld K, (dft2 f.arr αr αc M N shr shc f.o0 f.o1 true).get u v
        = (dft2 f.arr αr αc M N shr shc f.o0 f.o1 false).get u v * CxLike.ofReal (RealLike.sqrt (RealLike.abs (αr * αc))) := by
      intro f; unfold dft2; simp
    simp only [hscale]
    rw [sumList_mul_right, sumList_mul_right, key]

theorem dftFields_total_congr (A B : List (Fld K)) (hA : ∀ f ∈ A, 0 ≤ f.arr.s0 ∧ 0 ≤ f.arr.s1) (hB : ∀ f ∈ B, 0 ≤ f.arr.s0 ∧ 0 ≤ f.arr.s1)
    (htot : ∀ r c, sumList A (fun f => f.emb r c) = sumList B (fun f => f.emb r c))
    (αr αc : R) (M N : Int) (shr shc : R) (un : Bool) (o0 o1 r c : Int) :
    sumList A (fun f => (Fld.mk (dft2 f.arr αr αc M N shr shc f.o0 f.o1 un) o0 o1).emb r c)
      = sumList B (fun f => (Fld.mk (dft2 f.arr αr αc M N shr shc f.o0 f.o1 un) o0 o1).emb r c) := by
  show sumList A (fun f => embAt (arrayExtent M N o0 o1) (dft2 f.arr αr αc M N shr shc f.o0 f.o1 un).get r c)
     = sumList B (fun f => embAt (arrayExtent M N o0 o1) (dft2 f.arr αr αc M N shr shc f.o0 f.o1 un).get r c)
  unfold embAt
  split
  · exact dft2_total_congr A B hA hB htot αr αc M N shr shc un _ _
  · rw [sumList_zero, sumList_zero]

variable [Add R] in
/-- one shift for all fields means one window for the whole list, so the result is `data.map` of one `dft2`: the form in which
`propagateDftNoTilt` (Model/PropSeg.lean) is written, with `sub` added to the shift -/
theorem propagateDftCommon_eq (data : List (Fld K)) (αr αc : R) (S0 S1 P0 P1 os : Int) (mask : Option Extent)
    (fix0 fix1 : Int) (sub0 sub1 : R) :
    propagateDftCommon data αr αc S0 S1 P0 P1 os mask fix0 fix1 sub0 sub1 =
      match dftWindow (outExtent (S0 * os) (S1 * os) mask) (P0 * os) (P1 * os) fix0 fix1 with
      | none => []
      | some (ish, isf, ps) => data.map fun f =>
          { arr := dft2 f.arr αr αc ish.1 ish.2 (RealLike.ofInt ps.1 + sub0) (RealLike.ofInt ps.2 + sub1) f.o0 f.o1 true,
            o0 := isf.1, o1 := isf.2 } := by
  unfold propagateDftCommon propagateDft propagateField
  simp only [List.filterMap_map, Gen.dftShapeOut, Gen.dftPropShapeOut, Function.comp_def]
  cases dftWindow (outExtent (S0 * os) (S1 * os) mask) (P0 * os) (P1 * os) fix0 fix1 with
  | none => exact List.filterMap_eq_nil_iff.mpr fun _ _ => rfl
  | some w => exact congrFun List.filterMap_eq_map' data

end dft

end Lentil
