import LentilVerif.Lemmas.Fft
import LentilVerif.Lemmas.Fourier
import Mathlib.Analysis.Real.Sqrt
import Mathlib.Analysis.SpecialFunctions.Trigonometric.Basic
import Mathlib.Analysis.SpecialFunctions.Complex.Log
/-! The instantiation `K = ℂ`, `R = ℝ` for C09 (the scalar instances are in Lemmas/Fourier.lean): `FftLike ℝ` — `np.round` half to even — with
what C09 needs of the rounding (an integer is its own rounding, hence the grids of the two non-vacuity instances; it is monotone), and the
two analytic hypotheses of the generic FFT = DFT theorem: `exp(-2 pi i t/n)` is `n`-periodic in the integer `t`,
`1/sqrt(ab) = sqrt|1/a · 1/b|`. -/
namespace Lentil
open Complex

/-- `np.round(x).astype(int)` (half to even) and `np.min` of two reals, at `R = ℝ` -/
noncomputable instance instFftLikeReal : FftLike ℝ :=
  ⟨fun x => if x - ⌊x⌋ < 1 / 2 then ⌊x⌋ else if 1 / 2 < x - ⌊x⌋ then ⌊x⌋ + 1 else if ⌊x⌋ % 2 = 0 then ⌊x⌋ else ⌊x⌋ + 1, min, fun a b => decide (b < a)⟩

theorem gt_real (a b : ℝ) : FftLike.gt a b = true ↔ b < a := by
  show decide (b < a) = true ↔ b < a
  exact decide_eq_true_iff

theorem roundEven_real_eq (x : ℝ) : (FftLike.roundEven x : Int) =
    if x - ⌊x⌋ < 1 / 2 then ⌊x⌋ else if 1 / 2 < x - ⌊x⌋ then ⌊x⌋ + 1 else if ⌊x⌋ % 2 = 0 then ⌊x⌋ else ⌊x⌋ + 1 := rfl

theorem roundEven_real_intCast (n : ℤ) : (FftLike.roundEven (n : ℝ) : Int) = n := by
  rw [roundEven_real_eq, Int.floor_intCast, sub_self, if_pos (by norm_num)]

theorem roundEven_real_bounds (x : ℝ) : ⌊x⌋ ≤ (FftLike.roundEven x : Int) ∧ (FftLike.roundEven x : Int) ≤ ⌊x⌋ + 1 := by
  rw [roundEven_real_eq]; split_ifs <;> omega

theorem roundEven_real_frac (x : ℝ) :
    ((FftLike.roundEven x : Int) = ⌊x⌋ + 1 → 1 / 2 ≤ x - ⌊x⌋ ∧ (x - ⌊x⌋ = 1 / 2 → ⌊x⌋ % 2 ≠ 0)) ∧
    ((FftLike.roundEven x : Int) = ⌊x⌋ → x - ⌊x⌋ ≤ 1 / 2 ∧ (x - ⌊x⌋ = 1 / 2 → ⌊x⌋ % 2 = 0)) := by
  rw [roundEven_real_eq]
  split_ifs with h1 h2 h3
  · exact ⟨fun h => by omega, fun _ => ⟨h1.le, fun h => absurd h h1.ne⟩⟩
  · exact ⟨fun _ => ⟨h2.le, fun h => absurd h.symm h2.ne⟩, fun h => by omega⟩
  · exact ⟨fun h => by omega, fun _ => ⟨not_lt.mp h2, fun _ => h3⟩⟩
  · exact ⟨fun _ => ⟨not_lt.mp h1, fun _ => h3⟩, fun h => by omega⟩

theorem roundEven_real_mono (a b : ℝ) (h : a ≤ b) : (FftLike.roundEven a : Int) ≤ FftLike.roundEven b := by
  have ha := roundEven_real_bounds a
  have hb := roundEven_real_bounds b
  rcases lt_or_eq_of_le (Int.floor_le_floor h) with hlt | heq
  · omega
  · -- same floor: otherwise `a` is rounded up and `b` is not, so both fractional parts are a half and the parity decides both ways
    by_contra hlt
    obtain ⟨h1, h2⟩ := (roundEven_real_frac a).1 (by omega)
    obtain ⟨h3, h4⟩ := (roundEven_real_frac b).2 (by omega)
    rw [← heq] at h3 h4
    exact h2 (le_antisymm ((sub_le_sub_right h _).trans h3) h1) (h4 (le_antisymm h3 (h1.trans (sub_le_sub_right h _))))

theorem min_real (a b : ℝ) : FftLike.min a b = min a b := rfl

theorem fftShape_half_example : fftShape (1/2 : ℝ) (1/2) (1/2) (1/2) 1 1 1 = (4, 4) := by
  have h4 : ((RealLike.ofInt 1 : ℝ) / ((1/2 : ℝ) * (1/2) / (1 * 1 * RealLike.ofInt 1))) = ((4 : ℤ) : ℝ) := by
    simp only [RealLike.ofInt]; norm_num
  rw [fftShape_eq, h4, roundEven_real_intCast]

theorem fftShape_aniso_example : fftShape (1/2 : ℝ) (1/2) (1/2) (1/4) 1 1 1 = (4, 8) := by
  have h4 : ((RealLike.ofInt 1 : ℝ) / ((1/2 : ℝ) * (1/2) / (1 * 1 * RealLike.ofInt 1))) = ((4 : ℤ) : ℝ) := by
    simp only [RealLike.ofInt]; norm_num
  have h8 : ((RealLike.ofInt 1 : ℝ) / ((1/2 : ℝ) * (1/4) / (1 * 1 * RealLike.ofInt 1))) = ((8 : ℤ) : ℝ) := by
    simp only [RealLike.ofInt]; norm_num
  rw [fftShape_eq, h4, h8, roundEven_real_intCast, roundEven_real_intCast]

theorem rootPeriodic_complex : RootPeriodic ℂ ℝ := by
  intro n a b h
  show Complex.exp (((-(2 * Real.pi * ((a : ℤ) : ℝ) / ((n : ℤ) : ℝ)) : ℝ) : ℂ) * I) =
    Complex.exp (((-(2 * Real.pi * ((b : ℤ) : ℝ) / ((n : ℤ) : ℝ)) : ℝ) : ℂ) * I)
  by_cases hn : n = 0
  · subst hn; simp at h; rw [h]
  · obtain ⟨k, hk⟩ : n ∣ a - b := Int.ModEq.dvd (show b ≡ a [ZMOD n] from h.symm)
    rw [Complex.exp_eq_exp_iff_exists_int]
    refine ⟨-k, ?_⟩
    have hnc : (n : ℂ) ≠ 0 := by exact_mod_cast hn
    have ha : (a : ℂ) = b + n * k := by exact_mod_cast eq_add_of_sub_eq' hk
    push_cast
    rw [ha]; field_simp; ring

/-- `hnorm` of `C09.fft_path_is_unitary_dft` at ℝ: the `ortho` scale of `fft2` on an `a × b` grid is the unitary norm of `dft2` at
`alpha = (1/a, 1/b)` -/
theorem one_div_sqrt_mul_eq_sqrt_abs (a b : ℤ) (ha : 0 < a) (hb : 0 < b) :
    (RealLike.ofInt 1 : ℝ) / RealLike.sqrt (RealLike.ofInt (a * b)) = RealLike.sqrt (RealLike.abs (1 / (a : ℝ) * (1 / (b : ℝ)))) := by
  show (((1 : ℤ) : ℝ)) / Real.sqrt ((a * b : ℤ) : ℝ) = Real.sqrt |1 / (a : ℝ) * (1 / (b : ℝ))|
  have ha' : (0 : ℝ) < a := by exact_mod_cast ha
  have hb' : (0 : ℝ) < b := by exact_mod_cast hb
  rw [abs_of_pos (by positivity)]
  push_cast
  rw [one_div_mul_one_div, one_div, one_div, Real.sqrt_inv]

end Lentil
