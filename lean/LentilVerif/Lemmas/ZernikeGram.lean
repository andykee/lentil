import LentilVerif.Lemmas.ZernikeRadial
import Mathlib.RingTheory.Polynomial.Pochhammer
import Mathlib.Analysis.SpecialFunctions.Integrals.Basic
/-! Radial orthogonality of the Zernike polynomials for all orders: as an identity between rationals,
`gramQ n n' m = δ_{nn'} / (2(n+1))` (`gramQ_eq`), and as the integral `∫₀¹ R_n^m R_n'^m ρ dρ` of the model's radial polynomials
(`radial_integral_eq`).

With `s = (n-m)/2` the coefficient of `ρ^(n-2k)` is `(-1)^k C(s,k) · C(n-k,s)`, the alternating binomial weight times a polynomial of degree
`s` in `k`. Integrating `R_n^m` against `ρ^(m+2j) ρ` therefore gives a sum `Σ_k (-1)^k C(s,k) P(k) / (x - k)`, which Lagrange interpolation on
the nodes `0, …, s` evaluates to a multiple of `P(x)` (`alternating_choose_sum_eval_div`); here `P(x) = 0` for `j < s`. So `R_n^m` is
orthogonal to every `ρ^(m+2j)`, `j < s`, hence to every `R_n'^m` of lower order, and the one surviving moment gives the diagonal. -/
namespace Lentil

/-- `∫₀¹ R_n^m(ρ) R_n'^m(ρ) ρ dρ` as an exact rational: term by term, `∫₀¹ ρ^a ρ^b ρ dρ = 1/(a+b+2)` -/
def gramQ (n n' m : Nat) : Rat :=
  ((List.range ((n - m) / 2 + 1)).map fun k =>
    ((List.range ((n' - m) / 2 + 1)).map fun l =>
      ((radialCoeff n m k * radialCoeff n' m l : Int) : Rat) /
        (((n - 2 * k + n' - 2 * l + 2 : Nat) : Int) : Rat)).foldl (· + ·) 0).foldl (· + ·) 0

section Rational
open Finset Polynomial Nat

/-- the `s`-th forward difference of a polynomial of degree `< s` vanishes -/
theorem alternating_choose_sum_eval (P : ℚ[X]) (s : ℕ) (h : P.natDegree < s) :
    ∑ k ∈ range (s + 1), (-1 : ℚ) ^ k * s.choose k * P.eval (k : ℚ) = 0 := by
  have h0 := congrFun (Polynomial.fwdDiff_iter_eq_zero_of_degree_lt h) 0
  rw [fwdDiff_iter_eq_sum_shift] at h0
  simp only [zsmul_eq_mul, Int.cast_mul, Int.cast_pow, Int.cast_neg, Int.cast_one, Int.cast_natCast, zero_add,
    nsmul_eq_mul, mul_one, Pi.zero_apply] at h0
  rw [← mul_zero ((-1 : ℚ) ^ s), ← h0, mul_sum]
  refine sum_congr rfl fun k hk => ?_
  rw [← pow_sub_mul_pow (-1 : ℚ) (Nat.lt_succ_iff.1 (mem_range.1 hk))]
  have : ((-1 : ℚ) ^ (s - k)) * (-1) ^ (s - k) = 1 := by rw [← mul_pow]; simp
  linear_combination (-(-1 : ℚ) ^ k * s.choose k * P.eval (k : ℚ)) * this

/-- write `P = P(x) + (X - x) q`; `q` has degree `< s` and drops out -/
theorem alternating_choose_sum_eval_div_aux (P : ℚ[X]) (s : ℕ) (h : P.natDegree ≤ s) (x : ℚ) (hx : ∀ k ≤ s, x ≠ k) :
    ∑ k ∈ range (s + 1), (-1 : ℚ) ^ k * s.choose k * P.eval (k : ℚ) / (x - k)
      = P.eval x * ∑ k ∈ range (s + 1), (-1 : ℚ) ^ k * s.choose k / (x - k) := by
  obtain ⟨q, hq⟩ := X_sub_C_dvd_sub_C_eval (a := x) (p := P)
  have hq0 : ∑ k ∈ range (s + 1), (-1 : ℚ) ^ k * s.choose k * q.eval (k : ℚ) = 0 := by
    by_cases q0 : q = 0
    · simp [q0]
    · apply alternating_choose_sum_eval
      have := natDegree_sub_C (p := P) (a := P.eval x)
      rw [hq, natDegree_mul (X_sub_C_ne_zero x) q0, natDegree_X_sub_C] at this
      omega
  rw [mul_sum, ← add_zero (∑ k ∈ range (s + 1), _), ← hq0, ← sum_add_distrib]
  refine sum_congr rfl fun k hk => ?_
  have hk' : x - k ≠ 0 := sub_ne_zero.2 (hx k (Nat.lt_succ_iff.1 (mem_range.1 hk)))
  have e := congrArg (eval (k : ℚ)) hq
  simp only [eval_sub, eval_C, eval_mul, eval_X] at e
  generalize (-1 : ℚ) ^ k * s.choose k = w
  field_simp
  linear_combination w * e

theorem descPochhammer_eval_neg_one (s : ℕ) : (descPochhammer ℚ s).eval (-1) = (-1) ^ s * s ! := by
  have h := ascPochhammer_eval_neg_eq_descPochhammer (R := ℚ) (-1) s
  rw [neg_neg, ascPochhammer_eval_one] at h
  rw [h, ← mul_assoc, ← mul_pow]
  simp

/-- partial fractions on the nodes `0, …, s`: the previous lemma with the polynomial `(X-1)(X-2)⋯(X-s)`, which vanishes at every node
but `0` -/
theorem alternating_choose_sum_inv (s : ℕ) (x : ℚ) (hx : ∀ k ≤ s, x ≠ k) :
    ∑ k ∈ range (s + 1), (-1 : ℚ) ^ k * s.choose k / (x - k) = (-1) ^ s * s ! / ∏ i ∈ range (s + 1), (x - i) := by
  have hP : ((descPochhammer ℚ s).comp (X - 1)).natDegree ≤ s := by
    rw [natDegree_comp, descPochhammer_natDegree, ← C_1, natDegree_X_sub_C, mul_one]
  have A := alternating_choose_sum_eval_div_aux _ s hP x hx
  rw [sum_eq_single_of_mem 0 (mem_range.2 s.succ_pos)] at A
  · simp only [pow_zero, Nat.choose_zero_right, Nat.cast_one, Nat.cast_zero, one_mul, sub_zero, eval_comp, eval_sub, eval_X,
      eval_one, zero_sub, descPochhammer_eval_neg_one] at A
    have hx0 : x ≠ 0 := by simpa using hx 0 s.zero_le
    have hd : (descPochhammer ℚ s).eval (x - 1) ≠ 0 := by
      rw [descPochhammer_eval_eq_prod_range, prod_ne_zero_iff]
      intro j hj
      have := hx (1 + j) (by have := mem_range.1 hj; omega)
      rw [sub_sub, sub_ne_zero]
      exact_mod_cast this
    rw [← descPochhammer_eval_eq_prod_range, descPochhammer_succ_left, eval_mul, eval_X, eval_comp, eval_sub, eval_X, eval_one,
      eq_div_iff (mul_ne_zero hx0 hd)]
    rw [div_eq_iff hx0] at A
    linear_combination -A
  · intro k hk k0
    rw [eval_comp, eval_sub, eval_X, eval_one, ← Nat.cast_pred (Nat.pos_of_ne_zero k0),
      descPochhammer_eval_coe_nat_of_lt (by have := mem_range.1 hk; omega), mul_zero, zero_div]

theorem alternating_choose_sum_eval_div (P : ℚ[X]) (s : ℕ) (h : P.natDegree ≤ s) (x : ℚ) (hx : ∀ k ≤ s, x ≠ k) :
    ∑ k ∈ range (s + 1), (-1 : ℚ) ^ k * s.choose k * P.eval (k : ℚ) / (x - k)
      = (-1) ^ s * s ! * P.eval x / ∏ i ∈ range (s + 1), (x - i) := by
  rw [alternating_choose_sum_eval_div_aux P s h x hx, alternating_choose_sum_inv s x hx, mul_div_assoc', mul_comm]

/-- the moments `∫₀¹ R_n^m ρ^(m+2j) ρ dρ`, `n = m + 2s`, `j ≤ s`: the denominator is `2(x - k)` with `x = m+s+j+1`, and `s! · C(n-k, s)` is the
polynomial `(n-k)(n-k-1)⋯(n-k-s+1)` in `k`; at `k = x` its value is `(s-j-1)(s-j-2)⋯(-j)`, with a factor `0` unless `j = s` -/
theorem radial_moment (m s j : ℕ) (hj : j ≤ s) :
    ∑ k ∈ range (s + 1), ((radialCoeff (m + 2 * s) m k : ℤ) : ℚ) / ((m + 2 * s - 2 * k + (m + 2 * j) + 2 : ℕ) : ℚ)
      = if j = s then 1 / (2 * (m + 2 * s + 1 : ℕ) * ((m + 2 * s).choose s : ℚ)) else 0 := by
  set P : ℚ[X] := (descPochhammer ℚ s).comp (C ((m + 2 * s : ℕ) : ℚ) - X) with hP
  have hdeg : P.natDegree ≤ s := by
    refine natDegree_comp_le.trans ?_
    rw [descPochhammer_natDegree]
    exact mul_le_of_le_one_right s.zero_le (natDegree_sub_le_of_le (natDegree_C _).le natDegree_X_le)
  have hx : ∀ k ≤ s, ((m + s + j + 1 : ℕ) : ℚ) ≠ k := fun k hk => by
    rw [Ne, Nat.cast_inj]
    omega
  have hs0 : (s ! : ℚ) ≠ 0 := Nat.cast_ne_zero.2 s.factorial_ne_zero
  have hterm : ∀ k ∈ range (s + 1),
      ((radialCoeff (m + 2 * s) m k : ℤ) : ℚ) / ((m + 2 * s - 2 * k + (m + 2 * j) + 2 : ℕ) : ℚ)
        = (2 * (s ! : ℚ))⁻¹ * ((-1 : ℚ) ^ k * s.choose k * P.eval (k : ℚ) / (((m + s + j + 1 : ℕ) : ℚ) - k)) := by
    intro k hk
    have hk' : k ≤ s := Nat.lt_succ_iff.1 (mem_range.1 hk)
    rw [radialCoeff_add_two_mul m s k hk', hP, eval_comp, eval_sub, eval_C, eval_X, ← Nat.cast_sub (show k ≤ m + 2 * s by omega),
      descPochhammer_eval_eq_descFactorial, Nat.descFactorial_eq_factorial_mul_choose,
      ← Nat.cast_sub (show k ≤ m + s + j + 1 by omega),
      show m + 2 * s - 2 * k + (m + 2 * j) + 2 = 2 * (m + s + j + 1 - k) by omega]
    push_cast
    -- both sides are `w / (2d)` up to the factor `s! · (s!)⁻¹`
    linear_combination
      (-((-1 : ℚ) ^ k * (s.choose k * (m + 2 * s - k).choose s) / (2 * (m + s + j + 1 - k : ℕ)))) * mul_inv_cancel₀ hs0
  rw [sum_congr rfl hterm, ← mul_sum, alternating_choose_sum_eval_div P s hdeg _ hx, hP, eval_comp, eval_sub, eval_C, eval_X]
  split_ifs with e
  · subst e
    rw [show ((m + 2 * j : ℕ) : ℚ) - ((m + j + j + 1 : ℕ) : ℚ) = -1 by push_cast; ring, descPochhammer_eval_neg_one,
      ← descPochhammer_eval_eq_prod_range, show m + j + j + 1 = m + 2 * j + 1 by omega, descPochhammer_eval_eq_descFactorial,
      Nat.descFactorial_eq_factorial_mul_choose, mul_assoc 2, ← Nat.cast_mul (m + 2 * j + 1), Nat.add_one_mul_choose_eq,
      Nat.factorial_succ]
    have h1 : (-1 : ℚ) ^ j * (-1) ^ j = 1 := by rw [← mul_pow]; simp
    have h3 : (((m + 2 * j + 1).choose (j + 1) : ℕ) : ℚ) ≠ 0 := Nat.cast_ne_zero.2 (Nat.choose_pos (by omega)).ne'
    push_cast
    field_simp
    linear_combination h1
  · rw [← Nat.cast_sub (by omega), descPochhammer_eval_coe_nat_of_lt (by omega), mul_zero, zero_div, mul_zero]

/-- the truncated subtractions in the denominators of `gramQ` sorted out once: `2k ≤ n` and `2l ≤ n'` in range -/
theorem gramQ_eq_sum (n n' m : ℕ) :
    gramQ n n' m = ∑ k ∈ range ((n - m) / 2 + 1), ∑ l ∈ range ((n' - m) / 2 + 1),
      ((radialCoeff n m k : ℤ) : ℚ) * ((radialCoeff n' m l : ℤ) : ℚ) / (((n - 2 * k) + (n' - 2 * l) + 2 : ℕ) : ℚ) := by
  unfold gramQ
  simp only [foldl_map_range, Int.cast_mul, Int.cast_natCast]
  refine sum_congr rfl fun k hk => sum_congr rfl fun l hl => ?_
  have := mem_range.1 hk
  have := mem_range.1 hl
  rw [show n - 2 * k + n' - 2 * l = (n - 2 * k) + (n' - 2 * l) by omega]

theorem gramQ_comm (n n' m : ℕ) : gramQ n n' m = gramQ n' n m := by
  rw [gramQ_eq_sum, gramQ_eq_sum, sum_comm]
  exact sum_congr rfl fun l _ => sum_congr rfl fun k _ => by rw [mul_comm, add_comm (n' - 2 * l)]

/-- summing over `k` first, the entry is `Σ_l b_l · (moment s' - l)`; all moments below `s` vanish, so only `s' = s`, `l = 0` is left,
where `b_0 = C(n, s)` -/
theorem gramQ_of_le (m s s' : ℕ) (h : s' ≤ s) :
    gramQ (m + 2 * s) (m + 2 * s') m = if s = s' then (1 : ℚ) / (2 * (m + 2 * s + 1 : ℕ)) else 0 := by
  have hs : ∀ t, (m + 2 * t - m) / 2 = t := fun t => by omega
  rw [gramQ_eq_sum, hs, hs, sum_comm]
  have inner : ∀ l ∈ range (s' + 1), ∑ k ∈ range (s + 1),
      ((radialCoeff (m + 2 * s) m k : ℤ) : ℚ) * ((radialCoeff (m + 2 * s') m l : ℤ) : ℚ) /
        (((m + 2 * s - 2 * k) + (m + 2 * s' - 2 * l) + 2 : ℕ) : ℚ)
      = ((radialCoeff (m + 2 * s') m l : ℤ) : ℚ) *
        if s' - l = s then 1 / (2 * (m + 2 * s + 1 : ℕ) * ((m + 2 * s).choose s : ℚ)) else 0 := by
    intro l hl
    have := mem_range.1 hl
    rw [← radial_moment m s (s' - l) (by omega), mul_sum, show m + 2 * s' - 2 * l = m + 2 * (s' - l) by omega]
    exact sum_congr rfl fun k _ => by ring
  rw [sum_congr rfl inner]
  split_ifs with e
  · subst e
    rw [sum_eq_single_of_mem 0 (mem_range.2 s.succ_pos) fun l hl l0 => by
        rw [if_neg (by have := mem_range.1 hl; omega), mul_zero],
      radialCoeff_add_two_mul m s 0 s.zero_le, if_pos s.sub_zero]
    have : (((m + 2 * s).choose s : ℕ) : ℚ) ≠ 0 := Nat.cast_ne_zero.2 (Nat.choose_pos (by omega)).ne'
    simp only [pow_zero, Nat.choose_zero_right, one_mul, Nat.sub_zero, Int.cast_natCast]
    field_simp
  · exact sum_eq_zero fun l hl => by rw [if_neg (by omega), mul_zero]

/-- the denominator is spelt with the casts ℕ → ℤ → ℚ because `C11.radial_gram` and `C11.GramUpTo` state it so; it is `2 * (n + 1)` (`gramQ_of_le`) -/
theorem gramQ_eq (n n' m : ℕ) (hm : m ≤ n) (hm' : m ≤ n') (h : (n - m) % 2 = 0) (h' : (n' - m) % 2 = 0) :
    gramQ n n' m = if n = n' then (1 : ℚ) / (((2 * (n + 1) : ℕ) : ℤ) : ℚ) else 0 := by
  wlog hle : n' ≤ n generalizing n n'
  · rw [gramQ_comm, this n' n hm' hm h' h (by omega)]
    by_cases e : n = n'
    · rw [e]
    · rw [if_neg e, if_neg (Ne.symm e)]
  obtain ⟨s, rfl⟩ : ∃ s, n = m + 2 * s := ⟨(n - m) / 2, by omega⟩
  obtain ⟨s', rfl⟩ : ∃ s', n' = m + 2 * s' := ⟨(n' - m) / 2, by omega⟩
  rw [gramQ_of_le m s s' (by omega)]
  by_cases e : s = s'
  · rw [if_pos e, if_pos (by rw [e]), Int.cast_natCast, Nat.cast_mul, Nat.cast_ofNat]
  · rw [if_neg e, if_neg (by omega)]

end Rational

section Integral
open Finset intervalIntegral

theorem integral_poly_mul (K L : ℕ) (a b : ℕ → ℝ) (e f : ℕ → ℕ) :
    ∫ x in (0 : ℝ)..1, (∑ k ∈ range K, a k * x ^ e k) * (∑ l ∈ range L, b l * x ^ f l) * x
      = ∑ k ∈ range K, ∑ l ∈ range L, a k * b l / ((e k + f l + 2 : ℕ) : ℝ) := by
  have hint : ∀ x : ℝ, (∑ k ∈ range K, a k * x ^ e k) * (∑ l ∈ range L, b l * x ^ f l) * x
      = ∑ k ∈ range K, ∑ l ∈ range L, (a k * b l) * x ^ (e k + f l + 1) := fun x => by
    rw [sum_mul_sum, sum_mul]
    exact sum_congr rfl fun k _ => (sum_mul _ _ _).trans (sum_congr rfl fun l _ => by ring)
  simp only [hint]
  rw [integral_finsetSum fun k _ => (by fun_prop : Continuous _).intervalIntegrable _ _]
  refine sum_congr rfl fun k _ => ?_
  rw [integral_finsetSum fun l _ => (by fun_prop : Continuous _).intervalIntegrable _ _]
  refine sum_congr rfl fun l _ => ?_
  rw [integral_const_mul, integral_pow, one_pow, zero_pow (Nat.succ_ne_zero _), sub_zero, mul_one_div]
  push_cast
  ring

theorem gramQ_eq_integral (n n' m : ℕ) (h : (n - m) % 2 = 0) (h' : (n' - m) % 2 = 0) :
    ((gramQ n n' m : ℚ) : ℝ) = ∫ x in (0 : ℝ)..1, radialEval n m x * radialEval n' m x * x := by
  simp only [radialEval_eq_sum n m h, radialEval_eq_sum n' m h', integral_poly_mul, gramQ_eq_sum]
  push_cast
  rfl

theorem radial_integral_eq (n n' m : ℕ) (hm : m ≤ n) (hm' : m ≤ n') (h : (n - m) % 2 = 0) (h' : (n' - m) % 2 = 0) :
    ∫ x in (0 : ℝ)..1, radialEval n m x * radialEval n' m x * x = if n = n' then 1 / (2 * ((n : ℝ) + 1)) else 0 := by
  rw [← gramQ_eq_integral n n' m h h', gramQ_eq n n' m hm hm' h h']
  split_ifs
  · push_cast; ring
  · simp

end Integral
end Lentil
