import LentilVerif.Model.FieldZ
import LentilVerif.Lemmas.Reduce
/-! The 0-d aware `reduceZ` (`Model/FieldZ.lean`) is `reduce` with the flags "data is 0-d" carried along: `disjointZ` simulates `disjoint`,
so its final groups are those of `reduce` on the underlying arrays, and each group's output has the cached extent and the summed
embedding of the group: what `reduceGroups_spec` asks for. At the end the public `merge` / `overlap` models with their generated
tests evaluated. -/
namespace Lentil
variable {K : Type}

/-! ### `disjointZ` is `disjoint` with flags carried along -/

theorem mergeGroupsZ_toG (a b : GroupZ K) : (mergeGroupsZ a b).toG = mergeGroups a.toG b.toG := by
  simp only [mergeGroupsZ, mergeGroups, GroupZ.toG, List.map_append, List.map_map]
  rfl

theorem disjointZ_eq_self (fuel : Nat) (gs : List (GroupZ K)) (h : firstPair (gs.map GroupZ.toG) = none) :
    disjointZ fuel gs = gs := by
  cases fuel with
  | zero => rfl
  | succ fuel => unfold disjointZ; simp only [h]

theorem disjointZ_succ_some (fuel : Nat) (gs : List (GroupZ K)) (m k : Nat) (hm : m < gs.length) (hk : k < gs.length)
    (h : firstPair (gs.map GroupZ.toG) = some (m, k)) :
    disjointZ (fuel + 1) gs = disjointZ fuel ((gs.set m (mergeGroupsZ gs[m] gs[k])).eraseIdx k) := by
  conv => lhs; unfold disjointZ
  have hst : Gen.disjointStep = (0, 1, 0, 1) := rfl
  simp only [h, hst, if_true, Int.reduceEq, if_false, List.getElem?_eq_getElem hm, List.getElem?_eq_getElem hk,
    List.getElem?_set_self hm, List.set_set, mergeGroupsZ]

theorem disjointZ_toG (fuel : Nat) (gs : List (GroupZ K)) :
    (disjointZ fuel gs).map GroupZ.toG = disjoint fuel (gs.map GroupZ.toG) := by
  induction fuel generalizing gs with
  | zero => rfl
  | succ fuel ih =>
    cases hfp : firstPair (gs.map GroupZ.toG) with
    | none =>
      rw [disjoint_eq_self _ _ hfp, disjointZ_eq_self _ gs hfp]
    | some mk =>
      obtain ⟨m, k⟩ := mk
      obtain ⟨hmk, hk, _⟩ := firstPair_some _ m k hfp
      rw [List.length_map] at hk
      have hm : m < gs.length := by omega
      rw [disjoint_succ_some fuel _ m k (by rw [List.length_map]; exact hm) (by rw [List.length_map]; exact hk) hfp]
      rw [disjointZ_succ_some fuel gs m k hm hk hfp]
      rw [ih, ← List.eraseIdx_map, List.map_set, mergeGroupsZ_toG, List.getElem_map, List.getElem_map]

/-- a statement about the flags, which `GroupZ.toG` forgets: it cannot be read off `disjointZ_toG` -/
theorem disjointZ_members (fuel : Nat) (gs : List (GroupZ K)) (Q : ZFld K → Prop)
    (h : ∀ g ∈ gs, ∀ z ∈ g.fields, Q z) : ∀ g ∈ disjointZ fuel gs, ∀ z ∈ g.fields, Q z := by
  induction fuel generalizing gs with
  | zero => exact h
  | succ fuel ih =>
    cases hfp : firstPair (gs.map GroupZ.toG) with
    | none => rw [disjointZ_eq_self _ gs hfp]; exact h
    | some mk =>
      obtain ⟨m, k⟩ := mk
      obtain ⟨hmk, hk, _⟩ := firstPair_some _ m k hfp
      rw [List.length_map] at hk
      rw [disjointZ_succ_some fuel gs m k (by omega) hk hfp]
      refine ih _ fun g hg z hz => ?_
      rcases List.mem_or_eq_of_mem_set (List.mem_of_mem_eraseIdx hg) with h1 | rfl
      · exact h g h1 z hz
      · exact (List.mem_append.mp hz).elim (h _ (List.getElem_mem _) z) (h _ (List.getElem_mem _) z)

/-! ### what `reduceZ` returns for one group -/

/-- closed form of `GroupZ.out` under the generated test `Gen.reduceMerges n = (n > 1)` -/
def GroupZ.outSpec [Add K] [Zero K] (g : GroupZ K) : Option (ZFld K) :=
  match g.fields with
  | [z] => some z
  | l => mergeZ l

theorem GroupZ.out_eq [Add K] [Zero K] (g : GroupZ K) : g.out = g.outSpec := by
  -- for zero, one, two or more members the generated size test evaluates
  obtain ⟨_ | ⟨a, _ | ⟨b, t⟩⟩, extent⟩ := g <;> simp [GroupZ.out, GroupZ.outSpec, Gen.reduceMerges]

theorem GroupZ.out_of_two_le [Add K] [Zero K] (g : GroupZ K) (h : 2 ≤ g.fields.length) : g.out = mergeZ g.fields := by
  rw [GroupZ.out_eq, GroupZ.outSpec]
  match g.fields, h with
  | _ :: _ :: _, _ => rfl

theorem reduceZ_eq [Add K] [Zero K] (zs : List (ZFld K)) :
    reduceZ zs = (disjointZ zs.length (zs.map GroupZ.single)).map GroupZ.out := rfl

theorem GroupZ.out_spec [AddMonoid K] (g : GroupZ K) (hg : g.toG.wf) (p : ZFld K) (h : g.out = some p) :
    p.fld.extent = g.extent ∧ ∀ r c, p.fld.emb r c = (g.toG.fields.map fun f => f.emb r c).sum := by
  rcases hg.ext with ⟨f, hf, he⟩ | ⟨hl, he⟩
  · obtain ⟨z, hz, rfl⟩ := List.map_eq_singleton_iff.mp hf
    rw [GroupZ.out_eq, GroupZ.outSpec, hz, Option.some.injEq] at h
    subst h
    exact ⟨he.symm, fun r c => by rw [GroupZ.toG, hz]; exact (List.sum_singleton).symm⟩
  · rw [GroupZ.toG, List.length_map] at hl
    rw [GroupZ.out_of_two_le g hl] at h
    obtain ⟨e1, e2⟩ := mergeZ_spec g.fields (fun z hz => hg.pos z.fld (List.mem_map_of_mem hz)) p h
    refine ⟨e1.trans (Eq.trans (by rw [GroupZ.toG, List.map_map]; rfl) he.symm), fun r c => ?_⟩
    rw [e2 r c, sumList_eq_sum, GroupZ.toG, List.map_map]; rfl

theorem GroupZ.out_isSome [Add K] [Zero K] (g : GroupZ K) : g.out.isSome = true := by
  rw [GroupZ.out_eq, GroupZ.outSpec]
  split
  · rfl
  · exact mergeZ_isSome _

theorem GroupZ.out_of_no_zd [Add K] [Zero K] (g : GroupZ K) (hz : ∀ z ∈ g.fields, z.zd = false) (p : Fld K)
    (h : g.toG.out = some p) : (g.out.map fun z => z.fld) = some p := by
  obtain ⟨fields, extent⟩ := g
  rw [GroupZ.out_eq]
  match fields, hz, h with
  | [z], _, h => exact h
  | [], hz, h | _ :: _ :: _, hz, h =>
    simp only [GroupZ.outSpec]
    rw [mergeZ_of_no_zd _ hz, Option.map_map]
    exact Option.map_id'.trans h

theorem reduceZ_groups_toG (zs : List (ZFld K)) :
    (disjointZ zs.length (zs.map GroupZ.single)).map GroupZ.toG =
      reduceGroups (zs.map fun z => z.fld) := by
  rw [disjointZ_toG, reduceGroups, List.length_map, List.map_map, List.map_map]
  rfl

/-- `reduceGroups_spec` for the 0-d aware outputs -/
theorem reduceZ_out_spec [AddCommMonoid K] (zs : List (ZFld K)) (hpos : ∀ z ∈ zs, 0 < z.fld.arr.s0 ∧ 0 < z.fld.arr.s1)
    (out : List (ZFld K)) (hout : reduceZ zs = out.map some) :
    (out.map fun z => z.fld).Pairwise (fun a b => intersect a.extent b.extent = false) ∧
    ∀ r c, sumList (out.map fun z => z.fld) (fun f => f.emb r c) = sumList (zs.map fun z => z.fld) (fun f => f.emb r c) := by
  have hwf : ∀ g ∈ disjointZ zs.length (zs.map GroupZ.single), g.toG.wf := fun g hg =>
    singles_disjoint_wf _ (List.forall_mem_map.mpr hpos) _ _ (reduceZ_groups_toG zs ▸ List.mem_map_of_mem hg)
  rw [reduceZ_eq] at hout
  apply reduceGroups_spec
  · rw [← reduceZ_groups_toG, List.map_map, List.map_map]
    exact map_eq_of_map_some hout _ _ fun g hg p hp => (GroupZ.out_spec g (hwf g hg) p hp).1
  · intro r c
    rw [← reduceZ_groups_toG, List.map_map, List.map_map]
    exact map_eq_of_map_some hout _ _ fun g hg p hp => (GroupZ.out_spec g (hwf g hg) p hp).2 r c

/-! ### the public `merge` / `overlap` models with the generated tests evaluated -/

theorem overlapL_two (a b : Fld K) : overlapL [a, b] = intersect a.extent b.extent := by
  simp [overlapL, Gen.overlapIsPair]

theorem overlapL_many [Add K] [Zero K] (fs : List (Fld K)) (h : fs.length ≠ 2) :
    overlapL fs = decide ((reduce fs).length ≤ 1) := by
  rw [reduce_eq, List.length_map]
  have h2 : ¬ ((fs.length : Int) = 2) := by omega
  simp only [overlapL, Gen.overlapIsPair, Gen.overlapManyFalse, h2, decide_false, Bool.false_eq_true, if_false]
  rw [Bool.eq_iff_iff]
  simp only [Bool.not_eq_true', decide_eq_false_iff_not, decide_eq_true_eq]
  have e : disjoint fs.length (fs.map fun f => ({ fields := [f], extent := f.extent } : Group K)) = reduceGroups fs := rfl
  rw [e]; omega

theorem mergePublic_eq [Add K] [Zero K] (a b : ZFld K) (enforce : Bool) :
    mergePublic a b enforce =
      if enforce = true ∧ intersect a.fld.extent b.fld.extent = false then none else mergeZ [a, b] := by
  unfold mergePublic
  rw [overlapL_two]
  cases enforce <;> cases intersect a.fld.extent b.fld.extent <;> simp [Gen.mergeRefuses, b2i]

end Lentil
