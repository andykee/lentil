import LentilVerif.Model.Field
import LentilVerif.Lemmas.Extent
import LentilVerif.Gen.FieldBroadcast
import Mathlib.Algebra.GroupWithZero.Defs
import Mathlib.Algebra.Ring.Defs
/-! A field (`Model/Field.lean`) on the infinite zero-padded plane: the algebra of the model's fold `sumList` (`sumList_cons`, `_append`, `_flatMap`, `_mul_left`, …), what `embAt` reads, `Fld.emb` in closed
form, the two cases of `Fld.sem`, and the product `Fld.mul` (its dispatch in closed form, `_mul_array` on the
intersection extent, the regenerated `_mul_broadcast`, translation of both operands; what a product is pixel by pixel is `C06.mul_emb`, `C06.mul_sem`). No big operators here, and the
`sumList` lemmas are proved on the fold, not as instances of `List.sum` lemmas: see the head of Lemmas/PlaneAlg.lean, which builds on this file. -/
namespace Lentil
variable {K : Type}

theorem emb_mk [Zero K] (s0 s1 o0 o1 : Int) (g : Int → Int → K) (r c : Int) :
    (Fld.mk ⟨s0, s1, g⟩ o0 o1).emb r c = embAt (arrayExtent s0 s1 o0 o1) g r c := rfl

theorem Fld.extent_valid_iff (a : Fld K) :
    a.extent.rmin ≤ a.extent.rmax ∧ a.extent.cmin ≤ a.extent.cmax ↔ 0 < a.arr.s0 ∧ 0 < a.arr.s1 := by
  simp only [Fld.extent, arrayExtent_eq]; omega

theorem Fld.extent_valid (a : Fld K) (ha : 0 < a.arr.s0 ∧ 0 < a.arr.s1) :
    a.extent.rmin ≤ a.extent.rmax ∧ a.extent.cmin ≤ a.extent.cmax :=
  a.extent_valid_iff.mpr ha

theorem extent_shape_eq (p f : Fld K) (h : p.extent = f.extent) : p.arr.s0 = f.arr.s0 ∧ p.arr.s1 = f.arr.s1 := by
  unfold Fld.extent at h
  rw [arrayExtent_eq, arrayExtent_eq, Extent.mk.injEq] at h
  omega

/-- the generated accumulation of `insert`; breaks when its `+=` statements change -/
theorem insertTerm_eq [Add K] [Mul K] (post : K → K) (o d w : K) : insertTerm post o d w = o + post d * w := rfl

/-! ### sums as folds -/

theorem sumList_congr [Add K] [Zero K] {α} (l : List α) (f g : α → K) (h : ∀ x ∈ l, f x = g x) :
    sumList l f = sumList l g := by
  unfold sumList
  rw [← List.foldl_map (g := (· + ·)), ← List.foldl_map (g := (· + ·)) (f := g), List.map_congr_left h]

theorem sumList_map_comp [Add K] [Zero K] {α β} (l : List α) (g : α → β) (f : β → K) :
    sumList (l.map g) f = sumList l (fun x => f (g x)) := by
  unfold sumList; rw [List.foldl_map]

theorem sumList_zero [AddZeroClass K] {α} (l : List α) : sumList l (fun _ => (0 : K)) = 0 := by
  unfold sumList
  induction l with
  | nil => rfl
  | cons x xs ih => simp only [List.foldl_cons, add_zero] at ih ⊢; exact ih

theorem sumList_singleton [AddZeroClass K] {α} (x : α) (f : α → K) : sumList [x] f = f x := zero_add _

theorem sumList_pair [AddZeroClass K] {α} (x y : α) (f : α → K) : sumList [x, y] f = f x + f y :=
  congrArg (· + f y) (zero_add _)

section sums
variable [AddMonoid K] {α β : Type}

theorem foldl_add_eq (xs : List α) (f : α → K) (acc : K) :
    xs.foldl (fun a x => a + f x) acc = acc + sumList xs f := by
  unfold sumList
  induction xs generalizing acc with
  | nil => simp
  | cons x xs ih =>
    simp only [List.foldl_cons]
    rw [ih (acc + f x), ih (0 + f x), zero_add, add_assoc]

@[simp] theorem sumList_nil (f : α → K) : sumList ([] : List α) f = 0 := rfl

theorem sumList_cons (x : α) (xs : List α) (f : α → K) : sumList (x :: xs) f = f x + sumList xs f := by
  show (x :: xs).foldl (fun a x => a + f x) 0 = _
  rw [List.foldl_cons, foldl_add_eq, zero_add]

theorem sumList_append (a b : List α) (f : α → K) : sumList (a ++ b) f = sumList a f + sumList b f :=
  (List.foldl_append ..).trans (foldl_add_eq b f _)

theorem sumList_flatMap (l : List α) (F : α → List β) (e : β → K) :
    sumList (l.flatMap F) e = sumList l (fun x => sumList (F x) e) := by
  induction l with
  | nil => rfl
  | cons x xs ih => rw [List.flatMap_cons, sumList_append, sumList_cons, ih]

theorem sumList_all_zero (l : List α) (f : α → K) (h : ∀ x ∈ l, f x = 0) : sumList l f = 0 :=
  (sumList_congr l f _ h).trans (sumList_zero l)

end sums

section ring
variable [NonUnitalNonAssocSemiring K] {α : Type}

theorem sumList_mul_left (l : List α) (a : K) (f : α → K) : sumList l (fun x => a * f x) = a * sumList l f := by
  induction l with
  | nil => simp
  | cons x xs ih => rw [sumList_cons, sumList_cons, ih, mul_add]

theorem sumList_mul_right (l : List α) (a : K) (f : α → K) : sumList l (fun x => f x * a) = sumList l f * a := by
  induction l with
  | nil => simp
  | cons x xs ih => rw [sumList_cons, sumList_cons, ih, add_mul]

end ring

/-! ### `embAt` -/

theorem embAt_congr [Zero K] (e : Extent) (g g' : Int → Int → K) (r c : Int)
    (h : ∀ i j, 0 ≤ i ∧ i ≤ e.rmax - e.rmin → 0 ≤ j ∧ j ≤ e.cmax - e.cmin → g i j = g' i j) :
    embAt e g r c = embAt e g' r c := by
  unfold embAt
  split
  · rename_i hin
    rw [Extent.inb_iff] at hin
    exact h _ _ (by omega) (by omega)
  · rfl

theorem embAt_sumList [AddZeroClass K] {α} (e : Extent) (l : List α) (g : α → Int → Int → K) (r c : Int) :
    embAt e (fun i j => sumList l fun x => g x i j) r c = sumList l fun x => embAt e (g x) r c := by
  unfold embAt
  split
  · rfl
  · exact (sumList_zero l).symm

theorem embAt_mul_const [MulZeroClass K] (e : Extent) (g : Int → Int → K) (k : K) (r c : Int) :
    embAt e g r c * embAt e (fun _ _ => k) r c = embAt e g r c * k := by
  unfold embAt
  split
  · rfl
  · rw [zero_mul, zero_mul]

theorem embAt_const_mul [MulZeroClass K] (e : Extent) (g : Int → Int → K) (k : K) (r c : Int) :
    embAt e (fun _ _ => k) r c * embAt e g r c = k * embAt e g r c := by
  unfold embAt
  split
  · rfl
  · rw [mul_zero, mul_zero]

/-- no hypothesis that the extents intersect: no pixel lies in an empty intersection -/
theorem embAt_inter_mul [MulZeroClass K] (a b : Extent) (f g : Int → Int → K) (r c : Int) :
    embAt (intersectionExtent a b) (fun i j =>
        f (i + (intersectionSlices a b).1.1.1) (j + (intersectionSlices a b).1.2.1) *
        g (i + (intersectionSlices a b).2.1.1) (j + (intersectionSlices a b).2.2.1)) r c =
      embAt a f r c * embAt b g r c := by
  have hx : ∀ x m i : Int, x - m + (m - i) = x - i := by intros; omega
  simp only [embAt, inter_inb, intersectionSlices_eq_extent, hx]
  cases a.inb r c
  · exact (zero_mul _).symm
  · cases b.inb r c
    · exact (mul_zero _).symm
    · rfl

/-- the `if` is a write through the slice `e - b` into a zero canvas occupying `b` -/
theorem embAt_window [Zero K] (b e : Extent) (g : Int → Int → K) (r c : Int)
    (h : b.rmin ≤ e.rmin ∧ e.rmax ≤ b.rmax ∧ b.cmin ≤ e.cmin ∧ e.cmax ≤ b.cmax) :
    embAt b (fun i j =>
      if decide (e.rmin - b.rmin ≤ i) && decide (i < e.rmax - b.rmin + 1) &&
         decide (e.cmin - b.cmin ≤ j) && decide (j < e.cmax - b.cmin + 1)
      then g (i - (e.rmin - b.rmin)) (j - (e.cmin - b.cmin)) else 0) r c = embAt e g r c := by
  have hg : (decide (e.rmin - b.rmin ≤ r - b.rmin) && decide (r - b.rmin < e.rmax - b.rmin + 1) &&
      decide (e.cmin - b.cmin ≤ c - b.cmin) && decide (c - b.cmin < e.cmax - b.cmin + 1)) = e.inb r c := by
    rw [Bool.eq_iff_iff, Extent.inb_iff]; simp only [Bool.and_eq_true, decide_eq_true_eq]; omega
  have hx : ∀ x m i : Int, x - m - (i - m) = x - i := by intros; omega
  unfold embAt
  split
  · simp only [hg, hx]
  · rename_i hin
    rw [Extent.inb_iff] at hin
    rw [if_neg]
    rw [Extent.inb_iff]; omega

/-! ### `Fld.emb` in closed form, `Fld.sem` -/

theorem Fld.emb_apply [Zero K] (f : Fld K) (r c : Int) :
    f.emb r c =
      if 0 ≤ r - f.o0 + f.arr.s0 / 2 ∧ r - f.o0 + f.arr.s0 / 2 < f.arr.s0 ∧
         0 ≤ c - f.o1 + f.arr.s1 / 2 ∧ c - f.o1 + f.arr.s1 / 2 < f.arr.s1
      then f.arr.get (r - f.o0 + f.arr.s0 / 2) (c - f.o1 + f.arr.s1 / 2) else 0 := by
  show embAt (arrayExtent _ _ _ _) f.arr.get r c = _
  rw [arrayExtent_eq]
  unfold embAt
  simp only [Extent.inb, Bool.and_eq_true, decide_eq_true_eq]
  exact if_ctx_congr (by omega) (fun _ => by congr 1 <;> omega) (fun _ => rfl)

theorem Fld.size1_iff (f : Fld K) : f.size1 = true ↔ f.arr.s0 = 1 ∧ f.arr.s1 = 1 := by
  simp only [Fld.size1, Bool.and_eq_true, decide_eq_true_eq]

theorem Fld.sem_of_size1_true [Zero K] (f : Fld K) (h : f.size1 = true) (r c : Int) : f.sem r c = f.arr.get 0 0 :=
  if_pos h

theorem Fld.sem_of_size1_false [Zero K] (f : Fld K) (h : f.size1 = false) (r c : Int) : f.sem r c = f.emb r c := by
  unfold Fld.sem
  rw [h]
  rfl

theorem sumList_sem_eq_emb [Add K] [Zero K] (l : List (Fld K)) (h : ∀ g ∈ l, g.size1 = false) (r c : Int) :
    sumList l (fun g => g.sem r c) = sumList l (fun g => g.emb r c) :=
  sumList_congr _ _ _ fun g hg => Fld.sem_of_size1_false g (h g hg) r c

/-- a field moved by (d0, d1) pixels -/
def Fld.translate (f : Fld K) (d0 d1 : Int) : Fld K := { f with o0 := f.o0 + d0, o1 := f.o1 + d1 }

theorem Fld.translate_extent (f : Fld K) (d0 d1 : Int) : (f.translate d0 d1).extent = f.extent.shift d0 d1 :=
  arrayExtent_translate ..

theorem Fld.translate_emb [Zero K] (f : Fld K) (d0 d1 r c : Int) :
    (f.translate d0 d1).emb r c = f.emb (r - d0) (c - d1) := by
  show embAt (f.translate d0 d1).extent f.arr.get r c = embAt f.extent f.arr.get (r - d0) (c - d1)
  rw [Fld.translate_extent]
  unfold embAt
  rw [Extent.shift_inb]
  have hx : ∀ x m d : Int, x - (m + d) = x - d - m := by intros; omega
  simp only [Extent.shift, hx]

/-! ### `_mul_array` -/

theorem Fld.mulArr_eq_none_iff [Mul K] (a b : Fld K) : a.mulArr b = none ↔ intersect a.extent b.extent = false := by
  unfold Fld.mulArr
  cases h : intersect a.extent b.extent <;> simp [h]

theorem Fld.extent_of_mulArr [Mul K] (a b p : Fld K) (h : a.mulArr b = some p) :
    p.extent = intersectionExtent a.extent b.extent := by
  obtain ⟨-, rfl⟩ := Option.ite_some_none_eq_some.mp h
  exact mulArr_extent a.extent b.extent

theorem mulArr_pos_shape [Mul K] (a b p : Fld K) (ha : 0 < a.arr.s0 ∧ 0 < a.arr.s1) (hb : 0 < b.arr.s0 ∧ 0 < b.arr.s1)
    (h : a.mulArr b = some p) : 0 < p.arr.s0 ∧ 0 < p.arr.s1 := by
  have hi : intersect a.extent b.extent = true := by
    rw [← Bool.not_eq_false, ← Fld.mulArr_eq_none_iff, h]; exact Option.some_ne_none p
  rw [← p.extent_valid_iff, Fld.extent_of_mulArr a b p h]
  exact (intersect_iff_inter_valid _ _ (a.extent_valid ha) (b.extent_valid hb)).mp hi

theorem mulArr_translate [Mul K] (a b : Fld K) (d0 d1 : Int) :
    (a.translate d0 d1).mulArr (b.translate d0 d1) = (a.mulArr b).map fun p => p.translate d0 d1 := by
  unfold Fld.mulArr
  simp only [Fld.translate_extent, intersect_translate, intersectionSlices_translate, intersectionShift_translate]
  by_cases h : intersect a.extent b.extent = true
  · simp only [h, if_true, Option.map_some]; rfl
  · simp only [h, Bool.false_eq_true, if_false, Option.map_none]

/-! ### `Field.__mul__`: the generated dispatch tests evaluated -/

theorem Fld.size_eq_one_iff (f : Fld K) : f.size = 1 ↔ f.arr.s0 = 1 ∧ f.arr.s1 = 1 := by
  unfold Fld.size
  constructor
  · intro h
    have h' : f.arr.s0.toNat * f.arr.s1.toNat = 1 := by exact_mod_cast h
    have h1 := Nat.eq_one_of_mul_eq_one_right h'
    have h2 := Nat.eq_one_of_mul_eq_one_left h'
    omega
  · rintro ⟨h1, h2⟩; rw [h1, h2]; rfl

theorem Fld.decide_size_eq_one (f : Fld K) : decide (f.size = 1) = f.size1 := by
  rw [Fld.size1, Bool.eq_iff_iff]
  simp only [Bool.and_eq_true, decide_eq_true_eq, Fld.size_eq_one_iff]

theorem Fld.mulBothOne_eq (a b : Fld K) : Gen.mulBothOne a.size b.size = (a.size1 && b.size1) := by
  rw [Gen.mulBothOne, Fld.decide_size_eq_one, Fld.decide_size_eq_one]

/-- `Fld.mul` with the generated tests evaluated. Breaks when `Field.__mul__`'s size test or `_mul_scalar`'s comparison change. -/
theorem Fld.mul_closed [Mul K] (a b : Fld K) :
    a.mul b =
      if a.size1 && b.size1 then
        if decide (a.o0 = b.o0) && decide (a.o1 = b.o1) then
          some { arr := { s0 := 1, s1 := 1, get := fun _ _ => a.arr.get 0 0 * b.arr.get 0 0 }, o0 := a.o0, o1 := a.o1 }
        else none
      else
        let a' := if a.size1 then a.broadcastTo b else a
        let b' := if b.size1 then b.broadcastTo a' else b
        a'.mulArr b' := by
  unfold Fld.mul
  rw [Fld.mulBothOne_eq]
  rfl

theorem Fld.mul_pos_shape [Mul K] (a b p : Fld K) (ha : 0 < a.arr.s0 ∧ 0 < a.arr.s1) (hb : 0 < b.arr.s0 ∧ 0 < b.arr.s1)
    (h : a.mul b = some p) : 0 < p.arr.s0 ∧ 0 < p.arr.s1 := by
  rw [Fld.mul_closed] at h
  cases h1 : a.size1 <;> cases h2 : b.size1 <;> simp only [h1, h2, Bool.and_self, Bool.and_false, Bool.false_and,
    Bool.false_eq_true, if_false, if_true] at h
  · exact mulArr_pos_shape a b p ha hb h
  · exact mulArr_pos_shape a (b.broadcastTo a) p ha ha h
  · exact mulArr_pos_shape (a.broadcastTo b) b p hb hb h
  · obtain ⟨-, rfl⟩ := Option.ite_some_none_eq_some.mp h
    exact ⟨Int.one_pos, Int.one_pos⟩

/-- the rule documented in `Field.__mul__` for two one-element fields -/
theorem Fld.mul_scalar_scalar [Mul K] (a b : Fld K) (hab : (a.size1 && b.size1) = true) :
    a.mul b = if a.o0 = b.o0 ∧ a.o1 = b.o1
      then some { arr := { s0 := 1, s1 := 1, get := fun _ _ => a.arr.get 0 0 * b.arr.get 0 0 }, o0 := a.o0, o1 := a.o1 }
      else none := by
  rw [Fld.mul_closed]
  simp only [hab, if_true, Bool.and_eq_true, decide_eq_true_eq]

/-- what `_mul_array` does once a one-element operand has been broadcast to the other -/
theorem Fld.mulArr_same_extent [Mul K] (a b : Fld K) (hpos : 0 < a.arr.s0 ∧ 0 < a.arr.s1) (he : b.extent = a.extent) :
    a.mulArr b = some ⟨⟨a.arr.s0, a.arr.s1, fun i j => a.arr.get i j * b.arr.get i j⟩, a.o0, a.o1⟩ := by
  have hv := a.extent_valid hpos
  have hint : intersect a.extent a.extent = true := by rw [intersect_eq_true_iff]; omega
  unfold Fld.mulArr
  -- an extent intersected with itself: the slices address the whole array and the shift is the centre
  simp only [he, hint, if_true, Option.some.injEq, intersectionSlices_eq, intersectionShift_eq, Int.max_self, Int.min_self,
    Int.sub_self, Int.add_zero]
  obtain ⟨⟨s0, s1, get⟩, o0, o1⟩ := a
  rw [show (Fld.mk ⟨s0, s1, get⟩ o0 o1).extent = _ from arrayExtent_eq _ _ _ _]
  simp only [Fld.mk.injEq, Arr.mk.injEq, and_true]
  omega

theorem mul_one_field [Mul K] (f q : Fld K) (hf : f.size1 = false) (hq : q.size1 = true)
    (hpos : 0 < f.arr.s0 ∧ 0 < f.arr.s1) (h1 : ∀ x : K, x * q.arr.get 0 0 = x) : f.mul q = some f := by
  have hm : f.mul q = f.mulArr (q.broadcastTo f) := by
    rw [Fld.mul_closed]
    simp only [hf, hq, Bool.false_and, Bool.false_eq_true, if_false, if_true]
  rw [hm, Fld.mulArr_same_extent f (q.broadcastTo f) hpos rfl]
  simp only [Fld.broadcastTo, h1]

/-! ### the regenerated `_mul_broadcast` (`Gen.mulBroadcast`) read back into model fields -/

/-- the operand `x` as `_mul_broadcast` returns it: shape `shp`, offset `off`; when the flag `bc` is 1 the data is
`np.broadcast_to(x.data, shp)` of a one-element array (every sample is the single sample), otherwise `x.data` itself -/
def Fld.ofBroadcast (bc : Int) (shp off : Int × Int) (x : Fld K) : Fld K :=
  { arr := { s0 := shp.1, s1 := shp.2, get := if bc = 1 then fun _ _ => x.arr.get 0 0 else x.arr.get },
    o0 := off.1, o1 := off.2 }

/-- the two operands after the regenerated `_mul_broadcast(self.data, self.offset, other.data, other.offset)` -/
def Fld.genBroadcast (a b : Fld K) : Fld K × Fld K :=
  let g := Gen.mulBroadcast a.arr.s0 a.arr.s1 a.size a.o0 a.o1 b.arr.s0 b.arr.s1 b.size b.o0 b.o1
  (Fld.ofBroadcast g.1 g.2.1 g.2.2.1 a, Fld.ofBroadcast g.2.2.2.1 g.2.2.2.2.1 g.2.2.2.2.2 b)

theorem Fld.shape_ne_of_size1_ne (a b : Fld K) (h : a.size1 ≠ b.size1) :
    (decide (a.arr.s0 = b.arr.s0) && decide (a.arr.s1 = b.arr.s1)) = false := by
  rw [Bool.eq_false_iff]
  intro hs
  simp only [Bool.and_eq_true, decide_eq_true_eq] at hs
  exact h (by rw [Fld.size1, Fld.size1, hs.1, hs.2])

theorem mulBroadcast_eq (a0 a1 asz ao0 ao1 b0 b1 bsz bo0 bo1 : Int) :
    Gen.mulBroadcast a0 a1 asz ao0 ao1 b0 b1 bsz bo0 bo1 =
      if decide (a0 = b0) && decide (a1 = b1) then (0, (a0, a1), (ao0, ao1), 0, (b0, b1), (bo0, bo1))
      else if decide (asz = 1) then (1, (b0, b1), (bo0, bo1), if decide (bsz = 1) then 1 else 0, (b0, b1), (bo0, bo1))
      else if decide (bsz = 1) then (0, (a0, a1), (ao0, ao1), 1, (a0, a1), (ao0, ao1))
      else (0, (a0, a1), (ao0, ao1), 0, (b0, b1), (bo0, bo1)) := by
  unfold Gen.mulBroadcast
  -- the block only looks at the three tests: with each of them a variable, every case computes
  generalize (decide (a0 = b0) && decide (a1 = b1)) = c1
  generalize decide (asz = 1) = c2
  generalize decide (bsz = 1) = c3
  cases c1 <;> cases c2 <;> cases c3 <;> rfl

/-- a shape is (ndim, d0, d1), `()` included -/
theorem mulBroadcastZ_eq (an a0 a1 asz ao0 ao1 bn b0 b1 bsz bo0 bo1 : Int) :
    Gen.mulBroadcastZ an a0 a1 asz ao0 ao1 bn b0 b1 bsz bo0 bo1 =
      if decide (an = bn) && decide (a0 = b0) && decide (a1 = b1) then
        (0, (an, a0, a1), (ao0, ao1), 0, (bn, b0, b1), (bo0, bo1))
      else if decide (asz = 1) then
        (1, (bn, b0, b1), (bo0, bo1), if decide (bsz = 1) then 1 else 0, (bn, b0, b1), (bo0, bo1))
      else if decide (bsz = 1) then (0, (an, a0, a1), (ao0, ao1), 1, (an, a0, a1), (ao0, ao1))
      else (0, (an, a0, a1), (ao0, ao1), 0, (bn, b0, b1), (bo0, bo1)) := by
  unfold Gen.mulBroadcastZ
  conv => lhs; zeta
  generalize (decide (an = bn) && decide (a0 = b0) && decide (a1 = b1)) = c1
  generalize decide (asz = 1) = c2
  generalize decide (bsz = 1) = c3
  cases c1 <;> cases c2 <;> cases c3 <;> rfl

end Lentil
