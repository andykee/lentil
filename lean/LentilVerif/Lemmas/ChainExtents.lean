import LentilVerif.Lemmas.PlaneAlg
import LentilVerif.Model.ChainExt
import Mathlib.Data.List.Basic
/-! Extents of the fields a chain of planes produces, computed from the planes' bounding slices alone — so that the side
conditions of `chain_distrib` (`ChainOK`: no one-element intermediate field) follow from a condition on the *input* (`ExtOK`).
The invariant along the chain is `ArrData`: every field is an array of positive shape, a property of the extents. -/
namespace Lentil
variable {K R : Type}

theorem size1_iff_onePx (f : Fld K) : f.size1 = true ↔ f.extent.onePx := by
  unfold Fld.size1 Fld.extent Extent.onePx
  rw [arrayExtent_eq]
  simp only [Bool.and_eq_true, decide_eq_true_eq]
  omega

/-- all fields are arrays (more than one element) of positive shape: the state a masked plane leaves behind under `ExtOK` -/
def ArrData (d : List (Fld K)) : Prop := ∀ f ∈ d, f.size1 = false ∧ f.extent.valid

theorem ArrData.pos {d : List (Fld K)} (hd : ArrData d) : ∀ f ∈ d, 0 < f.arr.s0 ∧ 0 < f.arr.s1 :=
  fun f hf => f.extent_valid_iff.mp (hd f hf).2

theorem arrData_iff (d : List (Fld K)) : ArrData d ↔ ∀ e ∈ d.map Fld.extent, ¬ e.onePx ∧ e.valid := by
  simp only [ArrData, List.forall_mem_map, ← size1_iff_onePx, Bool.not_eq_true]

theorem mulExtent_valid (e q g : Extent) (he : e.valid) (hq : q.valid) (h : mulExtent e q = some g) : g.valid := by
  obtain ⟨hi, hg⟩ := Option.ite_none_right_eq_some.mp h
  exact Option.some.inj hg ▸ (intersect_iff_inter_valid e q he hq).mp hi

theorem stepExtents_valid (qs es : List Extent) (hqs : ∀ q ∈ qs, q.valid) (hes : ∀ e ∈ es, e.valid) (g : Extent)
    (hg : g ∈ stepExtents qs es) : g.valid :=
  List.forall_mem_flatMap.mpr (fun e he => List.forall_mem_filterMap.mpr fun q hq' g hq =>
    mulExtent_valid e q g (hes e he) (hqs q hq') hq) g hg

theorem mul_extent [Mul K] (f q : Fld K) (hf : f.size1 = false) (hq : q.size1 = false) :
    (f.mul q).map Fld.extent = mulExtent f.extent q.extent := by
  rw [Fld.mul_closed]
  simp only [hf, hq, Bool.false_and, Bool.false_eq_true, if_false]
  unfold Fld.mulArr mulExtent
  by_cases hi : intersect f.extent q.extent = true
  · simp only [hi, if_true, Option.map_some, Option.some.injEq]
    show arrayExtent _ _ _ _ = _
    exact mulArr_extent f.extent q.extent
  · simp only [hi, Bool.false_eq_true, if_false, Option.map_none]

theorem mul_scalar_left_extent [Mul K] (f q : Fld K) (hf : f.size1 = true) (hq : q.size1 = false) (hv : q.extent.valid) :
    (f.mul q).map Fld.extent = some q.extent := by
  have h1 : f.mul q = (f.broadcastTo q).mulArr q := by
    rw [Fld.mul_closed]
    simp only [hf, hq, Bool.and_false, Bool.false_eq_true, if_false, if_true]
  rw [h1, Fld.mulArr_same_extent (f.broadcastTo q) q (q.extent_valid_iff.mp hv) rfl]
  rfl

theorem planeMultiply_extents [Zero K] [Mul K] (ph : R → K) (p : PlaneM K R) (data : List (Fld K))
    (hd : ∀ f ∈ data, f.size1 = false) (hq : ∀ q ∈ planePhasors ph p, q.size1 = false) :
    (planeMultiply ph p data).map Fld.extent = stepExtents ((planePhasors ph p).map Fld.extent) (data.map Fld.extent) := by
  unfold planeMultiply stepExtents
  rw [List.map_flatMap, List.flatMap_map]
  refine List.flatMap_congr fun f hf => ?_
  rw [List.map_filterMap, List.filterMap_map]
  exact List.filterMap_congr fun q hq' => mul_extent f q (hd f hf) (hq q hq')

theorem segPhasor_extent [Zero K] [Mul K] (ph : R → K) (amp : Attr K) (opd : Attr R) (S0 S1 : Int) (g : Seg) :
    (segPhasor ph amp opd S0 S1 g).extent = segBox S0 S1 g := by
  show arrayExtent _ _ _ _ = _
  exact sliceOffset_extent _ _ _ _ _ _

theorem PlaneM.ok.boxes {p : PlaneM K R} (hp : p.ok) : ∀ b ∈ p.boxes, ¬ b.onePx ∧ b.valid := by
  obtain ⟨amp, opd, mask⟩ := p
  cases mask with
  | scalar on => exact absurd hp (by simp [PlaneM.ok])
  | segs S0 S1 l =>
    intro b hb
    obtain ⟨g, hg, rfl⟩ := List.mem_map.mp hb
    obtain ⟨_, h1, h2, h3⟩ := hp g hg
    simp only [segBox, Extent.onePx, Extent.valid]
    omega

theorem phasors_ok [Zero K] [Mul K] (ph : R → K) (p : PlaneM K R) (hp : p.ok) :
    (planePhasors ph p).map Fld.extent = p.boxes ∧ ArrData (planePhasors ph p) := by
  have hbox : (planePhasors ph p).map Fld.extent = p.boxes := by
    obtain ⟨amp, opd, mask⟩ := p
    cases mask with
    | scalar on => exact absurd hp (by simp [PlaneM.ok])
    | segs S0 S1 l =>
      simp only [planePhasors, PlaneM.boxes, List.map_map]
      exact List.map_congr_left fun g _ => segPhasor_extent ph amp opd S0 S1 g
  exact ⟨hbox, (arrData_iff _).mpr (hbox ▸ hp.boxes)⟩

theorem step_ext_ok [Zero K] [Mul K] (ph : R → K) (p : PlaneM K R) (hp : p.ok) (data : List (Fld K))
    (hd : ArrData data) (rest : List (List Extent)) (hE : ExtOK (p.boxes :: rest) (data.map Fld.extent)) :
    ArrData (planeMultiply ph p data) ∧ ExtOK rest ((planeMultiply ph p data).map Fld.extent) := by
  obtain ⟨hbox, hq⟩ := phasors_ok ph p hp
  rw [arrData_iff, planeMultiply_extents ph p data (fun f hf => (hd f hf).1) (fun q hq' => (hq q hq').1), hbox]
  exact ⟨fun e he => ⟨hE.1 e he, stepExtents_valid _ _ (fun b hb => (hp.boxes b hb).2)
    (fun e he => ((arrData_iff data).mp hd e he).2) e he⟩, hE.2⟩

theorem fresh_step_ok [Zero K] [Mul K] (ph : R → K) (w0 : Fld K) (h0 : w0.size1 = true) (p : PlaneM K R) (hp : p.ok) :
    ArrData (planeMultiply ph p [w0]) ∧ (planeMultiply ph p [w0]).map Fld.extent = p.boxes := by
  obtain ⟨hbox, hq⟩ := phasors_ok ph p hp
  have hext : (planeMultiply ph p [w0]).map Fld.extent = p.boxes := by
    unfold planeMultiply
    rw [List.flatMap_singleton, List.map_filterMap,
      List.filterMap_congr fun q hq' => mul_scalar_left_extent w0 q h0 (hq q hq').1 (hq q hq').2, List.filterMap_eq_map', hbox]
  exact ⟨(arrData_iff _).mpr (hext ▸ hp.boxes), hext⟩

theorem chainOK_cons [Zero K] [Mul K] (ph : R → K) (p : PlaneM K R) (hp : p.ok) (ps : List (PlaneM K R)) (data : List (Fld K))
    (hpos : ∀ f ∈ data, 0 < f.arr.s0 ∧ 0 < f.arr.s1) (hout : ArrData (planeMultiply ph p data))
    (hrest : ChainOK ph ps (planeMultiply ph p data)) : ChainOK ph (p :: ps) data := by
  have hq := (phasors_ok ph p hp).2
  exact ⟨hpos, hq.pos, fun f _ q hq' => by rw [(hq q hq').1, Bool.and_false],
    fun g hg => (hout g hg).1, hrest⟩

theorem chainOK_of_ext [Zero K] [Mul K] (ph : R → K) (ps : List (PlaneM K R)) (hps : ∀ p ∈ ps, p.ok) (data : List (Fld K))
    (hd : ArrData data) (hE : ExtOK (ps.map PlaneM.boxes) (data.map Fld.extent)) :
    ChainOK ph ps data ∧ ArrData (chainMultiply ph ps data) := by
  induction ps generalizing data with
  | nil => exact ⟨trivial, hd⟩
  | cons p ps ih =>
    have hp := hps p (List.mem_cons_self ..)
    obtain ⟨hout, hE2⟩ := step_ext_ok ph p hp data hd _ hE
    obtain ⟨ihok, ihfin⟩ := ih (fun x hx => hps x (List.mem_cons_of_mem _ hx)) _ hout hE2
    exact ⟨chainOK_cons ph p hp ps data hd.pos hout ihok, ihfin⟩

theorem chainOK_fresh [Zero K] [Mul K] (ph : R → K) (w0 : Fld K) (h0 : w0.size1 = true) (p : PlaneM K R) (ps : List (PlaneM K R))
    (hps : ∀ x ∈ p :: ps, x.ok) (hE : ExtOK (ps.map PlaneM.boxes) p.boxes) :
    ChainOK ph (p :: ps) [w0] ∧ ArrData (chainMultiply ph (p :: ps) [w0]) := by
  have hp := hps p (List.mem_cons_self ..)
  obtain ⟨hout, hext⟩ := fresh_step_ok ph w0 h0 p hp
  obtain ⟨ihok, ihfin⟩ := chainOK_of_ext ph ps (fun x hx => hps x (List.mem_cons_of_mem _ hx)) _ hout (by rw [hext]; exact hE)
  refine ⟨chainOK_cons ph p hp ps [w0] (List.forall_mem_singleton.mpr ?_) hout ihok, ihfin⟩
  have := (Fld.size1_iff w0).mp h0
  omega

theorem planeMultiply_default_id [MulZeroOneClass K] (ph : R → K) (o : R) (hph : ph o = 1) (data : List (Fld K))
    (hd : ArrData data) :
    planeMultiply ph ⟨.scalar 1, .scalar o, .scalar true⟩ data = data := by
  have h : ∀ f ∈ data, ((planePhasors ph ⟨.scalar 1, .scalar o, .scalar true⟩).filterMap fun q => f.mul q) = [f] := by
    intro f hf
    have hm := mul_one_field f (scalarPhasor ph (.scalar (1 : K)) (.scalar o) true) (hd f hf).1 rfl (hd.pos f hf)
      (fun x => by simp [scalarPhasor, maskMul, Attr.at, hph])
    simp [planePhasors, hm]
  unfold planeMultiply
  rw [List.flatMap_congr h, List.flatMap_singleton']

theorem onePxb_iff (e : Extent) : e.onePxb = true ↔ e.onePx := by
  unfold Extent.onePxb Extent.onePx; simp only [Bool.and_eq_true, decide_eq_true_eq]

/-- `extOKb` decides the hypothesis `ExtOK` of the end-to-end theorems -/
theorem extOKb_iff (Q : List (List Extent)) (es : List Extent) : extOKb Q es = true ↔ ExtOK Q es := by
  induction Q generalizing es with
  | nil => simp [extOKb, ExtOK]
  | cons qs rest ih => simp [extOKb, ExtOK, ih, ← onePxb_iff]

/-- the Boolean scope test the driver evaluates (`c03.extok`) on the boxes of a chain `p :: ps`: the hypothesis `ExtOK` of the
end-to-end theorems, and that no box of the first plane is one pixel (which `PlaneM.ok` gives: `PlaneM.ok.boxes`) -/
theorem freshExtOKb_iff (q : List Extent) (rest : List (List Extent)) :
    freshExtOKb (q :: rest) = true ↔ (∀ b ∈ q, ¬ b.onePx) ∧ ExtOK rest q := by
  simp [freshExtOKb, extOKb_iff, ← onePxb_iff]

end Lentil
