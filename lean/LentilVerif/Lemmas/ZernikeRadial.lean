import LentilVerif.Model.Zernike
import LentilVerif.Lemmas.Sums
import Mathlib.Algebra.Group.ForwardDiff
/-! The radial polynomial `R_n^m` of the model. Its coefficients, which the code forms as a quotient of factorials, are exact and equal
the textbook product of binomials for every valid `(n, m, k)`; over a commutative ring `radialEval` is the sum `Σ_k c_k x^(n−2k)`;
`R_n^m(1) = 1` and `R_n^n(x) = x^n`. -/

namespace Lentil
open Nat Finset

/-! ### the coefficients -/

theorem fact_eq_factorial (n : ℕ) : Gen.fact n = n ! := by
  induction n with
  | zero => rfl
  | succ n ih => rw [Gen.fact, ih, Nat.factorial_succ]

theorem chooseN_eq_choose (n k : ℕ) : chooseN n k = n.choose k := by
  induction n generalizing k with
  | zero => cases k <;> rfl
  | succ n ih => cases k with
    | zero => rfl
    | succ k => rw [chooseN, ih, ih, Nat.choose_succ_succ]

theorem radialDen_mul_choose (n m k : ℕ) (hm : m ≤ n) (h : (n - m) % 2 = 0) (hk : k ≤ (n - m) / 2) :
    Gen.radialDen n m k * ((n - k).choose k * (n - 2 * k).choose ((n - m) / 2 - k)) = (n - k)! := by
  unfold Gen.radialDen
  simp only [fact_eq_factorial]
  have h1 := Nat.choose_mul_factorial_mul_factorial (n := n - k) (k := k) (by omega)
  have h2 := Nat.choose_mul_factorial_mul_factorial (n := n - 2 * k) (k := (n - m) / 2 - k) (by omega)
  rw [show n - k - k = n - 2 * k by omega] at h1
  rw [show n - 2 * k - ((n - m) / 2 - k) = (n + m) / 2 - k by omega] at h2
  rw [← h1, ← h2]
  ring

theorem radialDen_ne_zero (n m k : ℕ) : Gen.radialDen n m k ≠ 0 := by
  simp [Gen.radialDen, fact_eq_factorial, Nat.factorial_ne_zero]

theorem radialNum_eq (n m k : ℕ) (hm : m ≤ n) (h : (n - m) % 2 = 0) (hk : k ≤ (n - m) / 2) :
    Gen.radialNum n m k = (Gen.radialDen n m k : ℤ) *
      ((-1) ^ k * ((chooseN (n - k) k * chooseN (n - 2 * k) ((n - m) / 2 - k) : ℕ) : ℤ)) := by
  unfold Gen.radialNum
  rw [fact_eq_factorial, ← radialDen_mul_choose n m k hm h hk, chooseN_eq_choose, chooseN_eq_choose]
  push_cast
  ring

theorem radialDen_dvd_radialNum (n m k : ℕ) (hm : m ≤ n) (h : (n - m) % 2 = 0) (hk : k ≤ (n - m) / 2) :
    (Gen.radialDen n m k : ℤ) ∣ Gen.radialNum n m k :=
  Dvd.intro _ (radialNum_eq n m k hm h hk).symm

theorem radialCoeff_textbook (n m k : ℕ) (hm : m ≤ n) (h : (n - m) % 2 = 0) (hk : k ≤ (n - m) / 2) :
    radialCoeff n m k = (-1 : ℤ) ^ k * ((chooseN (n - k) k * chooseN (n - 2 * k) ((n - m) / 2 - k) : ℕ) : ℤ) := by
  rw [radialCoeff, radialNum_eq n m k hm h hk,
    Int.mul_ediv_cancel_left _ (Int.natCast_ne_zero.2 (radialDen_ne_zero n m k))]

/-- with `s = (n-m)/2`: a polynomial of degree `s` in `k` times the alternating binomial weight -/
theorem radialCoeff_choose (n m k : ℕ) (hm : m ≤ n) (h : (n - m) % 2 = 0) (hk : k ≤ (n - m) / 2) :
    radialCoeff n m k = (-1 : ℤ) ^ k * ((((n - m) / 2).choose k * (n - k).choose ((n - m) / 2) : ℕ) : ℤ) := by
  rw [radialCoeff_textbook n m k hm h hk, chooseN_eq_choose, chooseN_eq_choose, mul_comm (((n - m) / 2).choose k),
    Nat.choose_mul hk, show n - k - k = n - 2 * k by omega]

theorem radialCoeff_add_two_mul (m s k : ℕ) (hk : k ≤ s) :
    radialCoeff (m + 2 * s) m k = (-1 : ℤ) ^ k * ((s.choose k * (m + 2 * s - k).choose s : ℕ) : ℤ) := by
  rw [radialCoeff_choose _ _ k (by omega) (by omega) (by omega), show (m + 2 * s - m) / 2 = s by omega]

/-- `Σ_k (−1)^k C(s,k) C(n−k,s)` is the `s`-th forward difference of `x ↦ C(x, s)` at `n − s` -/
theorem sum_radialCoeff (n m : ℕ) (hm : m ≤ n) (h : (n - m) % 2 = 0) : ∑ k ∈ range ((n - m) / 2 + 1), radialCoeff n m k = 1 := by
  have D := congrFun (fwdDiff_iter_choose 0 ((n - m) / 2)) (n - (n - m) / 2)
  rw [fwdDiff_iter_eq_sum_shift, ← sum_range_reflect, Nat.choose_zero_right, Nat.cast_one] at D
  rw [← D]
  refine sum_congr rfl fun k hk => ?_
  have := mem_range.1 hk
  rw [radialCoeff_choose n m k hm h (by omega), show (n - m) / 2 + 1 - 1 - k = (n - m) / 2 - k by omega,
    Nat.sub_sub_self (by omega), Nat.choose_symm (by omega), smul_eq_mul, smul_eq_mul, mul_one, add_zero,
    show n - (n - m) / 2 + ((n - m) / 2 - k) = n - k by omega]
  push_cast
  ring

theorem radialAtOne_eq_one (n m : ℕ) (hm : m ≤ n) (h : (n - m) % 2 = 0) : radialAtOne n m = 1 := by
  rw [radialAtOne, foldl_map_range, sum_radialCoeff n m hm h]

theorem allAtOne_eq_true (N : ℕ) : allAtOne N = true := by
  simp only [allAtOne, List.all_eq_true, List.mem_range, Bool.or_eq_true, bne_iff_ne, beq_iff_eq]
  intro n _ m hm
  by_cases h : (n - m) % 2 = 0
  · exact Or.inr (radialAtOne_eq_one n m (by omega) h)
  · exact Or.inl h

/-! ### the polynomial -/

variable {K : Type} [CommRing K]

theorem powK_eq_pow (x : K) (p : ℕ) : powK x p = x ^ p := by
  induction p with
  | zero => simp [powK]
  | succ p ih => simp [powK, ih, pow_succ]

theorem radialEval_eq_sum (n m : ℕ) (h : (n - m) % 2 = 0) (x : K) :
    radialEval n m x = ∑ k ∈ range ((n - m) / 2 + 1), ((radialCoeff n m k : ℤ) : K) * x ^ (n - 2 * k) := by
  unfold radialEval
  rw [if_neg (by omega)]
  simp only [powK_eq_pow]
  exact sumRange_eq _ _

theorem radialEval_one (n m : ℕ) (hm : m ≤ n) (h : (n - m) % 2 = 0) : radialEval n m (1 : K) = 1 := by
  simp only [radialEval_eq_sum n m h, one_pow, mul_one, ← Int.cast_sum, sum_radialCoeff n m hm h, Int.cast_one]

theorem radialEval_self (n : ℕ) (x : K) : radialEval n n x = x ^ n := by
  rw [radialEval_eq_sum n n (by omega), Nat.sub_self, Nat.zero_div, sum_range_one,
    radialCoeff_textbook n n 0 le_rfl (by omega) (Nat.zero_le _)]
  simp [chooseN_eq_choose]

end Lentil
