import LentilVerif.Model.Geometry
import LentilVerif.Lemmas.Sums
import Mathlib.Algebra.BigOperators.Ring.Finset
import Mathlib.Tactic.Ring
import Mathlib.Tactic.LinearCombination
/-! Sums over the samples of an array as `Finset` sums: the total, the block-sum identity behind `rebin`, and the first moments of `util.centroid`,
which vanish about the centre of a half-turn symmetry (any commutative ring of weights: ℤ masks, ℚ or ℝ antialiased shapes). -/
namespace Lentil
open Finset

theorem rebin_eq_some {K : Type} [Add K] [Zero K] {a r : Arr K} {f : ℕ} (h : rebin a f = some r) :
    (0 < f ∧ a.s0 % (f : Int) = 0 ∧ a.s1 % (f : Int) = 0) ∧
    r = ⟨a.s0 / f, a.s1 / f, fun i j => sumRange f fun u => sumRange f fun v => a.get (i * f + u) (j * f + v)⟩ := by
  obtain ⟨g, hr⟩ := Option.ite_none_right_eq_some.mp h
  simp only [Bool.and_eq_true, decide_eq_true_eq, and_assoc] at g
  exact ⟨g, (Option.some.inj hr).symm⟩

theorem rebin3_slice {K : Type} [Add K] [Zero K] {a r : Cube K} {f : ℕ} (h : rebin3 a f = some r) (k : Int) :
    r.d = a.d ∧ rebin (a.slice k) f = some (r.slice k) := by
  obtain ⟨g, hr⟩ := Option.ite_none_right_eq_some.mp h
  cases hr
  exact ⟨rfl, if_pos g⟩

theorem Arr.total_eq {K} [AddCommMonoid K] (a : Arr K) : a.total = ∑ i ∈ range a.s0.toNat, ∑ j ∈ range a.s1.toNat, a.get i j := by
  unfold Arr.total; simp only [sumRange_eq]

theorem sum_blocks {K} [AddCommMonoid K] (n f : ℕ) (g : ℕ → K) :
    ∑ i ∈ range n, ∑ u ∈ range f, g (i * f + u) = ∑ k ∈ range (n * f), g k := by
  induction n with
  | zero => simp
  | succ n ih => rw [sum_range_succ, ih, Nat.succ_mul, sum_range_add]

theorem sum_blocks2 {K} [AddCommMonoid K] (n0 n1 f : ℕ) (G : ℕ → ℕ → K) :
    ∑ i ∈ range n0, ∑ j ∈ range n1, ∑ u ∈ range f, ∑ v ∈ range f, G (i * f + u) (j * f + v)
      = ∑ x ∈ range (n0 * f), ∑ y ∈ range (n1 * f), G x y := by
  rw [← sum_blocks n0 f]
  apply sum_congr rfl; intro i _
  rw [sum_comm]
  apply sum_congr rfl; intro u _
  exact sum_blocks n1 f (G (i * f + u))

theorem toNat_ediv_mul {s : Int} {f : ℕ} (h0 : 0 ≤ s) (hd : s % (f : Int) = 0) : (s / (f : Int)).toNat * f = s.toNat := by
  obtain ⟨m, rfl⟩ := Int.eq_ofNat_of_zero_le h0
  rw [← Int.natCast_ediv, Int.toNat_natCast, Int.toNat_natCast]
  exact Nat.div_mul_cancel (Nat.dvd_of_mod_eq_zero (by exact_mod_cast hd))


theorem centroidNumK_int (a : Arr Int) : centroidNumK a = centroidNum a := rfl

theorem centroidNumK_sums {K : Type} [CommRing K] (n0 n1 : ℕ) (g : Int → Int → K) :
    centroidNumK ⟨n0, n1, g⟩ =
      (∑ p ∈ range n0 ×ˢ range n1, (p.1 : K) * g p.1 p.2, ∑ p ∈ range n0 ×ˢ range n1, (p.2 : K) * g p.1 p.2,
       ∑ p ∈ range n0 ×ˢ range n1, g p.1 p.2) := by
  unfold centroidNumK
  simp only [Arr.total_eq, sumRange_eq, Int.toNat_natCast, Finset.sum_product]

theorem centroidRC_eq {K : Type} [Field K] (a : Arr K) :
    centroidRC a = ((centroidNumK a).1 / (centroidNumK a).2.2, (centroidNumK a).2.1 / (centroidNumK a).2.2) := by
  unfold centroidRC Gen.centroid centroidNumK Gen.centroidWeight
  simp only [Arr.total_eq, sumRange_eq, Gen.centroidGrid, zero_add, Int.cast_natCast, div_eq_mul_inv, ← mul_assoc, ← Finset.sum_mul]

/-- the half-turn `p ↦ (2c₀ − p.1, 2c₁ − p.2)` pairs the non-zero terms with opposite signs (`π` is the coordinate the moment is taken in,
`c` its centre); the fixed point carries weight 0, so no division by 2 is needed -/
theorem moment_zero_of_half_turn {K : Type} [CommRing K] (n0 n1 c0 c1 : ℕ) (g : Int → Int → K) (π : ℕ × ℕ → ℕ) (c : ℕ)
    (hπ : ∀ p : ℕ × ℕ, p.1 ≤ 2 * c0 → p.2 ≤ 2 * c1 → π p ≤ 2 * c ∧ π (2 * c0 - p.1, 2 * c1 - p.2) = 2 * c - π p)
    (hsym : ∀ i j : ℕ, i < n0 → j < n1 → g i j ≠ 0 →
      i ≤ 2 * c0 ∧ j ≤ 2 * c1 ∧ 2 * c0 - i < n0 ∧ 2 * c1 - j < n1 ∧ g ((2 * c0 - i : ℕ) : Int) ((2 * c1 - j : ℕ) : Int) = g i j) :
    ∑ p ∈ range n0 ×ˢ range n1, ((π p : K) - c) * g p.1 p.2 = 0 := by
  classical
  rw [← Finset.sum_filter_ne_zero]
  have key : ∀ p ∈ (range n0 ×ˢ range n1).filter (fun p => ((π p : K) - c) * g p.1 p.2 ≠ 0),
      p.1 ≤ 2 * c0 ∧ p.2 ≤ 2 * c1 ∧ 2 * c0 - p.1 < n0 ∧ 2 * c1 - p.2 < n1 ∧
        g ((2 * c0 - p.1 : ℕ) : Int) ((2 * c1 - p.2 : ℕ) : Int) = g p.1 p.2 := by
    intro p hp
    rw [Finset.mem_filter, Finset.mem_product, Finset.mem_range, Finset.mem_range] at hp
    exact hsym p.1 p.2 hp.1.1 hp.1.2 fun h => hp.2 (by rw [h, mul_zero])
  have flip : ∀ p : ℕ × ℕ, p.1 ≤ 2 * c0 → p.2 ≤ 2 * c1 → ((π (2 * c0 - p.1, 2 * c1 - p.2) : ℕ) : K) - c = -((π p : K) - c) := by
    intro p h1 h2
    rw [(hπ p h1 h2).2, Nat.cast_sub (hπ p h1 h2).1]; push_cast; ring
  apply Finset.sum_involution (fun p _ => (2 * c0 - p.1, 2 * c1 - p.2))
  · intro p hp
    obtain ⟨a1, a2, -, -, a5⟩ := key p hp
    simp only
    rw [a5, flip p a1 a2]; ring
  · intro p hp hne heq
    obtain ⟨a1, a2, -, -, -⟩ := key p hp
    have e : π p = c := by have := (hπ p a1 a2).2; rw [heq] at this; have := (hπ p a1 a2).1; omega
    exact hne (by rw [e, sub_self, zero_mul])
  · intro p hp
    obtain ⟨a1, a2, a3, a4, a5⟩ := key p hp
    rw [Finset.mem_filter, Finset.mem_product, Finset.mem_range, Finset.mem_range]
    refine ⟨⟨a3, a4⟩, ?_⟩
    simp only
    rw [a5, flip p a1 a2, neg_mul, neg_ne_zero]
    exact (Finset.mem_filter.1 hp).2
  · intro p hp
    obtain ⟨a1, a2, -, -, -⟩ := key p hp
    simp only
    ext <;> simp only <;> omega

theorem centroid_half_turn {K : Type} [CommRing K] (n0 n1 c0 c1 : ℕ) (g : Int → Int → K)
    (hsym : ∀ i j : ℕ, i < n0 → j < n1 → g i j ≠ 0 →
      i ≤ 2 * c0 ∧ j ≤ 2 * c1 ∧ 2 * c0 - i < n0 ∧ 2 * c1 - j < n1 ∧ g ((2 * c0 - i : ℕ) : Int) ((2 * c1 - j : ℕ) : Int) = g i j) :
    centroidNumK ⟨n0, n1, g⟩ = ((c0 : K) * (centroidNumK ⟨n0, n1, g⟩).2.2, (c1 : K) * (centroidNumK ⟨n0, n1, g⟩).2.2,
      (centroidNumK ⟨n0, n1, g⟩).2.2) := by
  rw [centroidNumK_sums]
  have r := moment_zero_of_half_turn n0 n1 c0 c1 g Prod.fst c0 (fun p h1 _ => ⟨h1, rfl⟩) hsym
  have c := moment_zero_of_half_turn n0 n1 c0 c1 g Prod.snd c1 (fun p _ h2 => ⟨h2, rfl⟩) hsym
  simp only [sub_mul, Finset.sum_sub_distrib, ← Finset.mul_sum] at r c
  refine Prod.ext ?_ (Prod.ext ?_ rfl)
  · simp only; linear_combination r
  · simp only; linear_combination c

end Lentil
