import LentilVerif.Lemmas.Insert
import LentilVerif.Lemmas.Sums
import LentilVerif.Model.Propagate
import Mathlib.Algebra.BigOperators.Group.List.Basic
import Mathlib.Algebra.Ring.Defs
/-! `Wavefront.field` (every field inserted into zeros) is the sum of the fields' embeddings on the canvas; read on the fields
`propagate_dft` returns, that is the sum over the input fields of what the loop body produces for each (`propagateDft_get`). -/
namespace Lentil

variable {K : Type}

theorem sumList_filterMap_emb [AddMonoid K] {α : Type} (l : List α) (F : α → Option (Fld K)) (r c : Int) :
    sumList (l.filterMap F) (fun g => g.emb r c) = sumList l (fun x => embO (F x) r c) := by
  induction l with
  | nil => rfl
  | cons x xs ih =>
    rw [sumList_cons, ← ih]
    cases h : F x with
    | none => rw [List.filterMap_cons_none h]; exact (zero_add _).symm
    | some y => rw [List.filterMap_cons_some h, sumList_cons]; rfl

theorem foldInsert_get_post [NonUnitalNonAssocSemiring K] (fs : List (Fld K)) (out : Arr K) (w : K) (post : K → K)
    (hpost : post 0 = 0) (i j : Int) (hi : 0 ≤ i ∧ i < out.s0) (hj : 0 ≤ j ∧ j < out.s1) :
    (fs.foldl (fun o f => insertArr f o w post) out).get i j =
      out.get i j + (fs.map fun f => post (f.emb (i - out.s0 / 2) (j - out.s1 / 2)) * w).sum := by
  induction fs generalizing out with
  | nil => exact (add_zero _).symm
  | cons f fs ih =>
    rw [List.foldl_cons, List.map_cons, List.sum_cons,
      ih (insertArr f out w post) (by rw [insertArr_s0]; exact hi) (by rw [insertArr_s1]; exact hj),
      insertArr_get_emb f out w post hpost i j hi hj, insertArr_s0, insertArr_s1, add_assoc]

variable [NonAssocSemiring K]

theorem foldInsert_get (fs : List (Fld K)) (out : Arr K) (i j : Int) (hi : 0 ≤ i ∧ i < out.s0) (hj : 0 ≤ j ∧ j < out.s1) :
    (fs.foldl (fun o f => insertArr f o 1) out).get i j =
      out.get i j + (fs.map fun f => f.emb (i - out.s0 / 2) (j - out.s1 / 2)).sum := by
  rw [foldInsert_get_post fs out 1 id rfl i j hi hj]
  simp only [id, mul_one]

/-- `Wavefront.field[i][j]`; the optical axis is sample `floor(S/2)` -/
theorem wavefrontField_get (fs : List (Fld K)) (S0 S1 i j : Int) (hi : 0 ≤ i ∧ i < S0) (hj : 0 ≤ j ∧ j < S1) :
    (wavefrontField 1 fs S0 S1).get i j = (fs.map fun f => f.emb (i - S0 / 2) (j - S1 / 2)).sum := by
  unfold wavefrontField
  rw [foldInsert_get fs _ i j hi hj]; simp

/-- a sum over the INPUT fields: one the loop body drops contributes `embO none = 0` -/
theorem propagateDft_get {R : Type} [Add R] [Sub R] [Mul R] [Neg R] [RealLike R] [CxLike K R]
    (fs : List (TField K R)) (αr αc : R) (S0 S1 P0 P1 os : Int) (mask : Option Extent) (i j : Int)
    (hi : 0 ≤ i ∧ i < S0 * os) (hj : 0 ≤ j ∧ j < S1 * os) :
    (wavefrontField 1 (propagateDft fs αr αc S0 S1 P0 P1 os mask) (S0 * os) (S1 * os)).get i j =
      (fs.map fun t => embO (propagateField t αr αc (outExtent (S0 * os) (S1 * os) mask) (P0 * os) (P1 * os))
        (i - S0 * os / 2) (j - S1 * os / 2)).sum := by
  rw [wavefrontField_get _ _ _ i j hi hj, ← sumList_eq_sum, ← sumList_eq_sum]
  exact sumList_filterMap_emb _ _ _ _

end Lentil
