import LentilVerif.Lemmas.PropLinear
import LentilVerif.Lemmas.Canvas
import LentilVerif.Lemmas.Geometry
/-! An array that holds, sample by sample, the sum of fields lying within its shape — `Wavefront.field`, and the padded grid that
`propagate_fft` transforms (Lemmas/Fft.lean) — is, read with the centre convention, the sum of the fields' embeddings on the infinite plane
(`emb_eq_sum_of_get`). Hence its `dft2` is the sum over the fields of `dft2` of each field with its own offset, what `propagate_dft`
computes per field (`dft2_eq_sum_of_emb`, by the additivity of the transform in the embedded field, Lemmas/PropLinear.lean). -/
namespace Lentil

section within
variable {K : Type}

/-- a field lies on the `W0 x W1` canvas of its wavefront -/
def Fld.within (f : Fld K) (W0 W1 : Int) : Prop :=
  (arrayExtent W0 W1 0 0).rmin ≤ f.extent.rmin ∧ f.extent.rmax ≤ (arrayExtent W0 W1 0 0).rmax ∧
  (arrayExtent W0 W1 0 0).cmin ≤ f.extent.cmin ∧ f.extent.cmax ≤ (arrayExtent W0 W1 0 0).cmax

theorem Fld.within_mono {f : Fld K} {W0 W1 S0 S1 : Int} (h : f.within W0 W1) (h0 : W0 ≤ S0) (h1 : W1 ≤ S1) : f.within S0 S1 := by
  have axis : ∀ W S : Int, W ≤ S → -(S / 2) + 0 ≤ -(W / 2) + 0 ∧ -(W / 2) + 0 + W - 1 ≤ -(S / 2) + 0 + S - 1 :=
    fun W S h => by omega
  unfold Fld.within at *
  simp only [arrayExtent_eq] at *
  exact ⟨(axis _ _ h0).1.trans h.1, h.2.1.trans (axis _ _ h0).2, (axis _ _ h1).1.trans h.2.2.1, h.2.2.2.trans (axis _ _ h1).2⟩

theorem emb_zero_outside [Zero K] (f : Fld K) (W0 W1 : Int) (hw : f.within W0 W1) (r c : Int)
    (h : ¬ ((arrayExtent W0 W1 0 0).inb r c = true)) : f.emb r c = 0 := by
  refine if_neg fun hh => h ?_
  rw [Extent.inb_iff] at hh ⊢
  unfold Fld.within at hw; omega

theorem Arr.centred_eq_emb [Zero K] (a : Arr K) (r c : Int) : a.centred r c = (Fld.mk a 0 0).emb r c := by
  rw [Fld.emb_apply]
  simp only [Arr.centred, inWin, Bool.and_eq_true, decide_eq_true_eq, sub_zero, and_assoc]

end within

section
variable {K : Type} [Semiring K]

theorem emb_eq_sum_of_get (a : Arr K) (S0 S1 : Int) (hs : a.s0 = S0 ∧ a.s1 = S1) (fs : List (Fld K)) (hfit : ∀ f ∈ fs, f.within S0 S1)
    (hget : ∀ i j, 0 ≤ i ∧ i < S0 → 0 ≤ j ∧ j < S1 → a.get i j = (fs.map fun f => f.emb (i - S0 / 2) (j - S1 / 2)).sum)
    (r c : Int) : (Fld.mk a 0 0).emb r c = sumList fs (fun f => f.emb r c) := by
  rw [sumList_eq_sum]
  unfold Fld.emb embAt
  simp only [Fld.extent, hs.1, hs.2]
  by_cases hin : (arrayExtent S0 S1 0 0).inb r c = true
  · rw [if_pos hin]
    rw [Extent.inb_iff, arrayExtent_eq] at hin
    rw [arrayExtent_eq]; simp only at hin ⊢
    rw [hget _ _ (by omega) (by omega)]
    refine congrArg List.sum (List.map_congr_left fun f _ => ?_)
    congr 1 <;> omega
  · rw [if_neg hin]
    exact (List.sum_eq_zero (List.forall_mem_map.mpr fun f hf => emb_zero_outside f S0 S1 (hfit f hf) r c hin)).symm

theorem wavefrontField_shape (fs : List (Fld K)) (W0 W1 : Int) :
    (wavefrontField 1 fs W0 W1).s0 = W0 ∧ (wavefrontField 1 fs W0 W1).s1 = W1 :=
  foldInsert_shape fs ({ s0 := W0, s1 := W1, get := fun _ _ => (0 : K) } : Arr K) (1 : K)

theorem canvas_emb (fs : List (Fld K)) (W0 W1 : Int) (hfit : ∀ f ∈ fs, f.within W0 W1) (r c : Int) :
    (Fld.mk (wavefrontField 1 fs W0 W1) 0 0).emb r c = sumList fs (fun f => f.emb r c) :=
  emb_eq_sum_of_get _ W0 W1 (wavefrontField_shape fs W0 W1) fs hfit (wavefrontField_get fs W0 W1) r c

/-- `Wavefront.field` of one origin-centred array on a smaller canvas is the central crop -/
theorem wavefrontField_crop (a : Arr K) (S0 S1 : Int) (hs : a.s0 = S0 ∧ a.s1 = S1) (s0 s1 : Int) (h0 : s0 ≤ S0) (h1 : s1 ≤ S1)
    (i j : Int) (hi : 0 ≤ i ∧ i < s0) (hj : 0 ≤ j ∧ j < s1) :
    (wavefrontField 1 [⟨a, 0, 0⟩] s0 s1).get i j = a.get (i - s0 / 2 + S0 / 2) (j - s1 / 2 + S1 / 2) := by
  have axis : ∀ s S i : Int, s ≤ S → 0 ≤ i ∧ i < s → 0 ≤ i - s / 2 + S / 2 ∧ i - s / 2 + S / 2 < S := fun s S i h hi => by omega
  rw [wavefrontField_get _ s0 s1 i j hi hj, List.map_singleton, List.sum_singleton, ← Arr.centred_eq_emb, Arr.centred, hs.1, hs.2]
  exact if_pos (by simp only [inWin, Bool.and_eq_true, decide_eq_true_eq]; exact ⟨axis _ _ _ h0 hi, axis _ _ _ h1 hj⟩)

end

section
variable {K R : Type} [Sub R] [Mul R] [Neg R] [RealLike R] [CommRing K] [CxLike K R]

theorem dft2_eq_sum_of_emb (a : Arr K) (ha : 0 ≤ a.s0 ∧ 0 ≤ a.s1) (fs : List (Fld K)) (hpos : ∀ f ∈ fs, 0 ≤ f.arr.s0 ∧ 0 ≤ f.arr.s1)
    (hemb : ∀ r c, (Fld.mk a 0 0).emb r c = sumList fs (fun f => f.emb r c))
    (αr αc : R) (M N : Int) (shr shc : R) (un : Bool) (u v : Int) :
    (dft2 a αr αc M N shr shc 0 0 un).get u v = (fs.map fun f => (dft2 f.arr αr αc M N shr shc f.o0 f.o1 un).get u v).sum := by
  have h := dft2_total_congr [⟨a, 0, 0⟩] fs (List.forall_mem_singleton.mpr ha) hpos
    (fun r c => by rw [sumList_singleton]; exact hemb r c) αr αc M N shr shc un u v
  rwa [sumList_singleton, sumList_eq_sum] at h

theorem dft2_canvas (fs : List (Fld K)) (W0 W1 : Int) (hWp : 0 < W0 ∧ 0 < W1) (hfit : ∀ f ∈ fs, f.within W0 W1)
    (hpos : ∀ f ∈ fs, 0 < f.arr.s0 ∧ 0 < f.arr.s1)
    (αr αc : R) (M N : Int) (shr shc : R) (un : Bool) (u v : Int) :
    (dft2 (wavefrontField 1 fs W0 W1) αr αc M N shr shc 0 0 un).get u v =
      (fs.map fun f => (dft2 f.arr αr αc M N shr shc f.o0 f.o1 un).get u v).sum :=
  dft2_eq_sum_of_emb _ (by rw [(wavefrontField_shape fs W0 W1).1, (wavefrontField_shape fs W0 W1).2]; exact hWp.imp le_of_lt le_of_lt)
    fs (shape_nonneg_of_pos hpos) (canvas_emb fs W0 W1 hfit) αr αc M N shr shc un u v

end

end Lentil
