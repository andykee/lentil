import LentilVerif.Model.FieldPublicFlow
import LentilVerif.Lemmas.Merge
import LentilVerif.Lemmas.Sums
/-! `lentil.field._disjoint` and `reduce` on plain arrays. `_disjoint` merges the first intersecting pair of groups until none is left.
Every step keeps the group invariant `Group.wf` and the total of any additive functional of the member fields, so the fields `reduce`
returns are pairwise non-intersecting and carry the total of the inputs (`reduceGroups_spec`). -/
namespace Lentil
variable {K : Type}

/-! ### the index list of `itertools.combinations(range(n), 2)` and `firstPair` -/

/-- the pairs (m, k), m < k < n, in `combinations` order — the list `firstPair` searches -/
def pairIdx (n : Nat) : List (Nat × Nat) :=
  (List.range n).flatMap fun m => ((List.range n).filter fun k => m < k).map fun k => (m, k)

/-- the test `firstPair` applies to a pair of indices -/
def pairPred (gs : List (Group K)) : Nat × Nat → Bool := fun (m, k) =>
  match gs[m]?, gs[k]? with
  | some gm, some gk => intersect gm.extent gk.extent
  | _, _ => false

theorem firstPair_eq (gs : List (Group K)) : firstPair gs = (pairIdx gs.length).find? (pairPred gs) := rfl

theorem mem_pairIdx (n m k : Nat) : (m, k) ∈ pairIdx n ↔ m < k ∧ k < n := by
  simp only [pairIdx, List.mem_flatMap, List.mem_map, List.mem_filter, List.mem_range, decide_eq_true_eq,
    Prod.mk.injEq]
  constructor
  · rintro ⟨a, ha, b, ⟨hb, hab⟩, rfl, rfl⟩; exact ⟨hab, hb⟩
  · rintro ⟨h1, h2⟩; exact ⟨m, by omega, k, ⟨h2, h1⟩, rfl, rfl⟩

theorem pairPred_eq (gs : List (Group K)) (m k : Nat) (hm : m < gs.length) (hk : k < gs.length) :
    pairPred gs (m, k) = intersect gs[m].extent gs[k].extent := by
  simp only [pairPred, List.getElem?_eq_getElem hm, List.getElem?_eq_getElem hk]

theorem firstPair_some (gs : List (Group K)) (m k : Nat) (h : firstPair gs = some (m, k)) :
    ∃ (hmk : m < k) (hk : k < gs.length), intersect (gs[m]'(by omega)).extent gs[k].extent = true := by
  rw [firstPair_eq] at h
  have hmem := List.mem_of_find?_eq_some h
  have hp := List.find?_some h
  rw [mem_pairIdx] at hmem
  obtain ⟨hmk, hk⟩ := hmem
  rw [pairPred_eq gs m k (by omega) hk] at hp
  exact ⟨hmk, hk, hp⟩

theorem firstPair_none_iff (gs : List (Group K)) :
    firstPair gs = none ↔ ∀ (m k : Nat) (_ : m < k) (hk : k < gs.length), intersect (gs[m]'(by omega)).extent gs[k].extent = false := by
  rw [firstPair_eq, List.find?_eq_none]
  constructor
  · intro h m k hmk hk
    have := h (m, k) ((mem_pairIdx _ _ _).2 ⟨hmk, hk⟩)
    rwa [pairPred_eq gs m k (by omega) hk, Bool.not_eq_true] at this
  · rintro h ⟨m, k⟩ hmem
    rw [mem_pairIdx] at hmem
    rw [pairPred_eq gs m k (by omega) hmem.2, h m k hmem.1 hmem.2]
    exact Bool.false_ne_true

/-! ### `combinations(l, 2)` (as `Lentil.combos`) and the double scan of `pairIdx` over an increasing `l` are both `pairsL l`

`C06.disjoint_scan_spec` joins the two at `l = range n`. -/

/-- the pairs (x, y) with `x` before `y` in `l`, in lexicographic order of positions -/
def pairsL : List Nat → List (Nat × Nat)
  | [] => []
  | x :: xs => xs.map (fun k => (x, k)) ++ pairsL xs

theorem combos_one (l : List Nat) : combos 1 l = l.map fun x => [x] := by
  induction l with
  | nil => rfl
  | cons x xs ih => simp [combos, ih]

theorem combos_two_pairs (l : List Nat) : (combos 2 l).filterMap toPair = pairsL l := by
  induction l with
  | nil => rfl
  | cons x xs ih =>
    simp only [combos, List.filterMap_append, ih, pairsL, combos_one, List.map_map, List.filterMap_map]
    congr 1
    have hf : (toPair ∘ (fun t => x :: t) ∘ fun y => [y]) = some ∘ (fun k => (x, k)) := by funext k; rfl
    rw [hf]; simp

theorem scan_pairs (l : List Nat) (h : l.Pairwise (· < ·)) :
    (l.flatMap fun m => (l.filter fun k => m < k).map fun k => (m, k)) = pairsL l := by
  induction l with
  | nil => rfl
  | cons x xs ih =>
    have hx : ∀ k ∈ xs, x < k := (List.pairwise_cons.mp h).1
    have hxs := (List.pairwise_cons.mp h).2
    rw [List.flatMap_cons, pairsL]
    congr 1
    · have : (x :: xs).filter (fun k => decide (x < k)) = xs := by
        rw [List.filter_cons_of_neg (by simp)]
        exact List.filter_eq_self.mpr (fun k hk => by simpa using hx k hk)
      rw [this]
    · rw [← ih hxs, List.flatMap_def, List.flatMap_def]
      refine congrArg List.flatten (List.map_congr_left fun m hm => ?_)
      have : ¬ m < x := Nat.not_lt.mpr (Nat.le_of_lt (hx m hm))
      rw [List.filter_cons_of_neg (by simpa using this)]

/-! ### one step of `_disjoint` -/

/-- `fields[m]['field'].extend(fields[n]['field']); fields[m]['extent'] = boundary(fields[m]['field'])` -/
def mergeGroups (gm gk : Group K) : Group K :=
  { fields := gm.fields ++ gk.fields, extent := boundaryL ((gm.fields ++ gk.fields).map Fld.extent) }

theorem disjoint_zero (gs : List (Group K)) : disjoint 0 gs = gs := rfl

theorem disjoint_eq_self (fuel : Nat) (gs : List (Group K)) (h : firstPair gs = none) : disjoint fuel gs = gs := by
  cases fuel with
  | zero => rfl
  | succ fuel => unfold disjoint; simp only [h]

theorem disjoint_succ_some (fuel : Nat) (gs : List (Group K)) (m k : Nat) (hm : m < gs.length) (hk : k < gs.length)
    (h : firstPair gs = some (m, k)) :
    disjoint (fuel + 1) gs = disjoint fuel ((gs.set m (mergeGroups gs[m] gs[k])).eraseIdx k) := by
  conv => lhs; unfold disjoint
  -- the step constants recognised in the source: keep m, append n, recompute m, pop n
  have hst : Gen.disjointStep = (0, 1, 0, 1) := rfl
  simp only [h, hst, if_true, Int.reduceEq, if_false, List.getElem?_eq_getElem hm, List.getElem?_eq_getElem hk,
    List.getElem?_set_self hm, List.set_set, mergeGroups]

theorem disjoint_induction (P : List (Group K) → Prop)
    (hstep : ∀ (gs : List (Group K)) (m k : Nat) (hmk : m < k) (hk : k < gs.length),
      intersect (gs[m]'(by omega)).extent gs[k].extent = true → P gs →
      P ((gs.set m (mergeGroups (gs[m]'(by omega)) gs[k])).eraseIdx k))
    (fuel : Nat) (gs : List (Group K)) (h0 : P gs) : P (disjoint fuel gs) := by
  induction fuel generalizing gs with
  | zero => exact h0
  | succ fuel ih =>
    cases hfp : firstPair gs with
    | none => rw [disjoint_eq_self _ gs hfp]; exact h0
    | some mk =>
      obtain ⟨m, k⟩ := mk
      obtain ⟨hmk, hk, hint⟩ := firstPair_some gs m k hfp
      rw [disjoint_succ_some fuel gs m k (by omega) hk hfp]
      exact ih _ (hstep gs m k hmk hk hint h0)

theorem step_length (gs : List (Group K)) (m k : Nat) (g : Group K) (hk : k < gs.length) :
    ((gs.set m g).eraseIdx k).length = gs.length - 1 := by
  rw [List.length_eraseIdx, List.length_set, if_pos hk]

theorem disjoint_fixed (fuel : Nat) (gs : List (Group K)) (h : gs.length ≤ fuel) : firstPair (disjoint fuel gs) = none := by
  induction fuel generalizing gs with
  | zero =>
    have : gs = [] := List.eq_nil_of_length_eq_zero (by omega)
    subst this; rfl
  | succ fuel ih =>
    cases hfp : firstPair gs with
    | none => rw [disjoint_eq_self _ gs hfp]; exact hfp
    | some mk =>
      obtain ⟨m, k⟩ := mk
      obtain ⟨hmk, hk, _⟩ := firstPair_some gs m k hfp
      rw [disjoint_succ_some fuel gs m k (by omega) hk hfp]
      apply ih
      rw [step_length gs m k _ hk]; omega

/-- invariant of the groups of `_reduce`: member fields of positive shape; a singleton group caches its field's
extent, a group of two or more caches `boundary` of its members -/
structure Group.wf (g : Group K) : Prop where
  pos : ∀ f ∈ g.fields, 0 < f.arr.s0 ∧ 0 < f.arr.s1
  ext : (∃ f, g.fields = [f] ∧ g.extent = f.extent) ∨
        (2 ≤ g.fields.length ∧ g.extent = boundaryL (g.fields.map Fld.extent))

theorem Group.wf.ne_nil {g : Group K} (h : g.wf) : g.fields ≠ [] := by
  rcases h.ext with ⟨f, hf, _⟩ | ⟨hl, _⟩
  · rw [hf]; simp
  · intro h0; rw [h0] at hl; simp at hl

/-- the initial group `{'field': [f], 'extent': f.extent}` of `_reduce` -/
def Group.single (f : Fld K) : Group K := { fields := [f], extent := f.extent }

theorem Group.single_wf (f : Fld K) (hf : 0 < f.arr.s0 ∧ 0 < f.arr.s1) : (Group.single f).wf :=
  ⟨List.forall_mem_singleton.mpr hf, Or.inl ⟨f, rfl, rfl⟩⟩

theorem mergeGroups_two_le (a b : Group K) (ha : a.wf) (hb : b.wf) : 2 ≤ (mergeGroups a b).fields.length := by
  have h1 := List.length_pos_of_ne_nil ha.ne_nil
  have h2 := List.length_pos_of_ne_nil hb.ne_nil
  simp only [mergeGroups, List.length_append]; omega

theorem mergeGroups_wf (a b : Group K) (ha : a.wf) (hb : b.wf) : (mergeGroups a b).wf :=
  ⟨fun f hf => (List.mem_append.mp hf).elim (ha.pos f) (hb.pos f), Or.inr ⟨mergeGroups_two_le a b ha hb, rfl⟩⟩

theorem exists_eq_map_some {α} (l : List (Option α)) (h : ∀ o ∈ l, o.isSome = true) : ∃ out : List α, l = out.map some :=
  ⟨l.pmap Option.get h, by simp only [List.map_pmap, Option.some_get, List.pmap_eq_map, List.map_id']⟩

theorem map_eq_of_map_some {α β γ} {f : α → Option β} {gs : List α} {out : List β} (h : gs.map f = out.map some)
    (u : α → γ) (v : β → γ) (huv : ∀ a ∈ gs, ∀ b, f a = some b → v b = u a) : out.map v = gs.map u := by
  induction gs generalizing out with
  | nil =>
    cases out with
    | nil => rfl
    | cons p ps => simp at h
  | cons g gs ih =>
    cases out with
    | nil => simp at h
    | cons p ps =>
      simp only [List.map_cons, List.cons.injEq] at h
      rw [List.map_cons, List.map_cons, huv g List.mem_cons_self p h.1,
        ih h.2 fun a ha => huv a (List.mem_cons_of_mem _ ha)]

/-! ### what `reduce` returns for one group -/

/-- `_merge(f['field']) if len(f['field']) > 1 else f['field'][0]` -/
def Group.out [Add K] [Zero K] (g : Group K) : Option (Fld K) :=
  match g.fields with
  | [f] => some f
  | l => mergeL l

/-- the groups `lentil.field._reduce(fields)` returns: one group per field, merged by `_disjoint` (as many steps as there
are fields suffice: `disjoint_fixed`) -/
def reduceGroups (fs : List (Fld K)) : List (Group K) := disjoint fs.length (fs.map Group.single)

theorem reduce_eq [Add K] [Zero K] (fs : List (Fld K)) : reduce fs = (reduceGroups fs).map Group.out := rfl

theorem Group.out_of_two_le [Add K] [Zero K] (g : Group K) (h : 2 ≤ g.fields.length) : g.out = mergeL g.fields := by
  unfold Group.out
  match g.fields, h with
  | _ :: _ :: _, _ => rfl

theorem Group.out_isSome [Add K] [Zero K] (g : Group K) : g.out.isSome = true := by
  unfold Group.out
  split
  · rfl
  · exact mergeL_isSome _

theorem Group.out_spec [AddMonoid K] (g : Group K) (hg : g.wf) (p : Fld K) (h : g.out = some p) :
    p.extent = g.extent ∧ ∀ r c, p.emb r c = (g.fields.map fun f => f.emb r c).sum := by
  rcases hg.ext with ⟨f, hf, he⟩ | ⟨hl, he⟩
  · rw [Group.out, hf, Option.some.injEq] at h
    subst h
    exact ⟨he.symm, fun r c => by rw [hf]; exact List.sum_singleton.symm⟩
  · rw [Group.out_of_two_le g hl] at h
    obtain ⟨e1, e2⟩ := mergeL_spec g.fields p h
    exact ⟨e1.trans he.symm, fun r c => by rw [e2, sumList_eq_sum]⟩

/-! ### the total is preserved by every step -/

theorem sum_set_erase [AddCommMonoid K] (l : List K) (m k : Nat) (hmk : m < k) (hk : k < l.length) :
    ((l.set m ((l[m]'(by omega)) + l[k])).eraseIdx k).sum = l.sum := by
  induction l generalizing m k with
  | nil => simp at hk
  | cons x xs ih =>
    cases k with
    | zero => omega
    | succ k =>
      simp only [List.length_cons, Nat.add_lt_add_iff_right] at hk
      cases m with
      | zero =>
        simp only [List.getElem_cons_zero, List.getElem_cons_succ, List.set_cons_zero, List.eraseIdx_cons_succ,
          List.sum_cons]
        rw [add_assoc, List.CommMonoid.add_sum_eraseIdx hk]
      | succ m =>
        simp only [List.getElem_cons_succ, List.set_cons_succ, List.eraseIdx_cons_succ, List.sum_cons]
        rw [ih m k (by omega) hk]

/-- weight of a group for a fixed additive functional `e` of fields -/
def Group.weight {M : Type} [AddCommMonoid M] (e : Fld K → M) (g : Group K) : M := (g.fields.map e).sum

theorem step_total {M : Type} [AddCommMonoid M] (e : Fld K → M) (gs : List (Group K)) (m k : Nat) (hmk : m < k) (hk : k < gs.length) :
    (((gs.set m (mergeGroups (gs[m]'(by omega)) gs[k])).eraseIdx k).map (Group.weight e)).sum
      = (gs.map (Group.weight e)).sum := by
  have hw : Group.weight e (mergeGroups (gs[m]'(by omega)) gs[k]) =
      ((gs.map (Group.weight e))[m]'(by rw [List.length_map]; omega)) +
      ((gs.map (Group.weight e))[k]'(by rw [List.length_map]; omega)) := by
    simp only [Group.weight, mergeGroups, List.map_append, List.sum_append, List.getElem_map]
  rw [← List.eraseIdx_map, List.map_set, hw]
  exact sum_set_erase _ m k hmk (by rw [List.length_map]; exact hk)

theorem singles_disjoint_wf (fs : List (Fld K)) (hpos : ∀ f ∈ fs, 0 < f.arr.s0 ∧ 0 < f.arr.s1) (fuel : Nat) :
    ∀ g ∈ disjoint fuel (fs.map Group.single), g.wf := by
  refine disjoint_induction (fun gs => ∀ g ∈ gs, g.wf) ?_ fuel _
    (List.forall_mem_map.mpr fun f hf => Group.single_wf f (hpos f hf))
  intro gs m k hmk hk _ hP g hg
  rcases List.mem_or_eq_of_mem_set (List.mem_of_mem_eraseIdx hg) with h1 | rfl
  · exact hP g h1
  · exact mergeGroups_wf _ _ (hP _ (List.getElem_mem _)) (hP _ (List.getElem_mem _))

theorem reduceGroups_total {M : Type} [AddCommMonoid M] (e : Fld K → M) (fs : List (Fld K)) :
    ((reduceGroups fs).map (Group.weight e)).sum = (fs.map e).sum := by
  refine disjoint_induction (fun gs => (gs.map (Group.weight e)).sum = (fs.map e).sum)
    (fun gs m k hmk hk _ hP => (step_total e gs m k hmk hk).trans hP) _ _ ?_
  rw [List.map_map]
  exact congrArg _ (List.map_congr_left fun f _ => List.sum_singleton)

/-- stated for any list `out` with the cached extents and the summed embeddings of the final groups, so that `reduce` and the
0-d aware `reduceZ` share it -/
theorem reduceGroups_spec [AddCommMonoid K] (fs out : List (Fld K))
    (hext : out.map Fld.extent = (reduceGroups fs).map Group.extent)
    (hemb : ∀ r c, (out.map fun f => f.emb r c) =
      (reduceGroups fs).map fun g => (g.fields.map fun f => f.emb r c).sum) :
    out.Pairwise (fun a b => intersect a.extent b.extent = false) ∧
    ∀ r c, sumList out (fun f => f.emb r c) = sumList fs (fun f => f.emb r c) := by
  constructor
  · have hfix := disjoint_fixed fs.length (fs.map Group.single) (by rw [List.length_map])
    have hp : (out.map Fld.extent).Pairwise (fun a b => intersect a b = false) := by
      rw [hext, List.pairwise_map, List.pairwise_iff_getElem]
      exact fun i j _ hj hij => (firstPair_none_iff _).mp hfix i j hij hj
    exact List.pairwise_map.mp hp
  · intro r c
    rw [sumList_eq_sum, sumList_eq_sum, hemb r c]
    exact reduceGroups_total (fun f => f.emb r c) fs

theorem reduce_out_spec [AddCommMonoid K] (fs : List (Fld K)) (hpos : ∀ f ∈ fs, 0 < f.arr.s0 ∧ 0 < f.arr.s1)
    (out : List (Fld K)) (hout : reduce fs = out.map some) :
    out.Pairwise (fun a b => intersect a.extent b.extent = false) ∧
    ∀ r c, sumList out (fun f => f.emb r c) = sumList fs (fun f => f.emb r c) := by
  have hwf : ∀ g ∈ reduceGroups fs, g.wf := singles_disjoint_wf fs hpos fs.length
  rw [reduce_eq] at hout
  exact reduceGroups_spec fs out (map_eq_of_map_some hout _ _ fun g hg p hp => (Group.out_spec g (hwf g hg) p hp).1)
    fun r c => map_eq_of_map_some hout _ _ fun g hg p hp => (Group.out_spec g (hwf g hg) p hp).2 r c

/-! ### concrete fields for the non-vacuity examples in Props/C06.lean -/
namespace Ex
/-- 2×2 at the origin: extent (−1, 0, −1, 0) -/
def A : Fld Int := ⟨⟨2, 2, fun i j => 1 + i + 2 * j⟩, 0, 0⟩
/-- 2×3 at (1, 1): extent (0, 1, 0, 2) — shares the pixel (0, 0) with `A` -/
def B : Fld Int := ⟨⟨2, 3, fun i j => 10 + i - j⟩, 1, 1⟩
/-- 1×2 at (5, −5): extent (5, 5, −6, −5) — far from everything -/
def C : Fld Int := ⟨⟨1, 2, fun _ j => 7 + j⟩, 5, -5⟩
/-- 1×2 at (−1, 2): extent (−1, −1, 1, 2) — meets neither `A` nor `B`, but lies in the bounding box of `A ∪ B` -/
def D : Fld Int := ⟨⟨1, 2, fun _ j => 100 + j⟩, -1, 2⟩
/-- wholly negative extents: 2×2 at (−5, −5) → (−6, −5, −6, −5); 1×3 at (−8, −3) → (−8, −8, −4, −2) -/
def N1 : Fld Int := ⟨⟨2, 2, fun i j => 1 + i + 2 * j⟩, -5, -5⟩
def N2 : Fld Int := ⟨⟨1, 3, fun _ j => 20 + j⟩, -8, -3⟩
/-- a 3×3 target with content -/
def T : Arr Int := ⟨3, 3, fun i j => 3 * i + j⟩
/-- 2×2 field at (9, 9): wholly outside `T` (the D20 witness shape) -/
def O : Fld Int := ⟨⟨2, 2, fun i j => 1 + i + 2 * j⟩, 9, 9⟩
end Ex

end Lentil
