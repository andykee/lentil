import LentilVerif.Model.Rescale
import Mathlib.Algebra.Order.Floor.Ring
import Mathlib.Algebra.Order.Field.Basic
import Mathlib.Data.Rat.Floor
import Mathlib.Tactic.Ring
import Mathlib.Algebra.BigOperators.Ring.Finset
/-! The two facts the grid arithmetic of `util.rescale` rests on (a normal form of the sample coordinates and the bounds on the
`⌈n·s⌉` output samples), and what binarised nearest-sample layers keep of their sources. -/
namespace Lentil.Resc
variable {K : Type}

section grid
variable [Field K] [LinearOrder K] [IsStrictOrderedRing K] [FloorRing K]

omit [LinearOrder K] [IsStrictOrderedRing K] [FloorRing K] in
theorem coord_eq_sub (S n k : Int) (s : K) :
    coord (fun k => (k : K)) (2 : K) S n s k = (k : K) / s - ((S : K) / s - (n : K)) / 2 := by
  unfold coord; ring

theorem overhang_bounds (n : Int) {s : K} (hs : 0 < s) :
    0 ≤ (outShape Int.ceil (fun k => (k : K)) n s : K) / s - (n : K) ∧
    (outShape Int.ceil (fun k => (k : K)) n s : K) / s - (n : K) < 1 / s := by
  rw [sub_nonneg, sub_lt_iff_lt_add', le_div_iff₀ hs, div_lt_iff₀ hs, add_mul, one_div, inv_mul_cancel₀ hs.ne']
  exact ⟨Int.le_ceil _, Int.ceil_lt_add_one _⟩

theorem outShape_nonneg {n : Int} {s : K} (hn : 0 ≤ n) (hs : 0 ≤ s) : 0 ≤ outShape Int.ceil (fun k => (k : K)) n s :=
  Int.ceil_nonneg (mul_nonneg (Int.cast_nonneg hn) hs)

end grid

section layers
variable [Zero K] [DecidableEq K]

theorem binarise_ne_zero (v : K) : binarise v ≠ 0 ↔ v ≠ 0 := by
  unfold binarise; split_ifs with h <;> simp [h]

theorem binarise_eq_zero_or_one (v : K) : binarise v = 0 ∨ binarise v = 1 := by
  unfold binarise; split_ifs
  · exact Or.inl rfl
  · exact Or.inr rfl

section nearest
variable [Add K] [Sub K] [Mul K] [Div K] [LE K] [DecidableLE K] {ofInt : Int → K} {two : K} {rnd : K → Int}
  {S0 S1 n0 n1 : Int} {s : K} {m : Int → Int → K} {i j : Int}

theorem nearestMask_of_inside (h : insideB ofInt two S0 S1 n0 n1 s i j = true) :
    nearestMask ofInt two rnd S0 S1 n0 n1 s m i j =
      binarise (m (rnd (gridRow ofInt two S0 S1 n0 n1 s i)) (rnd (gridCol ofInt two S0 S1 n0 n1 s j))) :=
  if_pos h

theorem nearestMask_of_outside (h : insideB ofInt two S0 S1 n0 n1 s i j = false) :
    nearestMask ofInt two rnd S0 S1 n0 n1 s m i j = 0 :=
  if_neg (h ▸ Bool.false_ne_true)

theorem nearestMask_eq_zero_or_one :
    nearestMask ofInt two rnd S0 S1 n0 n1 s m i j = 0 ∨ nearestMask ofInt two rnd S0 S1 n0 n1 s m i j = 1 := by
  unfold nearestMask
  split_ifs
  · exact binarise_eq_zero_or_one _
  · exact Or.inl rfl

theorem nearestMask_ne_zero (h : nearestMask ofInt two rnd S0 S1 n0 n1 s m i j ≠ 0) :
    m (rnd (gridRow ofInt two S0 S1 n0 n1 s i)) (rnd (gridCol ofInt two S0 S1 n0 n1 s j)) ≠ 0 := by
  unfold nearestMask at h
  split_ifs at h
  · exact (binarise_ne_zero _).mp h
  · exact absurd rfl h

end nearest

theorem layers_disjoint (segs : List (Int → Int → K)) (F : (Int → Int → K) → Int → Int → Int) (i j a b : Int)
    (hF : ∀ m, F m i j ≠ 0 → m a b ≠ 0) (hdis : (segs.filter fun m => decide (m a b ≠ 0)).length ≤ 1) :
    ((segs.map F).filter fun m => decide (m i j ≠ 0)).length ≤ 1 := by
  rw [List.filter_map, List.length_map]
  refine le_trans (List.Sublist.length_le (List.monotone_filter_right segs fun m hm => ?_)) hdis
  simpa using hF m (by simpa using hm)

theorem sum_binarise {α : Type} (l : List α) (v : α → K) :
    (l.map fun m => binarise (v m)).sum = ((l.filter fun m => decide (v m ≠ 0)).length : Int) := by
  induction l with
  | nil => rfl
  | cons m ms ih =>
    rw [List.map_cons, List.sum_cons, ih]
    by_cases h : v m = 0 <;> simp [binarise, h, add_comm]

end layers
end Lentil.Resc
