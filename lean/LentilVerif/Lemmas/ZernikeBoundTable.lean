import LentilVerif.Model.ZernikeRadial
/-! The finite part of `|R_n^m| ≤ 1` on [−1, 1]: a certificate for `|Σ_k c_k x^(n−2k)| ≤ Σ_k c_k`, checked by the kernel for the
441 valid (n, m) with n ≤ 40 (natural-number arithmetic only; `Lemmas/ZernikeBound.lean` proves that the certificate is sound).

With `x = cos θ`, `z = e^{iθ}`, `y = z²` one has `1 + y = 2 z x`, hence `(2z)^n Σ_k c_k x^(n−2k) = Σ_k c_k (4y)^k (1+y)^(n−2k) =: V(y)`,
and if the polynomial `V` has coefficients `≥ 0` then `|V(y)| ≤ V(1)` on the unit circle. The coefficients of `V` are not
computed one by one (a list operation costs the kernel hundreds of steps per element): `V = P − Q` with `P`, `Q` the parts with
`c_k ≥ 0` and `c_k < 0`, both are evaluated at one large `B` (a handful of GMP operations), and since `P(1), Q(1) < B` the
base-`B` digits of `P(B)`, `Q(B)` ARE their coefficients. -/
namespace Lentil

/-- the value at `B` of `Σ_{k ≤ s} a_k (4X)^k (1+X)^(n−2k)` -/
def cosPolyAt (a : Nat → Nat) (n s B : Nat) : Nat :=
  ((List.range (s + 1)).map fun k => a k * (4 * B) ^ k * (1 + B) ^ (n - 2 * k)).foldl (· + ·) 0

/-- the certificate: digit by digit in base `B`, the negative part of `Σ_k c_k (4X)^k (1+X)^(n−2k)` stays below the positive part -/
def cosCert (c : Nat → Int) (n s B : Nat) : Bool :=
  let p := cosPolyAt (fun k => (c k).toNat) n s
  let q := cosPolyAt (fun k => (-c k).toNat) n s
  p 1 < B && q 1 < B && (List.range (n + 1)).all fun i => q B / B ^ i % B ≤ p B / B ^ i % B

/-- any `B` above the values of both parts at 1 would do; for n ≤ 40 these stay below `2^90` -/
theorem cosCert_radial_40 :
    ∀ n ≤ 40, ∀ m ≤ n, (n - m) % 2 = 0 → cosCert (radialCoeff n m) n ((n - m) / 2) (2 ^ 128) = true := by
  decide +kernel
end Lentil
