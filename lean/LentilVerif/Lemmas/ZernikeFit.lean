import LentilVerif.Model.ZernikeFit
import LentilVerif.Lemmas.Zernike
import Mathlib.LinearAlgebra.Matrix.NonsingularInverse
import Mathlib.Analysis.SpecialFunctions.Sqrt
/-! Abstract (non-executable) model of `zernike_fit / zernike_compose / zernike_remove` over Mathlib matrices; the executable model of
`Model/ZernikeFit.lean` is this model; three small concrete bases (the worked examples of `Props/C12.lean`).

`B` is the basis matrix: one row per sample of the array, one column per *requested* mode, in the order requested
(`zernike_basis(mask, modes, vectorize=True, …)ᵀ`). Under the property's hypothesis that the modes are linearly independent on
the mask — stated as `IsUnit (Bᵀ * B).det` — the Moore–Penrose inverse that `np.linalg.pinv` returns is `(BᵀB)⁻¹Bᵀ`
(trusted contract), so

* `fit B opd = (BᵀB)⁻¹ Bᵀ · opd`            (`zernike_fit`: `einsum('ij,i->j', pinv(basis), opd)`),
* `compose B c = B · c`                      (`zernike_compose` restricted to the requested modes / the `einsum` of `zernike_remove`),
* `remove B opd = opd − B · fit B opd`       (`zernike_remove`). -/
namespace Lentil

section Abstract
open Matrix

variable {P M R : Type} [Fintype P] [Fintype M] [DecidableEq M] [CommRing R]

noncomputable def pinvFR (B : Matrix P M R) : Matrix M P R := (Bᵀ * B)⁻¹ * Bᵀ

noncomputable def zfit (B : Matrix P M R) (opd : P → R) : M → R := pinvFR B *ᵥ opd
def zcompose (B : Matrix P M R) (c : M → R) : P → R := B *ᵥ c
noncomputable def zremove (B : Matrix P M R) (opd : P → R) : P → R := opd - zcompose B (zfit B opd)

/-- basis matrix of the requested modes (any list, any order) from the C11 mode model: sample `p` has caller-supplied or default
coordinates `(rho p, theta p)` and mask bit `mask p` -/
def zBasis {K : Type} [Add K] [Mul K] [Zero K] [One K] [IntCast K] (sqrtN : Nat → K) (cos sin : K → K) {k : Nat} (modes : Fin k → Nat)
    (normalize : Bool) (rho theta : P → K) (mask : P → Bool) : Matrix P (Fin k) K :=
  fun p i => zernAt sqrtN cos sin (modes i) normalize (rho p) (theta p) (mask p)

/-! ### `(BᵀB)⁻¹Bᵀ` is THE Moore–Penrose inverse -/

theorem pinvFR_mul (B : Matrix P M R) (h : IsUnit (Bᵀ * B).det) : pinvFR B * B = 1 := by
  unfold pinvFR; rw [Matrix.mul_assoc, Matrix.nonsing_inv_mul _ h]

theorem eq_pinvFR_iff (B : Matrix P M R) (h : IsUnit (Bᵀ * B).det) (X : Matrix M P R) : X = pinvFR B ↔ Bᵀ * B * X = Bᵀ :=
  ⟨fun e => e ▸ Matrix.mul_nonsing_inv_cancel_left _ _ h,
    fun e => (Matrix.nonsing_inv_mul_cancel_left _ X h).symm.trans (congrArg ((Bᵀ * B)⁻¹ * ·) e)⟩

theorem pinvFR_penrose (B : Matrix P M R) (h : IsUnit (Bᵀ * B).det) :
    B * pinvFR B * B = B ∧ pinvFR B * B * pinvFR B = pinvFR B ∧
    (B * pinvFR B)ᵀ = B * pinvFR B ∧ (pinvFR B * B)ᵀ = pinvFR B * B := by
  have h1 : pinvFR B * B = 1 := pinvFR_mul B h
  have hG : (Bᵀ * B)ᵀ = Bᵀ * B := by rw [Matrix.transpose_mul, Matrix.transpose_transpose]
  refine ⟨?_, ?_, ?_, ?_⟩
  · rw [Matrix.mul_assoc, h1, Matrix.mul_one]
  · rw [h1, Matrix.one_mul]
  · unfold pinvFR
    rw [Matrix.transpose_mul, Matrix.transpose_mul, Matrix.transpose_transpose, Matrix.transpose_nonsing_inv, hG, Matrix.mul_assoc]
  · rw [h1, Matrix.transpose_one]

theorem pinvFR_unique (B : Matrix P M R) (X : Matrix M P R) (h : IsUnit (Bᵀ * B).det)
    (h1 : B * X * B = B) (h3 : (B * X)ᵀ = B * X) : X = pinvFR B := by
  rw [eq_pinvFR_iff B h, Matrix.mul_assoc, ← h3, ← Matrix.transpose_mul, h1]

end Abstract

/-! ## the executable model is the abstract model

Laplace determinant = `Matrix.det`, Cramer solution of the normal equations = `(BᵀB)⁻¹Bᵀ·opd`, compose = `B·c`, remove = `opd − B·fit`,
the leading block of the basis table `zBasisX` = `zBasis`. -/

section Executable
open Matrix Finset
variable {K : Type} [Field K]

/-- the leading `n × m` block of a `Nat`-indexed table as a matrix -/
def blockOf (n m : ℕ) (A : ℕ → ℕ → K) : Matrix (Fin n) (Fin m) K := Matrix.of fun r c => A r c

theorem sumRange_fin (n : ℕ) (f : ℕ → K) : sumRange n f = ∑ i : Fin n, f i := by
  rw [sumRange_eq, Fin.sum_univ_eq_sum_range]

theorem detN_eq_det (n : ℕ) (A : ℕ → ℕ → K) : detN n A = (blockOf n n A).det := by
  induction n generalizing A with
  | zero => simp [detN]
  | succ n ih =>
    rw [detN, sumRange_fin, Matrix.det_succ_row_zero]
    refine Finset.sum_congr rfl fun j _ => ?_
    have hsub : (blockOf (n + 1) (n + 1) A).submatrix Fin.succ j.succAbove
        = blockOf n n (fun r c => A (r + 1) (if c < (j : ℕ) then c else c + 1)) := by
      ext r c
      simp only [blockOf, Matrix.submatrix_apply, Matrix.of_apply, Fin.val_succ, Fin.succAbove, Fin.lt_def, Fin.val_castSucc,
        apply_ite Fin.val]
    have hsign : ((-1 : K) ^ (j : ℕ)) * (blockOf (n + 1) (n + 1) A) 0 j
        = (if (j : ℕ) % 2 = 0 then A 0 j else -(A 0 j)) := by
      simp only [blockOf, Matrix.of_apply, Fin.val_zero]
      split_ifs with h
      · rw [Even.neg_one_pow (Nat.even_iff.2 h), one_mul]
      · rw [Odd.neg_one_pow (Nat.odd_iff.2 (by omega)), neg_one_mul]
    rw [ih, hsub, hsign]

theorem gram_block (p k : ℕ) (B : ℕ → ℕ → K) : blockOf k k (gramX p B) = (blockOf p k B)ᵀ * blockOf p k B := by
  ext a b
  simp only [blockOf, gramX, sumRange_fin, Matrix.of_apply, Matrix.mul_apply, Matrix.transpose_apply]

theorem rhs_block (p k : ℕ) (B : ℕ → ℕ → K) (opd : ℕ → K) :
    (fun a : Fin k => rhsX p B opd a) = (blockOf p k B)ᵀ *ᵥ (fun s : Fin p => opd s) := by
  ext a
  simp only [blockOf, rhsX, sumRange_fin, Matrix.mulVec, dotProduct, Matrix.of_apply, Matrix.transpose_apply]

theorem cramerX_eq (k : ℕ) (G : ℕ → ℕ → K) (b : ℕ → K) (i : Fin k) :
    cramerX k G b i = Matrix.cramer (blockOf k k G) (fun r : Fin k => b r) i / (blockOf k k G).det := by
  unfold cramerX
  rw [detN_eq_det, detN_eq_det, Matrix.cramer_apply]
  congr 2
  ext r c
  simp only [blockOf, Matrix.of_apply, Matrix.updateCol_apply, Fin.ext_iff]

/-- Mathlib's inverse is `det⁻¹ • adjugate` and Cramer's rule is `adjugate *ᵥ ·`, so `(BᵀB)⁻¹Bᵀ·opd` is Cramer's solution of the normal
equations entry by entry (both sides are 0 for a singular `BᵀB`) -/
theorem fitX_eq_zfit (p k : ℕ) (B : ℕ → ℕ → K) (opd : ℕ → K) :
    (fun a : Fin k => fitX p k B opd a) = zfit (blockOf p k B) (fun s : Fin p => opd s) := by
  ext a
  unfold fitX zfit pinvFR
  rw [cramerX_eq, gram_block, rhs_block, ← Matrix.mulVec_mulVec, Matrix.inv_def, Ring.inverse_eq_inv', Matrix.smul_mulVec,
    ← Matrix.cramer_eq_adjugate_mulVec, Pi.smul_apply, smul_eq_mul, div_eq_inv_mul]

theorem composeX_eq_zcompose (p k : ℕ) (B : ℕ → ℕ → K) (c : ℕ → K) :
    (fun s : Fin p => composeX k B c s) = zcompose (blockOf p k B) (fun a : Fin k => c a) := by
  ext s
  simp only [composeX, Gen.removeContract, zcompose, sumRange_fin, Matrix.mulVec, dotProduct, blockOf, Matrix.of_apply]

theorem removeX_eq_zremove (p k : ℕ) (B : ℕ → ℕ → K) (opd : ℕ → K) :
    (fun s : Fin p => removeX p k B opd s) = zremove (blockOf p k B) (fun s : Fin p => opd s) := by
  unfold zremove
  rw [← fitX_eq_zfit, ← composeX_eq_zcompose]
  rfl

/-- so what is proved of `zBasis` (`C12.fit_compose_zernike`) and of `blockOf … zBasisX` (`C12.exec_fit_compose_remove`, the independent
instances) is about one matrix -/
theorem blockOf_zBasisX (sqrtN : ℕ → K) (cos sin : K → K) (p k : ℕ) (modes : ℕ → ℕ) (normalize : Bool)
    (rho theta : ℕ → K) (mask : ℕ → Bool) :
    blockOf p k (zBasisX sqrtN cos sin modes normalize rho theta mask) =
      zBasis sqrtN cos sin (fun a : Fin k => modes a) normalize (fun s : Fin p => rho s) (fun s : Fin p => theta s) (fun s : Fin p => mask s) :=
  rfl

theorem zBasisX_outside {K : Type} [Add K] [Mul K] [Zero K] [One K] [IntCast K] (sqrtN : ℕ → K) (cos sin : K → K) (modes : ℕ → ℕ)
    (normalize : Bool) (rho theta : ℕ → K) (mask : ℕ → Bool) (s a : ℕ) (h : mask s = false) :
    zBasisX sqrtN cos sin modes normalize rho theta mask s a = 0 := by
  rw [zBasisX, h, zernAt_outside]

/-! ### worked examples: concrete Zernike bases whose columns are independent -/

/-- a concrete Zernike basis over ℚ: modes [1, 4, 2] (piston, defocus, x-tilt), unnormalised, sampled at ρ = 0, 1/2, 1 on the ray
θ = 0 (where cos = 1, sin = 0). Its entries are `[[1,-1,0],[1,-1/2,1/2],[1,1,1]]` and `det(BᵀB) = 1/4 ≠ 0`. -/
def exModes : ℕ → ℕ := fun a => if a = 0 then 1 else if a = 1 then 4 else 2
def exRho : ℕ → ℚ := fun s => if s = 0 then 0 else if s = 1 then 1 / 2 else 1
def exBasis : ℕ → ℕ → ℚ := zBasisX (fun _ => 0) (fun _ => 1) (fun _ => 0) exModes false exRho (fun _ => 0) (fun _ => true)

/-- cos and sin at the multiples `x·π/2` of a quarter turn, as exact rational tables (`x` integer-valued, |x| ≤ 3) -/
def cosQ (x : ℚ) : ℚ := if x = 0 then 1 else if x = 2 ∨ x = -2 then -1 else 0
def sinQ (x : ℚ) : ℚ := if x = 1 ∨ x = -3 then 1 else if x = -1 ∨ x = 3 then -1 else 0

/-- a 2 × 2 array raveled in C order: samples (ρ, θ) = (1, 0), (1, π/2), (1/2, π), (0, 0), all inside the mask; requested modes [2, 3, 4]
(x-tilt: cosine, y-tilt: sine with m = −1, defocus), unnormalised; angles in units of π/2 -/
def ex2Modes : ℕ → ℕ := fun a => if a = 0 then 2 else if a = 1 then 3 else 4
def ex2Rho : ℕ → ℚ := fun s => if s = 0 then 1 else if s = 1 then 1 else if s = 2 then 1 / 2 else 0
def ex2Theta : ℕ → ℚ := fun s => if s = 0 then 0 else if s = 1 then 1 else if s = 2 then 2 else 0
def ex2Basis : ℕ → ℕ → ℚ := zBasisX (fun _ => 0) cosQ sinQ ex2Modes false ex2Rho ex2Theta (fun _ => true)

/-- `cosQ`, `sinQ` over ℝ -/
noncomputable def cosR (x : ℝ) : ℝ := if x = 0 then 1 else if x = 2 ∨ x = -2 then -1 else 0
noncomputable def sinR (x : ℝ) : ℝ := if x = 1 ∨ x = -3 then 1 else if x = -1 ∨ x = 3 then -1 else 0

/-- the library default `normalize=True` on a PARTIAL mask: a 2 × 2 array raveled in C order, samples (ρ, θ) = (1, 0), (1, π/2), (1/2, π), (0, 0), the
last one OUTSIDE the mask; requested modes [1, 2, 3] (piston, x-tilt, y-tilt) with Noll's normalisation (√2·√(n+1) = 2 for the tilts), `√` the real
square root; angles in units of π/2 -/
def ex3Modes : ℕ → ℕ := fun a => if a = 0 then 1 else if a = 1 then 2 else 3
noncomputable def ex3Rho : ℕ → ℝ := fun s => if s = 0 then 1 else if s = 1 then 1 else if s = 2 then 1 / 2 else 0
noncomputable def ex3Theta : ℕ → ℝ := fun s => if s = 0 then 0 else if s = 1 then 1 else if s = 2 then 2 else 0
def ex3Mask : ℕ → Bool := fun s => decide (s < 3)
noncomputable def ex3Basis : ℕ → ℕ → ℝ := zBasisX (fun k => Real.sqrt k) cosR sinR ex3Modes true ex3Rho ex3Theta ex3Mask

end Executable
end Lentil
