import LentilVerif.Lemmas.ZernikeNoll
import LentilVerif.Lemmas.ZernikeGram
import LentilVerif.Lemmas.PolarDisk
/-! Orthonormality of the model's modes over the unit disk. Over ℝ a mode is normalisation · radial polynomial · azimuthal factor; every
azimuthal factor is one harmonic `cos(mθ + φ)` (`sin x = cos(x − π/2)`), and the integral over a period of a product of two harmonics
with integer frequencies is known in closed form, which gives all angular integrals at once; the polar-coordinate mean over the disk of a
product `f(ρ)·g(θ)` separates into the radial integral (`radial_integral_eq`) and the angular one, and is the area mean (`Lemmas/PolarDisk`). -/
namespace Lentil
open Real intervalIntegral

/-- the model's normalised mode over ℝ (real `√`, `cos`, `sin`), inside the mask -/
noncomputable def zReal (j : ℕ) (ρ θ : ℝ) : ℝ := zernAt (fun k => Real.sqrt k) Real.cos Real.sin j true ρ θ true

/-- Noll's normalisation factor as the model applies it -/
noncomputable def normFac (n : ℕ) (m : ℤ) : ℝ := if m = 0 then (if n = 0 then 1 else √((n + 1 : ℕ) : ℝ)) else √((2 : ℕ) : ℝ) * √((n + 1 : ℕ) : ℝ)

/-- azimuthal factor as the model applies it: 1, `cos(mθ)` for m > 0, `sin(mθ)` for m < 0 -/
noncomputable def azim (m : ℤ) (θ : ℝ) : ℝ := if m = 0 then 1 else if 0 < m then Real.cos ((m : ℝ) * θ) else Real.sin ((m : ℝ) * θ)

theorem zernAt_real (j : ℕ) (b : Bool) (ρ θ : ℝ) :
    zernAt (fun k => Real.sqrt k) Real.cos Real.sin j b ρ θ true
      = (if b then normFac (nollN j) (nollM j) else 1) * radialEval (nollN j) (nollM j).natAbs ρ * azim (nollM j) θ := by
  unfold zernAt Gen.zernCore normFac azim
  by_cases h0 : nollM j = 0
  · by_cases hn : nollN j = 0
    · simp [h0, hn, radialEval_self]
    · cases b <;> simp [h0, hn]
  · by_cases hp : 0 < nollM j <;> cases b <;> simp [h0, hp]

theorem zReal_factor (j : ℕ) (ρ θ : ℝ) :
    zReal j ρ θ = normFac (nollN j) (nollM j) * radialEval (nollN j) (nollM j).natAbs ρ * azim (nollM j) θ := by
  rw [zReal, zernAt_real, if_pos rfl]

theorem normFac_sq (n : ℕ) (m : ℤ) : normFac n m ^ 2 = ((normSq n m : ℕ) : ℝ) := by
  unfold normFac normSq
  split_ifs with h0 hn
  · subst hn; simp
  · rw [Real.sq_sqrt (by positivity)]
  · rw [mul_pow, Real.sq_sqrt (by positivity), Real.sq_sqrt (by positivity)]; push_cast; ring

/-! ### the azimuthal factor as one harmonic -/

theorem integral_cos_int_add (k : ℤ) (φ : ℝ) :
    ∫ θ in (0 : ℝ)..(2 * π), Real.cos ((k : ℝ) * θ + φ) = if k = 0 then 2 * π * Real.cos φ else 0 := by
  split_ifs with hk
  · simp [hk]
  · have hk0 : (k : ℝ) ≠ 0 := by exact_mod_cast hk
    rw [intervalIntegral.integral_comp_mul_add (fun x => Real.cos x) hk0, integral_cos, mul_zero, zero_add,
      add_comm, Real.sin_add_int_mul_two_pi, sub_self, smul_zero]

theorem integral_cos_mul_cos (k l : ℤ) (φ ψ : ℝ) :
    ∫ θ in (0 : ℝ)..(2 * π), Real.cos ((k : ℝ) * θ + φ) * Real.cos ((l : ℝ) * θ + ψ)
      = (if k = l then π * Real.cos (φ - ψ) else 0) + (if k = -l then π * Real.cos (φ + ψ) else 0) := by
  -- product to sum: the difference and the sum frequency, each integrated by `integral_cos_int_add`
  have e : ∀ θ : ℝ, Real.cos ((k : ℝ) * θ + φ) * Real.cos ((l : ℝ) * θ + ψ)
      = (Real.cos (((k - l : ℤ) : ℝ) * θ + (φ - ψ)) + Real.cos (((k + l : ℤ) : ℝ) * θ + (φ + ψ))) / 2 := by
    intro θ
    rw [show ((k - l : ℤ) : ℝ) * θ + (φ - ψ) = ((k : ℝ) * θ + φ) - ((l : ℝ) * θ + ψ) by push_cast; ring,
      show ((k + l : ℤ) : ℝ) * θ + (φ + ψ) = ((k : ℝ) * θ + φ) + ((l : ℝ) * θ + ψ) by push_cast; ring,
      ← Real.two_mul_cos_mul_cos, mul_assoc, mul_div_cancel_left₀ _ two_ne_zero]
  have ic : ∀ (k : ℤ) (φ : ℝ), IntervalIntegrable (fun θ : ℝ => Real.cos ((k : ℝ) * θ + φ)) MeasureTheory.volume 0 (2 * π) :=
    fun k φ => (by fun_prop : Continuous _).intervalIntegrable _ _
  simp only [e]
  rw [intervalIntegral.integral_div, intervalIntegral.integral_add (ic _ _) (ic _ _), integral_cos_int_add, integral_cos_int_add,
    add_div]
  simp only [sub_eq_zero, add_eq_zero_iff_eq_neg]
  congr 1 <;> split_ifs <;> ring

theorem azim_eq_cos (m : ℤ) (θ : ℝ) : azim m θ = Real.cos ((m : ℝ) * θ + if m < 0 then -(π / 2) else 0) := by
  unfold azim
  split_ifs with h0 hp hn
  · omega
  · simp [h0]
  · omega
  · rw [add_zero]
  · rw [← sub_eq_add_neg, Real.cos_sub_pi_div_two]
  · omega

theorem abs_azim_le_one (m : ℤ) (θ : ℝ) : |azim m θ| ≤ 1 := by
  rw [azim_eq_cos]; exact Real.abs_cos_le_one _

theorem azim_continuous (m : ℤ) : Continuous (azim m) := by
  rw [funext (azim_eq_cos m)]; fun_prop

theorem azim_periodic (m : ℤ) : Function.Periodic (azim m) (2 * π) := fun θ => by
  rw [azim_eq_cos, azim_eq_cos, mul_add, add_right_comm, Real.cos_add_int_mul_two_pi]

theorem azim_integral (m m' : ℤ) :
    ∫ θ in (0 : ℝ)..(2 * π), azim m θ * azim m' θ = if m = m' then (if m = 0 then 2 * π else π) else 0 := by
  simp only [azim_eq_cos, integral_cos_mul_cos]
  by_cases e : m = m'
  · subst e
    by_cases h0 : m = 0
    · simp [h0]; ring
    · simp [h0, show ¬m = -m by omega]
  · -- `m = -m'` with `m ≠ m'`: one cosine and one sine mode, the phases add to −π/2
    rw [if_neg e, if_neg e, zero_add]
    split_ifs with h1 h2 h3 h3
    · omega
    · simp
    · simp
    · omega
    · rfl

/-! ### mean over the unit disk -/

/-- mean over the unit disk in polar coordinates: `(1/π) ∫₀^{2π} ∫₀¹ f(ρ, θ) ρ dρ dθ` -/
noncomputable def diskMean (f : ℝ → ℝ → ℝ) : ℝ := (1 / π) * ∫ θ in (0 : ℝ)..(2 * π), ∫ ρ in (0 : ℝ)..1, f ρ θ * ρ

theorem diskMean_mul (f g : ℝ → ℝ) :
    diskMean (fun ρ θ => f ρ * g θ) = (1 / π) * ((∫ ρ in (0 : ℝ)..1, f ρ * ρ) * ∫ θ in (0 : ℝ)..(2 * π), g θ) := by
  unfold diskMean
  simp only [mul_right_comm (f _) (g _) _, intervalIntegral.integral_mul_const, intervalIntegral.integral_const_mul]

theorem radialEval_continuous (n m : ℕ) : Continuous (fun x : ℝ => radialEval n m x) := by
  by_cases h : (n - m) % 2 = 0
  · simp only [radialEval_eq_sum n m h]; fun_prop
  · simp only [radialEval, if_pos (show (n - m) % 2 = 1 by omega)]; exact continuous_const

theorem zReal_continuous (j : ℕ) : Continuous (fun p : ℝ × ℝ => zReal j p.1 p.2) := by
  simp only [zReal_factor]
  exact (continuous_const.mul ((radialEval_continuous _ _).comp continuous_fst)).mul ((azim_continuous _).comp continuous_snd)

theorem zReal_periodic (j : ℕ) (ρ : ℝ) : Function.Periodic (zReal j ρ) (2 * π) := by
  intro θ; rw [zReal_factor, zReal_factor, azim_periodic]

/-! ### Noll's constants -/

theorem normSq_mean {K : Type} [Field K] [CharZero K] (n : ℕ) (m : ℤ) :
    ((normSq n m : ℕ) : K) * (1 / (2 * ((n : K) + 1))) * (if m = 0 then 2 else 1) = 1 := by
  have hn : (n : K) + 1 ≠ 0 := Nat.cast_add_one_ne_zero n
  unfold normSq
  split_ifs <;> (push_cast; field_simp)

/-- Noll's normalisation constants give unit mean square over the unit disk: `1/(2(n+1))` is `∫₀¹ (R_n^m)² ρ dρ`, the last factor is the
angular integral `2π` (m = 0) or `π` (cos², sin²; m ≠ 0) over `π` -/
theorem normalisation_constants (n : Nat) (m : Int) :
    ((normSq n m : Nat) : ℚ) * (1 / (2 * ((n : ℚ) + 1))) * (if m = 0 then 2 else 1) = 1 :=
  normSq_mean n m

/-- the same with the angular factors as Mathlib interval integrals -/
theorem normalisation_unit_mean_square (n m : ℕ) :
    (((normSq n 0 : ℕ) : ℝ) * (1 / (2 * ((n : ℝ) + 1))) * ((∫ _θ in (0 : ℝ)..(2 * Real.pi), (1 : ℝ)) / Real.pi) = 1) ∧
    (1 ≤ m →
      ((normSq n m : ℕ) : ℝ) * (1 / (2 * ((n : ℝ) + 1))) * ((∫ θ in (0 : ℝ)..(2 * Real.pi), Real.cos ((m : ℝ) * θ) ^ 2) / Real.pi) = 1 ∧
      ((normSq n (-(m : ℤ)) : ℕ) : ℝ) * (1 / (2 * ((n : ℝ) + 1))) * ((∫ θ in (0 : ℝ)..(2 * Real.pi), Real.sin ((m : ℝ) * θ) ^ 2) / Real.pi) = 1) := by
  have hpi : Real.pi ≠ 0 := Real.pi_ne_zero
  constructor
  · rw [intervalIntegral.integral_const, sub_zero, smul_eq_mul, mul_one, mul_div_assoc, div_self hpi, mul_one]
    simpa using normSq_mean (K := ℝ) n 0
  · intro hm
    have hc := integral_cos_mul_cos m m 0 0
    have hs := integral_cos_mul_cos m m (-(π / 2)) (-(π / 2))
    simp only [← sub_eq_add_neg, Real.cos_sub_pi_div_two, Int.cast_natCast, add_zero, ← sq, if_pos, sub_self, Real.cos_zero, mul_one,
      if_neg (show ¬(m : ℤ) = -m by omega)] at hc hs
    rw [hc, hs, div_self hpi]
    have h1 := normSq_mean (K := ℝ) n m
    have h2 := normSq_mean (K := ℝ) n (-(m : ℤ))
    rw [if_neg (by omega)] at h1 h2
    exact ⟨h1, h2⟩

/-! ### orthonormality -/

/-- the mean of `Z_j Z_j'` separates into the radial integral (`radial_integral_eq`) and the angular one (`azim_integral`); equal orders
`(n, m)` mean equal indices (`noll_injective`), and there `N² · 1/(2(n+1)) · (2π or π)/π = 1` -/
theorem zReal_orthonormal (j j' : ℕ) (hj : 1 ≤ j) (hj' : 1 ≤ j') :
    diskMean (fun ρ θ => zReal j ρ θ * zReal j' ρ θ) = if j = j' then 1 else 0 := by
  obtain ⟨v1, v2⟩ := nollM_valid j hj
  obtain ⟨w1, w2⟩ := nollM_valid j' hj'
  have hsep : (fun ρ θ => zReal j ρ θ * zReal j' ρ θ) = fun ρ θ =>
      (radialEval (nollN j) (nollM j).natAbs ρ * radialEval (nollN j') (nollM j').natAbs ρ) *
        (normFac (nollN j) (nollM j) * normFac (nollN j') (nollM j') * (azim (nollM j) θ * azim (nollM j') θ)) := by
    funext ρ θ; rw [zReal_factor, zReal_factor]; ring
  rw [hsep, diskMean_mul, intervalIntegral.integral_const_mul, azim_integral]
  by_cases hm : nollM j = nollM j'
  · rw [← hm] at w1 w2 ⊢
    rw [if_pos rfl, radial_integral_eq _ _ _ v1 w1 v2 w2]
    by_cases hnn : nollN j = nollN j'
    · obtain rfl := noll_injective hj hj' hnn hm
      have hpi : π ≠ 0 := Real.pi_ne_zero
      rw [if_pos rfl, if_pos rfl, ← sq, normFac_sq]
      refine Eq.trans ?_ (normSq_mean (K := ℝ) (nollN j) (nollM j))
      split_ifs <;> field_simp
    · rw [if_neg hnn, if_neg (mt (congrArg nollN) hnn), zero_mul, mul_zero]
  · rw [if_neg hm, if_neg (mt (congrArg nollM) hm), mul_zero, mul_zero, mul_zero]

theorem zReal_orthonormal_area (j j' : ℕ) (hj : 1 ≤ j) (hj' : 1 ≤ j') :
    (1 / π) * ∫ q in unitDisk, zReal j (polarCoord q).1 (polarCoord q).2 * zReal j' (polarCoord q).1 (polarCoord q).2
      = if j = j' then 1 else 0 := by
  rw [disk_integral_eq_iterated (fun ρ θ => zReal j ρ θ * zReal j' ρ θ) ((zReal_continuous j).mul (zReal_continuous j'))
    (fun ρ θ => by simp only; rw [zReal_periodic j ρ θ, zReal_periodic j' ρ θ])]
  exact zReal_orthonormal j j' hj hj'

end Lentil
