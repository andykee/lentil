import LentilVerif.Model.Fourier
import Mathlib.Analysis.SpecialFunctions.Trigonometric.Basic
import Mathlib.RingTheory.RootsOfUnity.Complex
import LentilVerif.Lemmas.Sums
/-! The Fourier model at `K = ℂ`, `R = ℝ`. `dft2` and `idft2` in closed form (`idft2` is `dft2` between two conjugations);
zero-padding is an offset (`dft2_padded`). On a period (`α = 1/K`) the kernel is a value of the character `E K` times the phase
ramp of its real shift (`ker_eq_E_mul_ramp`); the orthogonality of its rows, the roll an integer shift causes and the inverse
kernel are read off from that. Inversion and Parseval are proved for any kernel with orthogonal rows (`Orth`), for one axis
first, then two. -/
open Finset ComplexConjugate

namespace Lentil

noncomputable instance instRealLikeReal : RealLike ℝ := ⟨fun i => (i : ℝ), 2 * Real.pi, Real.sqrt, fun x => |x|⟩
noncomputable instance instCxLikeComplex : CxLike ℂ ℝ :=
  ⟨fun t => Complex.exp (t * Complex.I), fun r => (r : ℂ), starRingEnd ℂ, fun z n => z / (n : ℂ)⟩

/-- the transform kernel as a complex exponential -/
noncomputable def ker (α : ℝ) (m M : ℤ) (off : ℤ) (shift : ℝ) (x u : ℤ) : ℂ :=
  Complex.exp (-(2 * Real.pi * Complex.I) * (α * ((cc m x + off : ℤ) : ℝ) * (((cc M u : ℤ) : ℝ) - shift) : ℝ))

theorem dftKernel_eq (α : ℝ) (m M off : ℤ) (shift : ℝ) (x u : ℤ) :
    (dftKernel α m M off shift x u : ℂ) = ker α m M off shift x u := by
  unfold dftKernel ker
  simp only [CxLike.expI, RealLike.twoPi, RealLike.ofInt]
  refine congrArg _ ?_
  push_cast
  ring

/-- the un-normalised transform as `Finset` sums of `ker` (model order: inner sum over rows, outer over columns) -/
noncomputable def dft2Sum (f : Arr ℂ) (αr αc : ℝ) (M N : ℤ) (shr shc : ℝ) (offr offc : ℤ) (u v : ℤ) : ℂ :=
  ∑ y ∈ range f.s1.toNat,
    (∑ x ∈ range f.s0.toNat, ker αr f.s0 M offr shr x u * f.get x y) * ker αc f.s1 N offc shc y v

/-- normalisation factor of `dft2` -/
noncomputable def nrm (αr αc : ℝ) (unitary : Bool) : ℂ := if unitary then ((Real.sqrt |αr * αc| : ℝ) : ℂ) else 1

theorem dft2_get_eq (f : Arr ℂ) (αr αc : ℝ) (M N : ℤ) (shr shc : ℝ) (offr offc : ℤ) (unitary : Bool) (u v : ℤ) :
    (dft2 f αr αc M N shr shc offr offc unitary).get u v
      = (if unitary then ((Real.sqrt |αr * αc| : ℝ) : ℂ) else 1) * dft2Sum f αr αc M N shr shc offr offc u v := by
  unfold dft2 dft2Sum
  simp only [sumRange_eq, dftKernel_eq]
  cases unitary
  · simp
  · simp only [if_true, CxLike.ofReal, RealLike.sqrt, RealLike.abs]; rw [mul_comm]

@[simp] theorem dft2C_s0 (f : Arr ℂ) (αr αc : ℝ) (M N : ℤ) (shr shc : ℝ) (offr offc : ℤ) (un : Bool) :
    (dft2 f αr αc M N shr shc offr offc un).s0 = M := rfl
@[simp] theorem dft2C_s1 (f : Arr ℂ) (αr αc : ℝ) (M N : ℤ) (shr shc : ℝ) (offr offc : ℤ) (un : Bool) :
    (dft2 f αr αc M N shr shc offr offc un).s1 = N := rfl

/-- that is how `fourier.py` computes `idft2`; every statement about `idft2` is the statement about `dft2` read through this -/
theorem idft2_eq_conj_dft2 (F : Arr ℂ) (αr αc : ℝ) (M N : ℤ) (shr shc : ℝ) (unitary : Bool) (i j : ℤ) :
    (idft2 F αr αc M N shr shc unitary).get i j =
      (if unitary then 1 else 1 / ((F.s0 * F.s1 : ℤ) : ℂ)) *
        conj ((dft2 { F with get := fun i j => conj (F.get i j) } αr αc M N shr shc 0 0 unitary).get i j) := by
  cases unitary
  · exact (div_eq_inv_mul _ _).trans (by rw [one_div]; rfl)
  · exact (one_mul _).symm

theorem idft2_scale (unitary : Bool) (d : ℂ) (r : ℝ) (z : ℂ) :
    (if unitary then 1 else d) * conj ((if unitary then (r : ℂ) else 1) * z) = (if unitary then (r : ℂ) else d) * conj z := by
  cases unitary
  · simp only [Bool.false_eq_true, if_false, one_mul]
  · simp only [if_true, one_mul, map_mul, Complex.conj_ofReal]

theorem idft2_get_eq (F : Arr ℂ) (αr αc : ℝ) (M N : ℤ) (shr shc : ℝ) (unitary : Bool) (i j : ℤ) :
    (idft2 F αr αc M N shr shc unitary).get i j =
      (if unitary then ((Real.sqrt |αr * αc| : ℝ) : ℂ) else 1 / ((F.s0 * F.s1 : ℤ) : ℂ)) *
      ∑ v ∈ range F.s1.toNat, (∑ u ∈ range F.s0.toNat, conj (ker αr F.s0 M 0 shr u i) * F.get u v)
        * conj (ker αc F.s1 N 0 shc v j) := by
  rw [idft2_eq_conj_dft2, dft2_get_eq, idft2_scale]
  simp only [dft2Sum, map_mul, map_sum, Complex.conj_conj]

theorem conj_cexp (r : ℝ) :
    conj (Complex.exp (-(2 * Real.pi * Complex.I) * (r : ℂ))) = Complex.exp ((2 * Real.pi * Complex.I) * r) := by
  rw [← Complex.exp_conj]
  refine congrArg _ ?_
  simp only [map_mul, map_neg, Complex.conj_ofReal, Complex.conj_I, map_ofNat]
  ring

/-! ## an array on a canvas of zeros

`dft2_eq_boxDft` (Lemmas/PropLinear.lean) says the same as `C01.dft2_subarray_offset` through `Fld.emb`; the proof of that one uses nothing
of the generated extent kernel, so that the theorems of the properties anchored in `fourier.py` alone do not rest on `extent.py`. -/

theorem ker_embed (α : ℝ) (S m M : ℤ) (o : ℤ) (sh : ℝ) (x u : ℤ) :
    ker α S M 0 sh (S / 2 - m / 2 + o + x) u = ker α m M o sh x u := by
  unfold ker cc; refine congrArg _ ?_; push_cast; ring

/-- `f` placed with integer offset `(o0, o1)` on an `S0 × S1` canvas of zeros, both origins at index `⌊n/2⌋`: canvas
index `i` holds sample `i - (⌊S0/2⌋ - ⌊m/2⌋ + o0)` of `f` when that is inside `f` -/
def padded (f : Arr ℂ) (o0 o1 S0 S1 : ℤ) : Arr ℂ :=
  { s0 := S0, s1 := S1,
    get := fun i j =>
      if S0 / 2 - f.s0 / 2 + o0 ≤ i ∧ i ≤ S0 / 2 - f.s0 / 2 + o0 + f.s0 - 1 then
        (if S1 / 2 - f.s1 / 2 + o1 ≤ j ∧ j ≤ S1 / 2 - f.s1 / 2 + o1 + f.s1 - 1 then
          f.get (i - (S0 / 2 - f.s0 / 2 + o0)) (j - (S1 / 2 - f.s1 / 2 + o1)) else 0)
      else 0 }

theorem padded_get_outside_rows (f : Arr ℂ) (o0 o1 S0 S1 i j : ℤ)
    (h : ¬(S0 / 2 - f.s0 / 2 + o0 ≤ i ∧ i ≤ S0 / 2 - f.s0 / 2 + o0 + f.s0 - 1)) : (padded f o0 o1 S0 S1).get i j = 0 :=
  if_neg h

theorem padded_get_outside_cols (f : Arr ℂ) (o0 o1 S0 S1 i j : ℤ)
    (h : ¬(S1 / 2 - f.s1 / 2 + o1 ≤ j ∧ j ≤ S1 / 2 - f.s1 / 2 + o1 + f.s1 - 1)) : (padded f o0 o1 S0 S1).get i j = 0 := by
  unfold padded; simp only [if_neg h, ite_self]

theorem padded_get_inside (f : Arr ℂ) (o0 o1 S0 S1 : ℤ) (x y : ℕ) (hx : x < f.s0.toNat) (hy : y < f.s1.toNat) :
    (padded f o0 o1 S0 S1).get (S0 / 2 - f.s0 / 2 + o0 + x) (S1 / 2 - f.s1 / 2 + o1 + y) = f.get x y := by
  unfold padded
  simp only [add_sub_cancel_left]
  rw [if_pos (by omega), if_pos (by omega)]

/-! ## the DFT character -/

/-- `exp(-2πi·t/n)` for an integer `t` -/
noncomputable def E (n : ℕ) (t : ℤ) : ℂ := Complex.exp (-(2 * Real.pi * Complex.I) * (t : ℂ) / n)

theorem E_add (n : ℕ) (s t : ℤ) : E n (s + t) = E n s * E n t := by
  unfold E; rw [← Complex.exp_add]; refine congrArg _ ?_; push_cast; ring

theorem E_zero (n : ℕ) : E n 0 = 1 := by simp [E]

theorem E_period (n : ℕ) (s : ℤ) : E n (n * s) = 1 := by
  rcases n.eq_zero_or_pos with rfl | hn
  · rw [Nat.cast_zero, zero_mul, E_zero]
  · have hn' : (n : ℂ) ≠ 0 := by exact_mod_cast hn.ne'
    rw [E, Int.cast_mul, Int.cast_natCast, mul_div_assoc, mul_div_cancel_left₀ _ hn', neg_mul, ← mul_neg, mul_comm, ← Int.cast_neg,
      Complex.exp_int_mul_two_pi_mul_I]

theorem E_congr (n : ℕ) (s t : ℤ) (h : (n : ℤ) ∣ s - t) : E n s = E n t := by
  obtain ⟨c, hc⟩ := h
  obtain rfl : s = t + n * c := by omega
  rw [E_add, E_period, mul_one]

theorem E_emod_left (n : ℕ) (s a k : ℤ) : E n (s * (a % n * k)) = E n (s * (a * k)) :=
  E_congr n _ _ ⟨-(s * (a / n) * k), by rw [Int.emod_def]; ring⟩

theorem E_emod_right (n : ℕ) (s a k : ℤ) : E n (s * (a * (k % n))) = E n (s * (a * k)) := by
  rw [mul_comm a, E_emod_left, mul_comm k]

theorem conj_E (n : ℕ) (t : ℤ) : conj (E n t) = E n (-t) := by
  unfold E
  rw [← Complex.exp_conj]
  refine congrArg _ ?_
  simp only [map_div₀, map_mul, map_neg, Complex.conj_ofReal, Complex.conj_I, map_ofNat, map_intCast, map_natCast]
  push_cast; ring

theorem norm_E (n : ℕ) (t : ℤ) : ‖E n t‖ = 1 := by
  rw [E, Complex.norm_exp]
  simp [Complex.div_re, Complex.mul_re, Complex.mul_im]

/-- a geometric sum whose ratio `ζ^(-d)`, `ζ = exp(2πi/K)`, is a non-trivial `K`-th root of unity -/
theorem sum_E_centered (K : ℕ) (hK : 0 < K) (d : ℤ) (hd : ¬ (K : ℤ) ∣ d) : ∑ u ∈ range K, E K (d * cc K u) = 0 := by
  have hζ : IsPrimitiveRoot (Complex.exp (2 * Real.pi * Complex.I / K)) K := Complex.isPrimitiveRoot_exp K hK.ne'
  set ζ := Complex.exp (2 * Real.pi * Complex.I / K)
  have e : ∀ u : ℕ, E K (d * cc K u) = ζ ^ (-d * cc K 0) * (ζ ^ (-d)) ^ u := fun u => by
    rw [← zpow_natCast, ← zpow_mul, ← zpow_add₀ (Complex.exp_ne_zero _), E, ← Complex.exp_int_mul]
    refine congrArg _ ?_
    unfold cc
    push_cast
    ring
  have hg : (ζ ^ (-d) - 1) * ∑ u ∈ range K, (ζ ^ (-d)) ^ u = 0 := by
    rw [mul_comm, geom_sum_mul, ← zpow_natCast, ← zpow_mul, mul_comm, zpow_mul, zpow_natCast, hζ.pow_eq_one, one_zpow, sub_self]
  rw [sum_congr rfl fun u _ => e u, ← mul_sum, (mul_eq_zero.mp hg).resolve_left
    (sub_ne_zero.mpr fun h => hd (dvd_neg.mp ((hζ.zpow_eq_one_iff_dvd _).mp h))), mul_zero]

/-! ## the kernel on a period: character, phase ramp, roll -/

/-- the phase ramp an output shift `s` puts on input sample `x` (sampling `α`, `m` input samples, offset `off`):
`exp(2πi·α·(x − ⌊m/2⌋ + off)·s)` -/
noncomputable def ramp (α : ℝ) (m off : ℤ) (s : ℝ) (x : ℤ) : ℂ :=
  Complex.exp ((2 * Real.pi * Complex.I) * ((α * ((cc m x + off : ℤ) : ℝ) * s : ℝ) : ℂ))

theorem ker_add_shift (α : ℝ) (m M off : ℤ) (t s : ℝ) (x u : ℤ) :
    ker α m M off (t + s) x u = ker α m M off t x u * ramp α m off s x := by
  unfold ker ramp
  rw [← Complex.exp_add]
  refine congrArg _ ?_
  push_cast
  ring

theorem ker_shift (α : ℝ) (m M off : ℤ) (s : ℝ) (x u : ℤ) :
    ker α m M off s x u = ker α m M off 0 x u * ramp α m off s x := by
  rw [← ker_add_shift, zero_add]

theorem ramp_mul_conj (α : ℝ) (m off : ℤ) (s : ℝ) (x : ℤ) : ramp α m off s x * conj (ramp α m off s x) = 1 := by
  rw [ramp, ← Complex.exp_conj, ← Complex.exp_add, map_mul, Complex.conj_ofReal, map_mul, map_mul, Complex.conj_I, map_ofNat,
    Complex.conj_ofReal, mul_neg, neg_mul, add_neg_cancel, Complex.exp_zero]

theorem ker_eq_E (n : ℕ) (a b off s x u : ℤ) :
    ker (1 / n) a b off ((s : ℤ) : ℝ) x u = E n ((cc a x + off) * (cc b u - s)) := by
  unfold ker E
  refine congrArg _ ?_
  push_cast
  ring

theorem ker_eq_E_mul_ramp (K : ℕ) (a b off : ℤ) (s : ℝ) (x u : ℤ) :
    ker (1 / K) a b off s x u = E K ((cc a x + off) * cc b u) * ramp (1 / K) a off s x := by
  rw [ker_shift, ← Int.cast_zero (R := ℝ), ker_eq_E, sub_zero]

theorem ker_centered_eq (n : ℕ) (x u : ℤ) : ker (1 / n) n n 0 0 x u = E n ((x - (n : ℤ) / 2) * (u - (n : ℤ) / 2)) := by
  rw [← Int.cast_zero (R := ℝ), ker_eq_E, add_zero, sub_zero]
  rfl

theorem ker_int_shift_roll (n : ℕ) (off s : ℤ) (x u : ℤ) :
    ker (1 / n) n n off ((s : ℤ) : ℝ) x u = ker (1 / n) n n off 0 x ((u - s) % n) := by
  rw [← Int.cast_zero (R := ℝ), ker_eq_E, ker_eq_E]
  apply E_congr
  rw [Int.emod_def (u - s) n]
  exact ⟨(cc n x + off) * ((u - s) / n), by unfold cc; ring⟩

theorem ker_inv_roll (m : ℤ) (K : ℕ) (off t : ℤ) (s : ℝ) (u i : ℤ) :
    conj (ker (1 / K) K m 0 ((t : ℤ) : ℝ) u i)
      = ramp (1 / K) m off s ((i - t - off) % K) * conj (ker (1 / K) m K off s ((i - t - off) % K) u) := by
  rw [ker_eq_E_mul_ramp K m, map_mul, mul_left_comm, ramp_mul_conj, mul_one, ker_eq_E]
  refine congrArg conj (E_congr K _ _ ⟨cc K u * ((i - t - off) / K), ?_⟩)
  rw [Int.emod_def]
  unfold cc
  ring

/-! ## orthogonality of the kernel's rows -/

/-- rows of a kernel are orthogonal with squared norm `K` over `K` output samples -/
def Orth (m K : ℕ) (κ : ℕ → ℕ → ℂ) : Prop :=
  ∀ x < m, ∀ x' < m, ∑ u ∈ range K, κ x u * conj (κ x' u) = if x = x' then (K : ℂ) else 0

/-- on a period the product of two rows is a constant times the character of frequency `x - x'`; `m ≤ K` keeps two rows less
than one period apart, so that frequency is a multiple of `K` only for `x = x'` -/
theorem orth_ker (m K : ℕ) (hK : 0 < K) (hmK : m ≤ K) (s0 off : ℤ) (s : ℝ) :
    Orth m K (fun x u => ker (1 / K) s0 K off s x u) := by
  intro x hx x' hx'
  have key : ∀ u : ℕ, ker (1 / K) s0 K off s x u * conj (ker (1 / K) s0 K off s x' u)
      = ramp (1 / K) s0 off s x * conj (ramp (1 / K) s0 off s x') * E K (((x : ℤ) - x') * cc K u) := by
    intro u
    rw [ker_eq_E_mul_ramp, ker_eq_E_mul_ramp, map_mul, conj_E, mul_mul_mul_comm, ← E_add, mul_comm (E _ _)]
    refine congrArg (_ * E K ·) ?_
    unfold cc
    ring
  simp only [key, ← mul_sum]
  split_ifs with h
  · subst h; simp only [sub_self, zero_mul, E_zero, sum_const, card_range, nsmul_eq_mul, mul_one, ramp_mul_conj, one_mul]
  · have hlt : |(x : ℤ) - x'| < K := by rw [abs_lt]; constructor <;> omega
    rw [sum_E_centered K hK _ fun hdvd => h (Nat.cast_injective (sub_eq_zero.mp (Int.eq_zero_of_abs_lt_dvd hdvd hlt))), mul_zero]

/-! ## inversion and Parseval for a kernel with orthogonal rows -/

theorem inv1 (m K : ℕ) (κ : ℕ → ℕ → ℂ) (h : Orth m K κ) (g : ℕ → ℂ) (x' : ℕ) (hx' : x' < m) :
    ∑ u ∈ range K, (∑ x ∈ range m, κ x u * g x) * conj (κ x' u) = K * g x' := by
  simp_rw [sum_mul]
  have : ∀ x ∈ range m, ∑ u ∈ range K, κ x u * g x * conj (κ x' u) = (if x = x' then (K : ℂ) else 0) * g x := fun x hx => by
    rw [← h x (mem_range.mp hx) x' hx', sum_mul]; exact sum_congr rfl fun u _ => by ring
  rw [sum_comm, sum_congr rfl this, sum_eq_single_of_mem x' (mem_range.mpr hx') fun x _ hne => by rw [if_neg hne, zero_mul],
    if_pos rfl]

theorem parseval1 (m K : ℕ) (κ : ℕ → ℕ → ℂ) (h : Orth m K κ) (g : ℕ → ℂ) :
    ∑ u ∈ range K, Complex.normSq (∑ x ∈ range m, κ x u * g x) = K * ∑ x ∈ range m, Complex.normSq (g x) := by
  apply Complex.ofReal_injective
  push_cast
  simp only [← Complex.mul_conj]
  have : ∀ u ∈ range K, (∑ x ∈ range m, κ x u * g x) * conj (∑ x ∈ range m, κ x u * g x)
      = ∑ x' ∈ range m, conj (g x') * ((∑ x ∈ range m, κ x u * g x) * conj (κ x' u)) := by
    intro u _
    rw [map_sum, mul_sum]
    exact sum_congr rfl fun x' _ => by rw [map_mul]; ring
  rw [sum_congr rfl this, sum_comm]
  have : ∀ x' ∈ range m, ∑ u ∈ range K, conj (g x') * ((∑ x ∈ range m, κ x u * g x) * conj (κ x' u))
      = (K : ℂ) * (g x' * conj (g x')) := by
    intro x' hx'
    rw [← mul_sum, inv1 m K κ h g x' (mem_range.mp hx')]; ring
  rw [sum_congr rfl this, mul_sum]

theorem parseval2 (m n K L : ℕ) (κ1 κ2 : ℕ → ℕ → ℂ) (h1 : Orth m K κ1) (h2 : Orth n L κ2) (f : ℕ → ℕ → ℂ) :
    ∑ u ∈ range K, ∑ v ∈ range L, Complex.normSq (∑ y ∈ range n, (∑ x ∈ range m, κ1 x u * f x y) * κ2 y v)
      = K * L * ∑ x ∈ range m, ∑ y ∈ range n, Complex.normSq (f x y) := by
  have hv : ∀ u ∈ range K, ∑ v ∈ range L, Complex.normSq (∑ y ∈ range n, (∑ x ∈ range m, κ1 x u * f x y) * κ2 y v)
      = L * ∑ y ∈ range n, Complex.normSq (∑ x ∈ range m, κ1 x u * f x y) := by
    intro u _
    rw [← parseval1 n L κ2 h2 (fun y => ∑ x ∈ range m, κ1 x u * f x y)]
    exact sum_congr rfl fun v _ => by congr 1; exact sum_congr rfl fun y _ => mul_comm _ _
  rw [sum_congr rfl hv, ← mul_sum, sum_comm]
  have hu : ∀ y ∈ range n, ∑ u ∈ range K, Complex.normSq (∑ x ∈ range m, κ1 x u * f x y)
      = K * ∑ x ∈ range m, Complex.normSq (f x y) := fun y _ => parseval1 m K κ1 h1 (fun x => f x y)
  rw [sum_congr rfl hu, ← mul_sum, sum_comm]
  ring

theorem inv2 (m n K L : ℕ) (κ1 κ2 : ℕ → ℕ → ℂ) (h1 : Orth m K κ1) (h2 : Orth n L κ2) (f : ℕ → ℕ → ℂ)
    (x' y' : ℕ) (hx' : x' < m) (hy' : y' < n) :
    ∑ v ∈ range L, (∑ u ∈ range K, conj (κ1 x' u) * ∑ y ∈ range n, (∑ x ∈ range m, κ1 x u * f x y) * κ2 y v)
        * conj (κ2 y' v) = K * L * f x' y' := by
  have hin : ∀ v ∈ range L, ∑ u ∈ range K, conj (κ1 x' u) * ∑ y ∈ range n, (∑ x ∈ range m, κ1 x u * f x y) * κ2 y v
      = ∑ y ∈ range n, κ2 y v * ((K : ℂ) * f x' y) := by
    intro v _
    simp_rw [mul_sum]
    rw [sum_comm]
    refine sum_congr rfl fun y _ => ?_
    rw [← inv1 m K κ1 h1 (fun x => f x y) x' hx', mul_sum]
    exact sum_congr rfl fun u _ => by ring
  rw [sum_congr rfl (fun v hv => by rw [hin v hv]), inv1 n L κ2 h2 (fun y => (K : ℂ) * f x' y) y' hy']
  ring

/-! ## over one period: the round trip and Parseval -/

theorem sqrt_abs_inv_mul_self (K L : ℕ) (hK : 0 < K) (hL : 0 < L) :
    Real.sqrt |(1 / (K : ℝ)) * (1 / (L : ℝ))| * Real.sqrt |(1 / (K : ℝ)) * (1 / (L : ℝ))| = 1 / ((K : ℝ) * L) := by
  have hKL : (0 : ℝ) < K * L := mul_pos (Nat.cast_pos.mpr hK) (Nat.cast_pos.mpr hL)
  rw [Real.mul_self_sqrt (abs_nonneg _), one_div_mul_one_div, abs_of_pos (one_div_pos.mpr hKL)]

theorem pull_const (K L : ℕ) (a b : ℕ → ℂ) (S : ℕ → ℕ → ℂ) (p q c : ℂ) :
    ∑ v ∈ range L, (∑ u ∈ range K, (p * a u) * (c * S u v)) * (q * b v)
      = p * q * c * ∑ v ∈ range L, (∑ u ∈ range K, a u * S u v) * b v := by
  simp only [mul_sum, sum_mul]
  exact sum_congr rfl fun v _ => sum_congr rfl fun u _ => by ring

/-- the factors of `idft2` and `dft2` (same flag) and the `K·L` of the orthogonality cancel on a period -/
theorem nrm_roundtrip (K L : ℕ) (hK : 0 < K) (hL : 0 < L) (unitary : Bool) :
    (if unitary then ((Real.sqrt |1 / (K : ℝ) * (1 / (L : ℝ))| : ℝ) : ℂ) else 1 / (((K : ℤ) * (L : ℤ) : ℤ) : ℂ))
      * (if unitary then ((Real.sqrt |1 / (K : ℝ) * (1 / (L : ℝ))| : ℝ) : ℂ) else 1) * ((K : ℂ) * L) = 1 := by
  have hKL : (K : ℂ) * L ≠ 0 := mul_ne_zero (Nat.cast_ne_zero.mpr hK.ne') (Nat.cast_ne_zero.mpr hL.ne')
  cases unitary
  · rw [if_neg Bool.false_ne_true, if_neg Bool.false_ne_true, mul_one, Int.cast_mul, Int.cast_natCast, Int.cast_natCast,
      one_div_mul_cancel hKL]
  · rw [if_pos rfl, if_pos rfl, ← Complex.ofReal_mul, sqrt_abs_inv_mul_self K L hK hL, Complex.ofReal_div, Complex.ofReal_one,
      Complex.ofReal_mul, Complex.ofReal_natCast, Complex.ofReal_natCast, one_div_mul_cancel hKL]

/-- the round trip over a period: forward with any real shift and integer offset, inverse with an integer shift `(tr, tc)`;
`hx`, `hy`: the rolled index lies inside the array -/
theorem idft2_dft2_period (f : Arr ℂ) (m n K L : ℕ) (hm : f.s0 = m) (hn : f.s1 = n) (hK : 0 < K) (hL : 0 < L)
    (hmK : m ≤ K) (hnL : n ≤ L) (shr shc : ℝ) (offr offc tr tc : ℤ) (unitary : Bool) (i j : ℤ)
    (hx : (i - tr - offr) % K < m) (hy : (j - tc - offc) % L < n) :
    (idft2 (dft2 f (1 / (K : ℝ)) (1 / (L : ℝ)) K L shr shc offr offc unitary) (1 / (K : ℝ)) (1 / (L : ℝ)) m n
        ((tr : ℤ) : ℝ) ((tc : ℤ) : ℝ) unitary).get i j
      = ramp (1 / K) m offr shr ((i - tr - offr) % K) * ramp (1 / L) n offc shc ((j - tc - offc) % L)
        * f.get ((i - tr - offr) % K) ((j - tc - offc) % L) := by
  obtain ⟨x, hxi⟩ := Int.eq_ofNat_of_zero_le (Int.emod_nonneg (i - tr - offr) (Int.natCast_ne_zero.mpr hK.ne'))
  obtain ⟨y, hyj⟩ := Int.eq_ofNat_of_zero_le (Int.emod_nonneg (j - tc - offc) (Int.natCast_ne_zero.mpr hL.ne'))
  rw [hxi] at hx ⊢
  rw [hyj] at hy ⊢
  rw [idft2_get_eq]
  simp only [dft2C_s0, dft2C_s1, Int.toNat_natCast, dft2_get_eq, dft2Sum, hm, hn,
    ker_inv_roll m K offr tr shr, ker_inv_roll n L offc tc shc, hxi, hyj]
  rw [pull_const, inv2 m n K L (fun x u => ker (1 / K) m K offr shr x u) (fun y v => ker (1 / L) n L offc shc y v)
    (orth_ker m K hK hmK m offr shr) (orth_ker n L hL hnL n offc shc) (fun x y => f.get x y) x y
    (Int.ofNat_lt.mp hx) (Int.ofNat_lt.mp hy)]
  linear_combination (ramp (1 / K) m offr shr x * ramp (1 / L) n offc shc y * f.get x y) * nrm_roundtrip K L hK hL unitary

theorem dft2_energy (f : Arr ℂ) (m n : ℕ) (hm : f.s0 = m) (hn : f.s1 = n) (K L : ℕ) (hK : 0 < K) (hL : 0 < L)
    (hmK : m ≤ K) (hnL : n ≤ L) (shr shc : ℝ) (offr offc : ℤ) :
    ∑ u ∈ range K, ∑ v ∈ range L,
        Complex.normSq ((dft2 f (1 / (K : ℝ)) (1 / (L : ℝ)) K L shr shc offr offc true).get u v)
      = ∑ x ∈ range m, ∑ y ∈ range n, Complex.normSq (f.get x y) := by
  simp only [dft2_get_eq, if_true, Complex.normSq_mul, Complex.normSq_ofReal, sqrt_abs_inv_mul_self K L hK hL, ← mul_sum]
  unfold dft2Sum
  simp only [hm, hn, Int.toNat_natCast]
  have hKL : (K : ℝ) * L ≠ 0 := mul_ne_zero (Nat.cast_ne_zero.mpr hK.ne') (Nat.cast_ne_zero.mpr hL.ne')
  rw [parseval2 m n K L (fun x u => ker (1 / K) m K offr shr x u) (fun y v => ker (1 / L) n L offc shc y v)
    (orth_ker m K hK hmK m offr shr) (orth_ker n L hL hnL n offc shc) (fun x y => f.get x y), ← mul_assoc,
    one_div_mul_cancel hKL, one_mul]

end Lentil
