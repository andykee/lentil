import LentilVerif.Lemmas.GeometryShapes
import Mathlib.Tactic.LinearCombination
import Mathlib.Analysis.SpecialFunctions.Trigonometric.Basic
/-! Hexagonal segments on the lattice of `hex_to_rc`: the exact edge-normal tables of `lentil.hexagon`, the transposition that carries the rotated
aperture to the unrotated one, the separating-axis argument for a positive gap and the clearance of the array border. -/
namespace Lentil
variable {K : Type} [Field K]

/-! ### the two tables of edge normals -/

/-- the edge normals `lentil.hexagon` evaluates when not rotated (`θₙ = n·π/3 + π/6`), as exact values with `hh` for `√3/2` -/
def HexNormalsUnrotated (hh : K) (sinT cosT : ℕ → K) : Prop :=
  sinT 0 = 1 / 2 ∧ cosT 0 = hh ∧ sinT 1 = 1 ∧ cosT 1 = 0 ∧ sinT 2 = 1 / 2 ∧ cosT 2 = -hh ∧
  sinT 3 = -(1 / 2) ∧ cosT 3 = -hh ∧ sinT 4 = -1 ∧ cosT 4 = 0 ∧ sinT 5 = -(1 / 2) ∧ cosT 5 = hh

/-- … and when rotated (`θₙ = n·π/3`) -/
def HexNormalsRotated (hh : K) (sinT cosT : ℕ → K) : Prop :=
  sinT 0 = 0 ∧ cosT 0 = 1 ∧ sinT 1 = hh ∧ cosT 1 = 1 / 2 ∧ sinT 2 = hh ∧ cosT 2 = -(1 / 2) ∧
  sinT 3 = 0 ∧ cosT 3 = -1 ∧ sinT 4 = -hh ∧ cosT 4 = -(1 / 2) ∧ sinT 5 = -hh ∧ cosT 5 = 1 / 2

theorem hexNormalsUnrotated_real :
    HexNormalsUnrotated (√3 / 2) (fun n => Real.sin ((n : ℝ) * Real.pi / 3 + Real.pi / 6))
      (fun n => Real.cos ((n : ℝ) * Real.pi / 3 + Real.pi / 6)) := by
  have e0 : ((0 : ℕ) : ℝ) * Real.pi / 3 + Real.pi / 6 = Real.pi / 6 := by push_cast; ring
  have e1 : ((1 : ℕ) : ℝ) * Real.pi / 3 + Real.pi / 6 = Real.pi / 2 := by push_cast; ring
  have e2 : ((2 : ℕ) : ℝ) * Real.pi / 3 + Real.pi / 6 = Real.pi - Real.pi / 6 := by push_cast; ring
  have e3 : ((3 : ℕ) : ℝ) * Real.pi / 3 + Real.pi / 6 = Real.pi / 6 + Real.pi := by push_cast; ring
  have e4 : ((4 : ℕ) : ℝ) * Real.pi / 3 + Real.pi / 6 = Real.pi / 2 + Real.pi := by push_cast; ring
  have e5 : ((5 : ℕ) : ℝ) * Real.pi / 3 + Real.pi / 6 = 2 * Real.pi - Real.pi / 6 := by push_cast; ring
  simp only [HexNormalsUnrotated, e0, e1, e2, e3, e4, e5, Real.sin_pi_div_six, Real.cos_pi_div_six, Real.sin_pi_div_two,
    Real.cos_pi_div_two, Real.sin_pi_sub, Real.cos_pi_sub, Real.sin_add_pi, Real.cos_add_pi, Real.sin_two_pi_sub, Real.cos_two_pi_sub]
  norm_num

theorem hexNormalsRotated_real :
    HexNormalsRotated (√3 / 2) (fun n => Real.sin ((n : ℝ) * Real.pi / 3)) (fun n => Real.cos ((n : ℝ) * Real.pi / 3)) := by
  have e0 : ((0 : ℕ) : ℝ) * Real.pi / 3 = 0 := by push_cast; ring
  have e1 : ((1 : ℕ) : ℝ) * Real.pi / 3 = Real.pi / 3 := by push_cast; ring
  have e2 : ((2 : ℕ) : ℝ) * Real.pi / 3 = Real.pi - Real.pi / 3 := by push_cast; ring
  have e3 : ((3 : ℕ) : ℝ) * Real.pi / 3 = Real.pi := by push_cast; ring
  have e4 : ((4 : ℕ) : ℝ) * Real.pi / 3 = Real.pi / 3 + Real.pi := by push_cast; ring
  have e5 : ((5 : ℕ) : ℝ) * Real.pi / 3 = 2 * Real.pi - Real.pi / 3 := by push_cast; ring
  simp only [HexNormalsRotated, e0, e1, e2, e3, e4, e5, Real.sin_zero, Real.cos_zero, Real.sin_pi_div_three, Real.cos_pi_div_three,
    Real.sin_pi, Real.cos_pi, Real.sin_pi_sub, Real.cos_pi_sub, Real.sin_add_pi, Real.cos_add_pi, Real.sin_two_pi_sub, Real.cos_two_pi_sub]
  norm_num

theorem HexNormalsRotated.transpose {hh : K} {sinT cosT : ℕ → K} (h : HexNormalsRotated hh sinT cosT) :
    HexNormalsUnrotated hh (fun m => cosT ((7 - m) % 6)) (fun m => sinT ((7 - m) % 6)) :=
  let ⟨s0, c0, s1, c1, s2, c2, s3, c3, s4, c4, s5, c5⟩ := h
  ⟨c1, s1, c0, s0, c5, s5, c4, s4, c3, s3, c2, s2⟩

variable [LinearOrder K] [IsStrictOrderedRing K]

/-! ### the two orientations: rotated = transposed unrotated, unrotated = three strips around a lattice point -/

/-- the rotated aperture is the transpose of the unrotated one: rotated normal `n` is unrotated normal `(7 − n) mod 6` with row and column
swapped, and the rotated centre of cell `(q, r, s)` is the swapped unrotated centre of `(−r, −q, −s)`. Needs no table. -/
theorem hexagonAt_rotated (half hh inner ρ : K) (sinT cosT : Nat → K) (n : Int) (c : HexCell) (aa : Bool) (i j : Int) :
    hexagonAt half inner sinT cosT n n (hexToRC (2 * hh) hh (3 / 2) c ρ true).1 (hexToRC (2 * hh) hh (3 / 2) c ρ true).2 aa i j =
    hexagonAt half inner (fun m => cosT ((7 - m) % 6)) (fun m => sinT ((7 - m) % 6)) n n
      (hexToRC (2 * hh) hh (3 / 2) (-c.2.1, -c.1, -c.2.2) ρ false).1 (hexToRC (2 * hh) hh (3 / 2) (-c.2.1, -c.1, -c.2.2) ρ false).2 aa j i := by
  refine hexagonAt_reindex (fun m => (7 - m) % 6) (fun m hm => by omega) fun m hm => ?_
  simp only [hexToRC, if_true, Bool.false_eq_true, if_false, meshCoord, Gen.meshCoord]
  push_cast
  ring

theorem hexagonAt_unrotated_iff {hh : K} {sinT cosT : ℕ → K} (hT : HexNormalsUnrotated hh sinT cosT)
    (half inner : K) (n0 n1 : Int) (s0 s1 : K) (i j : Int) :
    hexagonAt half inner sinT cosT n0 n1 s0 s1 false i j = 1 ↔
      |meshCoord n0 i s0 * (1 / 2) + meshCoord n1 j s1 * hh| ≤ inner ∧ |meshCoord n0 i s0| ≤ inner ∧
      |meshCoord n0 i s0 * (1 / 2) + meshCoord n1 j s1 * -hh| ≤ inner := by
  obtain ⟨s0, c0, s1, c1, s2, c2, s3, c3, s4, c4, s5, c5⟩ := hT
  have anti : ∀ n, n < 3 → sinT (n + 3) = -sinT n ∧ cosT (n + 3) = -cosT n := by
    intro n hn
    obtain rfl | rfl | rfl : n = 0 ∨ n = 1 ∨ n = 2 := by omega
    all_goals simp [*]
  rw [hexagonAt_eq_one_iff_abs (fun n hn => (anti n hn).1) (fun n hn => (anti n hn).2)]
  constructor
  · intro h
    have h0 := h 0 (by norm_num); have h1 := h 1 (by norm_num); have h2 := h 2 (by norm_num)
    rw [s0, c0] at h0; rw [s1, c1, mul_one, mul_zero, add_zero] at h1; rw [s2, c2] at h2
    exact ⟨h0, h1, h2⟩
  · rintro ⟨h0, h1, h2⟩ n hn
    obtain rfl | rfl | rfl : n = 0 ∨ n = 1 ∨ n = 2 := by omega
    · rwa [s0, c0]
    · rwa [s1, c1, mul_one, mul_zero, add_zero]
    · rwa [s2, c2]

theorem hexToRC_unrotated (hh ρ : K) (a : HexCell) :
    hexToRC (2 * hh) hh (3 / 2) a ρ false = (ρ * hh * ((-(a.1 + 2 * a.2.1) : Int) : K), ρ * (3 / 2) * ((a.1 : Int) : K)) := by
  simp only [hexToRC, Bool.false_eq_true, if_false, Prod.mk.injEq]
  constructor
  · push_cast; ring
  · ring

/-! ### segments do not overlap when the gap is positive -/

theorem abs_int_le_one_of_strip {w I p q : K} {ℓ : ℤ} (hI : I < w) (hp : |p| ≤ I) (hq : |q| ≤ I) (h : p - q = w * ℓ) : |ℓ| ≤ 1 := by
  have hw : 0 < w := lt_of_le_of_lt ((abs_nonneg p).trans hp) hI
  have h1 : |w * (ℓ : K)| < w * 2 := by rw [← h]; exact lt_of_le_of_lt (abs_sub p q) (by linear_combination hp + hq + 2 * hI)
  rw [abs_mul, abs_of_pos hw, mul_lt_mul_iff_right₀ hw, ← Int.cast_abs] at h1
  have : |ℓ| < 2 := by exact_mod_cast h1
  omega

/-- a pixel common to the segments at cells `a` and `b` is in all three strips of both; along each strip normal the centres are
`(R + g/2)·hh·ℓ` apart for an integer form `ℓ` of `b − a` (`Δq − Δr`, `Δq + 2Δr`, `2Δq + Δr`) while the strips are only `R·hh` wide, so
`|ℓ| ≤ 1` for all three, which forces `Δq = Δr = 0` -/
theorem hex_disjoint_unrotated (half hh R g : K) (sinT cosT : Nat → K) (n : Int) (a b : HexCell) (i j : Int)
    (hhpos : 0 < hh) (hg : 0 < g) (hT : HexNormalsUnrotated hh sinT cosT)
    (ha : a.1 + a.2.1 + a.2.2 = 0) (hb : b.1 + b.2.1 + b.2.2 = 0) (hab : a ≠ b) :
    ¬ (hexagonAt half (R * hh) sinT cosT n n (hexToRC (2 * hh) hh (3 / 2) a (R + g / 2) false).1
          (hexToRC (2 * hh) hh (3 / 2) a (R + g / 2) false).2 false i j = 1 ∧
       hexagonAt half (R * hh) sinT cosT n n (hexToRC (2 * hh) hh (3 / 2) b (R + g / 2) false).1
          (hexToRC (2 * hh) hh (3 / 2) b (R + g / 2) false).2 false i j = 1) := by
  rw [hexagonAt_unrotated_iff hT, hexagonAt_unrotated_iff hT, hexToRC_unrotated, hexToRC_unrotated]
  rintro ⟨⟨A0, A1, A2⟩, B0, B1, B2⟩
  have hI : R * hh < (R + g / 2) * hh := mul_lt_mul_of_pos_right (lt_add_of_pos_right R (half_pos hg)) hhpos
  have d0 : |(b.1 - a.1) - (b.2.1 - a.2.1)| ≤ 1 := abs_int_le_one_of_strip hI A0 B0
    (by simp only [meshCoord, Gen.meshCoord]; push_cast; ring)
  have d1 : |(b.1 - a.1) + 2 * (b.2.1 - a.2.1)| ≤ 1 := abs_int_le_one_of_strip hI B1 A1
    (by simp only [meshCoord, Gen.meshCoord]; push_cast; ring)
  have d2 : |2 * (b.1 - a.1) + (b.2.1 - a.2.1)| ≤ 1 := abs_int_le_one_of_strip hI B2 A2
    (by simp only [meshCoord, Gen.meshCoord]; push_cast; ring)
  rw [abs_le] at d0 d1 d2
  obtain ⟨e1, e2, e3⟩ : a.1 = b.1 ∧ a.2.1 = b.2.1 ∧ a.2.2 = b.2.2 := by omega
  exact hab (Prod.ext e1 (Prod.ext e2 e3))

/-! ### segments are clear of the array border -/

theorem abs_le_add_of_abs_sub_le {t c w C : K} (h : |t - c| ≤ w) (hc : |c| ≤ C) : |t| ≤ w + C :=
  calc |t| = |(t - c) + c| := by rw [sub_add_cancel]
    _ ≤ |t - c| + |c| := abs_add_le _ _
    _ ≤ w + C := add_le_add h hc

theorem abs_mul_le_of_abs_le {a x b : K} (ha : 0 ≤ a) (h : |x| ≤ b) : |a * x| ≤ a * b := by
  rw [abs_mul, abs_of_nonneg ha]; exact mul_le_mul_of_nonneg_left h ha

/-- the integer distance `d` to the centre index has `2·(d + 1) < size`, and `size − 1 ≤ 2·⌊size/2⌋ ≤ size` -/
theorem index_clear_of_border (size i : Int) {E : K} (hsize : 2 * (E + 1) < (size : K))
    (h : |(i : K) - ((size / 2 : Int) : K)| ≤ E) : 1 ≤ i ∧ i ≤ size - 2 := by
  have hd : ((2 * (|i - size / 2| + 1) : Int) : K) < (size : K) := by push_cast; linear_combination 2 * h + hsize
  have := abs_le.1 (le_refl |i - size / 2|)
  have := Int.cast_lt.1 hd
  omega

/-- across the flats: the centre lies `ρ·hh·ℓ` (`|ℓ| ≤ 2k`, pitch `ρ = R + g/2`) from the array centre and the hexagon reaches `(R + δ)·hh` from it;
`hh ≤ 1` turns the surplus `(δ + k·g)·hh` into `δ + k·g` -/
theorem flat_axis_bound {hh R δ g k ℓ t : K} (hh0 : 0 ≤ hh) (hh1 : hh ≤ 1) (hR : 0 ≤ R) (hδ : 0 ≤ δ) (hg : 0 ≤ g) (hk : 0 ≤ k) (hℓ : |ℓ| ≤ 2 * k)
    (ht : |t - (R + g / 2) * hh * ℓ| ≤ (R + δ) * hh) : |t| ≤ (2 * k + 1) * (R * hh) + k * g + δ := by
  refine (abs_le_add_of_abs_sub_le ht (abs_mul_le_of_abs_le (by positivity) hℓ)).trans ?_
  linear_combination (δ + k * g) * hh1

/-- through the vertices: the centre lies `ρ·(3/2)·m` (`|m| ≤ k`) from the array centre and the hexagon reaches `R + δ` from it; `5/6 ≤ hh` and
`1 ≤ k` make this no more than the bound across the flats -/
theorem vertex_axis_bound {hh R δ g k m t : K} (hh56 : 5 / 6 ≤ hh) (hR : 0 ≤ R) (hg : 0 ≤ g) (hk : 1 ≤ k) (hm : |m| ≤ k)
    (ht : |t - (R + g / 2) * (3 / 2) * m| ≤ R + δ) : |t| ≤ (2 * k + 1) * (R * hh) + k * g + δ := by
  have hk0 : 0 ≤ k := zero_le_one.trans hk
  refine (abs_le_add_of_abs_sub_le ht (abs_mul_le_of_abs_le (by positivity) hm)).trans ?_
  linear_combination (2 * k + 1) * R * hh56 + (1 / 6) * R * hk + (1 / 4) * k * hg

theorem abs_le_of_vertex_strips {hh R u v : K} (hh0 : 0 < hh) (h1 : |u * (1 / 2) + v * hh| ≤ R * hh) (h2 : |u * (1 / 2) + v * -hh| ≤ R * hh) :
    |v| ≤ R := by
  obtain ⟨a1, a2⟩ := abs_le.1 h1
  obtain ⟨b1, b2⟩ := abs_le.1 h2
  refine abs_le.2 ⟨le_of_mul_le_mul_right ?_ hh0, le_of_mul_le_mul_right ?_ hh0⟩
  · linear_combination (a1 + b2) / 2
  · linear_combination (a2 + b1) / 2

/-- `δ < 1` is 0 for the binary mask and the reach of the antialiased edge otherwise; `pad ≥ 2` absorbs it. Unrotated, rows run across the
flats and columns through the vertices; the rotated case is the unrotated one for the transposed pixel and the cell `(−r, −q, −s)`. -/
theorem hex_border (half hh R δ g pad : K) (sinT cosT : Nat → K) (size : Int) (k : Nat) (a : HexCell) (i j : Int) (rotate : Bool)
    (hh56 : 5 / 6 ≤ hh) (hh1 : hh ≤ 1) (hR : 0 ≤ R) (hδ : 0 ≤ δ) (hδ1 : δ < 1) (hg : 0 ≤ g) (hpad : 2 ≤ pad) (hk : 1 ≤ k)
    (hsize : ((2 * k + 1 : ℕ) : K) * (R * hh) * 2 + ((2 * k : ℕ) : K) * g + pad * 2 ≤ (size : K))
    (hT : if rotate then HexNormalsRotated hh sinT cosT else HexNormalsUnrotated hh sinT cosT) (ha : a.1 + a.2.1 + a.2.2 = 0)
    (hb : (-(k : Int) ≤ a.1 ∧ a.1 ≤ k) ∧ (-(k : Int) ≤ a.2.1 ∧ a.2.1 ≤ k) ∧ (-(k : Int) ≤ a.2.2 ∧ a.2.2 ≤ k))
    (hin : hexagonAt half ((R + δ) * hh) sinT cosT size size (hexToRC (2 * hh) hh (3 / 2) a (R + g / 2) rotate).1
          (hexToRC (2 * hh) hh (3 / 2) a (R + g / 2) rotate).2 false i j = 1) :
    (1 ≤ i ∧ i ≤ size - 2) ∧ (1 ≤ j ∧ j ≤ size - 2) := by
  have hhpos : 0 < hh := lt_of_lt_of_le (by norm_num) hh56
  have hE : 2 * ((2 * (k : K) + 1) * (R * hh) + k * g + δ + 1) < (size : K) := by
    push_cast at hsize; linear_combination hsize + 2 * hpad + 2 * hδ1
  have unrotated : ∀ (sinT cosT : ℕ → K) (a : HexCell) (i j : Int), HexNormalsUnrotated hh sinT cosT → a.1 + a.2.1 + a.2.2 = 0 →
      (-(k : Int) ≤ a.1 ∧ a.1 ≤ k) ∧ (-(k : Int) ≤ a.2.1 ∧ a.2.1 ≤ k) ∧ (-(k : Int) ≤ a.2.2 ∧ a.2.2 ≤ k) →
      hexagonAt half ((R + δ) * hh) sinT cosT size size (hexToRC (2 * hh) hh (3 / 2) a (R + g / 2) false).1
        (hexToRC (2 * hh) hh (3 / 2) a (R + g / 2) false).2 false i j = 1 → (1 ≤ i ∧ i ≤ size - 2) ∧ (1 ≤ j ∧ j ≤ size - 2) := by
    intro sinT cosT a i j hT ha hb hin
    rw [hexagonAt_unrotated_iff hT, hexToRC_unrotated] at hin
    obtain ⟨A0, A1, A2⟩ := hin
    have AX := abs_le_of_vertex_strips hhpos A0 A2
    have hℓ : |((-(a.1 + 2 * a.2.1) : Int) : K)| ≤ 2 * (k : K) := by
      rw [← Int.cast_abs]; exact_mod_cast (show |(-(a.1 + 2 * a.2.1))| ≤ 2 * (k : Int) by rw [abs_le]; omega)
    have hm : |((a.1 : Int) : K)| ≤ (k : K) := by
      rw [← Int.cast_abs]; exact_mod_cast (show |a.1| ≤ (k : Int) by rw [abs_le]; omega)
    exact ⟨index_clear_of_border size i hE (flat_axis_bound hhpos.le hh1 hR hδ hg (Nat.cast_nonneg k) hℓ A1),
      index_clear_of_border size j hE (vertex_axis_bound hh56 hR hg (by exact_mod_cast hk) hm AX)⟩
  cases rotate
  · exact unrotated sinT cosT a i j hT ha hb hin
  · rw [hexagonAt_rotated] at hin
    exact (unrotated _ _ _ j i (HexNormalsRotated.transpose hT) (by simp only; omega) (by simp only; omega) hin).symm

/-! ### the regenerated `hex_to_rc`, grid pitch, inner radius and size argument in the closed forms the segment theorems use (`hh = √3/2`) -/

theorem genHexToRC_eq {sqrtN : ℕ → K} {hh : K} (hs : sqrtN 3 = 2 * hh) (h : HexCell) (ρ : K) (rot : Bool) :
    Gen.hexToRC sqrtN h ρ rot = hexToRC (2 * hh) hh (3 / 2) h ρ rot := by
  unfold Gen.hexToRC Gen.hexToXY hexToRC
  cases rot <;> simp only [Bool.false_eq_true, if_false, if_true, hs] <;> refine Prod.ext ?_ ?_ <;> (simp only; push_cast; ring)

theorem genHexPitch_eq (R g : K) : Gen.hexPitch R g = R + g / 2 := by
  unfold Gen.hexPitch; push_cast; ring

theorem genHexInner_eq {sqrtN : ℕ → K} {hh : K} (hs : sqrtN 3 = 2 * hh) (R : K) : Gen.hexInner sqrtN R = R * hh := by
  unfold Gen.hexInner; rw [hs]; push_cast; ring

theorem genHexSizeArg_eq {sqrtN : ℕ → K} {hh : K} (hs : sqrtN 3 = 2 * hh) (k pad : ℕ) (R g : K) :
    Gen.hexSizeArg sqrtN k pad R g = ((2 * k + 1 : ℕ) : K) * (R * hh) * 2 + ((2 * k : ℕ) : K) * g + ((pad : ℕ) : K) * 2 := by
  unfold Gen.hexSizeArg; rw [genHexInner_eq hs]; push_cast; ring

end Lentil
