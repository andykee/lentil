import LentilVerif.Lemmas.Spectrum
import LentilVerif.Lemmas.Units
import LentilVerif.Model.SpecArith
/-! C13 — `Spectrum._ufunc` / `_interp_common`: the generated pieces in closed form, then the symmetries of `_interp_common`,
piece by piece: exchanging the operands; a common rescaling of the wavelengths (every piece is homogeneous of degree one in
them); a common rescaling of the values (the other half of a unit change of a per-wavelength density: `Spectrum.to(wave unit)`
divides the values by the factor it multiplies the wavelengths by). -/
namespace Lentil.Spec
open Lentil.Units Gen

/-! ### the generated pieces in closed form

Bridges from the generated arithmetic (`Gen.samplingSel*`, `Gen.interp*`, regenerated from `_sampling` and `_interp_common`):
these are the lemmas that stop checking when the source arithmetic changes. -/

theorem samplingOf_eq (m : Sampling) (w1 w2 : List ℚ) : samplingOf m w1 w2 =
    (match m with
     | .min => (match minDiff w1, minDiff w2 with
       | some a, some b => some (min a b)
       | _, _ => none)
     | .left => minDiff w1
     | .right => minDiff w2
     | .step d => some d) := by
  cases m <;> rfl

theorem gridTol_eq (dw : ℚ) : gridTol dw = dw / 1000000000 := by
  unfold gridTol Gen.interpTol; ring

theorem gridTol_pos {dw : ℚ} (h : 0 < dw) : 0 < gridTol dw := by
  rw [gridTol_eq]; exact div_pos h (by norm_num)

theorem gridTol_lt {dw : ℚ} (h : 0 < dw) : gridTol dw < dw := by
  rw [gridTol_eq, div_lt_iff₀ (by norm_num)]; linarith

theorem gridNum_eq (mn mx dw : ℚ) : gridNum mn mx dw = ((mx - mn - gridTol dw) / dw).ceil := by
  unfold gridNum Gen.interpNum; rfl

theorem gridNum_pos (mn mx dw : ℚ) (hdw : 0 < dw) (h : gridTol dw < mx - mn) : 1 ≤ gridNum mn mx dw := by
  rw [gridNum_eq]
  have : ((0 : Int) : ℚ) < (mx - mn - gridTol dw) / dw := by
    simp only [Int.cast_zero]; apply div_pos (by linarith) hdw
  have := Rat.lt_ceil_iff.mpr this
  omega

theorem commonGrid_eq (mn mx dw : ℚ) (h : 0 ≤ gridNum mn mx dw) :
    commonGrid mn mx dw = linspace mn mx ((gridNum mn mx dw).toNat + 1) := by
  unfold commonGrid Gen.interpStart Gen.interpStop Gen.interpCount
  congr 1
  omega

theorem interpMin_eq (a b : ℚ) : Gen.interpMin a b = min a b := rfl
theorem interpMax_eq (a b : ℚ) : Gen.interpMax a b = max a b := rfl

/-! ### the ends and the smallest step of a valid grid -/

theorem minL_eq_head (l : List ℚ) (h : StrictInc l) : minL l = l.head? := by
  have : minL l = l.min? := by cases l <;> rfl
  rw [this]
  exact List.min?_eq_head? (h.imp fun hab => min_eq_left hab.le)

theorem maxL_eq_getLast : ∀ (l : List ℚ), StrictInc l → maxL l = l.getLast?
  | [], _ | [_], _ => rfl
  | x :: y :: ys, h => by
    have hxy : x < y := List.rel_of_pairwise_cons h (by simp)
    have ih := maxL_eq_getLast (y :: ys) h.of_cons
    simp only [maxL, List.foldl_cons, max_eq_right hxy.le, List.getLast?_cons_cons] at ih ⊢
    exact ih

theorem minDiff_pos : ∀ l : List ℚ, StrictInc l → 2 ≤ l.length →
    ∃ d a b, minDiff l = some d ∧ l.head? = some a ∧ l.getLast? = some b ∧ 0 < d ∧ d ≤ b - a
  | [], _, h | [_], _, h => by simp at h
  | [x0, x1], hs, _ => ⟨x1 - x0, x0, x1, rfl, rfl, rfl, sub_pos.mpr (List.rel_of_pairwise_cons hs (by simp)), le_rfl⟩
  | x0 :: x1 :: x2 :: rest, hs, _ => by
    obtain ⟨d, a, b, hd, ha, hb, hpos, hle⟩ := minDiff_pos (x1 :: x2 :: rest) hs.of_cons (by simp)
    cases Option.some.inj ha
    have h01 : x0 < x1 := List.rel_of_pairwise_cons hs (by simp)
    refine ⟨min (x1 - x0) d, x0, b, ?_, rfl, List.getLast?_cons_cons.trans hb, lt_min (sub_pos.mpr h01) hpos,
      (min_le_left _ _).trans ?_⟩
    · rw [minDiff, hd]
    · linarith

theorem ends_of_valid (s : Spectrum) (h : WF s) (v : validWave s.wave = true) (l : 2 ≤ s.wave.length) :
    ∃ lo hi d, minL s.wave = some lo ∧ maxL s.wave = some hi ∧ minDiff s.wave = some d ∧ 0 < d ∧ d ≤ hi - lo ∧ 0 < lo := by
  obtain ⟨d, lo, hi, hd, hlo, hhi, hpos, hle⟩ := minDiff_pos s.wave h.1 l
  exact ⟨lo, hi, d, (minL_eq_head _ h.1).trans hlo, (maxL_eq_getLast _ h.1).trans hhi, hd, hpos, hle,
    validWave_pos _ v lo (List.mem_of_mem_head? hlo)⟩

/-! ### when the operation succeeds -/

/-- `y` is the value at `x` of the piecewise-linear function through the points `(xs[i], ys[i])` — the mathematical
interpolant, stated without reference to the model's `seg`/`interpAt` -/
def IsLinInterp (xs ys : List ℚ) (x y : ℚ) : Prop :=
  ∃ i x0 x1 y0 y1, xs[i]? = some x0 ∧ xs[i+1]? = some x1 ∧ ys[i]? = some y0 ∧ ys[i+1]? = some y1 ∧
    x0 ≤ x ∧ x ≤ x1 ∧ y = y0 + (y1 - y0) * (x - x0) / (x1 - x0)

theorem ufunc_ok (op : ℚ → ℚ → ℚ) (s1 s2 : Spectrum) (m : Sampling) (fill : ℚ) {lo1 hi1 lo2 hi2 dw : ℚ}
    (h1 : minL s1.wave = some lo1) (h2 : maxL s1.wave = some hi1) (h3 : minL s2.wave = some lo2) (h4 : maxL s2.wave = some hi2)
    (hs : samplingOf m s1.wave s2.wave = some dw) :
    ufunc op s1 s2 m fill = .ok ⟨commonGrid (min lo1 lo2) (max hi1 hi2) dw, (commonGrid (min lo1 lo2) (max hi1 hi2) dw).map
      fun g => op (operandAt s1 lo1 hi1 (gridTol dw) fill g) (operandAt s2 lo2 hi2 (gridTol dw) fill g)⟩ := by
  simp [ufunc, interpCommon, h1, h2, h3, h4, hs, interpMin_eq, interpMax_eq, List.zipWith_map_left, List.zipWith_map_right,
    List.zipWith_self]

theorem rightOperand_eq (s1 s2 : USpec) : (if s2.wu = s1.wu then s2 else toWave s1.wu s2) = toWave s1.wu s2 := by
  split
  · next h => rw [← h, toWave_self]
  · rfl

/-- the result carries the left operand's units by the generated flags `Gen.ufuncResult*FromSelf` -/
theorem ufuncU_eq (op : ℚ → ℚ → ℚ) (s1 s2 : USpec) (m : Sampling) (fill : ℚ) : ufuncU op s1 s2 m fill =
    (ufunc op ⟨s1.wave, s1.value⟩ ⟨(toWave s1.wu s2).wave, (toWave s1.wu s2).value⟩ m fill).map
      fun r => ⟨r.wave, r.value, s1.wu, s1.vu⟩ := by
  simp only [ufuncU, rightOperand_eq]
  cases ufunc op ⟨s1.wave, s1.value⟩ ⟨(toWave s1.wu s2).wave, (toWave s1.wu s2).value⟩ m fill <;> rfl

/-! ### exchanging the operands -/

theorem samplingOf_swap (m : Sampling) (w1 w2 : List ℚ) : samplingOf m.swap w2 w1 = samplingOf m w1 w2 := by
  cases m <;> simp only [Sampling.swap, samplingOf_eq]
  cases minDiff w1 <;> cases minDiff w2 <;> simp [min_comm]

theorem interpCommon_swap (s1 s2 : Spectrum) (m : Sampling) (fill : ℚ) :
    interpCommon s2 s1 m.swap fill = (interpCommon s1 s2 m fill).map (fun r => (r.1, r.2.2, r.2.1)) := by
  simp only [interpCommon, samplingOf_swap]
  cases minL s1.wave <;> cases maxL s1.wave <;> cases minL s2.wave <;> cases maxL s2.wave <;> try rfl
  rename_i lo1 hi1 lo2 hi2
  simp only []
  cases samplingOf m s1.wave s2.wave with
  | none => rfl
  | some dw => simp only [interpMin_eq, interpMax_eq, min_comm lo2 lo1, max_comm hi2 hi1, Except.map]

/-! ### the wavelengths rescaled by `k > 0` -/

theorem minL_scale (k : ℚ) (hk : 0 < k) (l : List ℚ) : minL (l.map (· * k)) = (minL l).map (· * k) := by
  cases l with
  | nil => rfl
  | cons x xs =>
    exact congrArg some (List.foldl_map.trans (List.foldl_hom (· * k) (H := fun a b => (min_mul_of_nonneg a b hk.le).symm)))

theorem maxL_scale (k : ℚ) (hk : 0 < k) (l : List ℚ) : maxL (l.map (· * k)) = (maxL l).map (· * k) := by
  cases l with
  | nil => rfl
  | cons x xs =>
    exact congrArg some (List.foldl_map.trans (List.foldl_hom (· * k) (H := fun a b => (max_mul_of_nonneg a b hk.le).symm)))

theorem minDiff_scale (k : ℚ) (hk : 0 < k) : ∀ l : List ℚ, minDiff (l.map (· * k)) = (minDiff l).map (· * k)
  | [] | [_] => rfl
  | x0 :: x1 :: xs => by
    have ih := minDiff_scale k hk (x1 :: xs)
    simp only [List.map_cons] at ih ⊢
    simp only [minDiff, ih]
    cases minDiff (x1 :: xs) with
    | none => simp [sub_mul]
    | some d => simp only [Option.map_some]; rw [← sub_mul, min_mul_of_nonneg _ _ hk.le]

/-- the sampling option expressed in the scaled unit: a numeric sampling is a length and scales, the others are names -/
def Sampling.scale (k : ℚ) : Sampling → Sampling
  | .step d => .step (d * k)
  | m => m

theorem samplingOf_scale (k : ℚ) (hk : 0 < k) (m : Sampling) (w1 w2 : List ℚ) :
    samplingOf (m.scale k) (w1.map (· * k)) (w2.map (· * k)) = (samplingOf m w1 w2).map (· * k) := by
  cases m with
  | min =>
    simp only [Sampling.scale, samplingOf_eq, minDiff_scale k hk]
    cases minDiff w1 <;> cases minDiff w2 <;> try rfl
    exact congrArg some (min_mul_of_nonneg _ _ hk.le).symm
  | left | right => simp only [Sampling.scale, samplingOf_eq, minDiff_scale k hk]
  | step d => rfl

theorem linspace_scale (k a b : ℚ) (n : ℕ) : linspace (a * k) (b * k) n = (linspace a b n).map (· * k) := by
  unfold linspace
  split
  · simp
  · simp only [List.map_map]
    apply List.map_congr_left
    intro i _
    simp only [Function.comp]
    ring

theorem gridTol_scale (k dw : ℚ) : gridTol (dw * k) = gridTol dw * k := by
  rw [gridTol_eq, gridTol_eq]; ring

theorem gridNum_scale (mn mx dw k : ℚ) (hk : 0 < k) :
    gridNum (mn * k) (mx * k) (dw * k) = gridNum mn mx dw := by
  rw [gridNum_eq, gridNum_eq, gridTol_eq, gridTol_eq, mul_div_right_comm dw, ← sub_mul, ← sub_mul, mul_div_mul_right _ _ hk.ne']

theorem commonGrid_scale (k mn mx dw : ℚ) (hk : 0 < k) :
    commonGrid (mn * k) (mx * k) (dw * k) = (commonGrid mn mx dw).map (· * k) := by
  unfold commonGrid
  rw [gridNum_scale mn mx dw k hk]
  simp only [Gen.interpStart, Gen.interpStop, Gen.interpCount]
  exact linspace_scale k mn mx _

theorem seg_scale (k : ℚ) (hk : 0 < k) : ∀ (xs ys : List ℚ) (x : ℚ), seg (xs.map (· * k)) ys (x * k) = seg xs ys x
  | [], ys, _ | [_], ys, _ => by cases ys <;> rfl
  | _ :: _ :: _, [], _ | _ :: _ :: _, [_], _ => rfl
  | x0 :: x1 :: rest, y0 :: y1 :: ys, x => by
    have ih := seg_scale k hk (x1 :: rest) (y1 :: ys) x
    simp only [List.map_cons] at ih ⊢
    simp only [seg, mul_le_mul_iff_of_pos_right hk, ih]
    congr 1
    rw [← sub_mul, ← sub_mul, div_mul_eq_mul_div, div_mul_eq_mul_div, ← mul_assoc, mul_div_mul_right _ _ hk.ne']

theorem interpAt_scale (k : ℚ) (hk : 0 < k) (xs ys : List ℚ) (fl fr x : ℚ) :
    interpAt (xs.map (· * k)) ys fl fr (x * k) = interpAt xs ys fl fr x := by
  unfold interpAt
  rw [List.head?_map, List.getLast?_map]
  cases xs.head? <;> cases xs.getLast? <;> simp only [Option.map_some, Option.map_none, mul_lt_mul_iff_of_pos_right hk, seg_scale k hk]

theorem clip_scale (k lo hi g : ℚ) (hk : 0 < k) : clip (lo * k) (hi * k) (g * k) = clip lo hi g * k := by
  unfold clip
  simp only [mul_lt_mul_iff_of_pos_right hk]
  split
  · rfl
  · split <;> rfl

theorem operandAt_scale (k : ℚ) (hk : 0 < k) (s : Spectrum) (lo hi tol fill g : ℚ) :
    operandAt (scaleS k s) (lo * k) (hi * k) (tol * k) fill (g * k) = operandAt s lo hi tol fill g := by
  unfold operandAt scaleS
  simp only [← sub_mul, ← add_mul, mul_le_mul_iff_of_pos_right hk, clip_scale k lo hi g hk, interpAt_scale k hk]

theorem interpCommon_scale (k : ℚ) (hk : 0 < k) (s1 s2 : Spectrum) (m : Sampling) (fill : ℚ) :
    interpCommon (scaleS k s1) (scaleS k s2) (m.scale k) fill
      = (interpCommon s1 s2 m fill).map (fun r => (r.1.map (· * k), r.2.1, r.2.2)) := by
  simp only [interpCommon, scaleS_wave, minL_scale k hk, maxL_scale k hk, samplingOf_scale k hk]
  cases minL s1.wave <;> cases maxL s1.wave <;> cases minL s2.wave <;> cases maxL s2.wave <;> try rfl
  rename_i lo1 hi1 lo2 hi2
  simp only [Option.map_some]
  cases samplingOf m s1.wave s2.wave with
  | none => rfl
  | some dw =>
    simp only [Option.map_some, Except.map, interpMin_eq, interpMax_eq, ← min_mul_of_nonneg _ _ hk.le,
      ← max_mul_of_nonneg _ _ hk.le, commonGrid_scale k _ _ dw hk, gridTol_scale, List.map_map, Function.comp_def,
      operandAt_scale k hk]

/-! ### the values divided by `k` -/

theorem seg_vscale (k : ℚ) : ∀ (xs ys : List ℚ) (x : ℚ), seg xs (ys.map (· / k)) x = seg xs ys x / k
  | [], ys, _ | [_], ys, _ => by cases ys <;> simp [seg]
  | _ :: _ :: _, [], _ | _ :: _ :: _, [_], _ => by simp [seg]
  | x0 :: x1 :: rest, y0 :: y1 :: ys, x => by
    have ih := seg_vscale k (x1 :: rest) (y1 :: ys) x
    simp only [List.map_cons] at ih ⊢
    simp only [seg, ih]
    split
    · ring
    · rfl

theorem interpAt_vscale (k : ℚ) (xs ys : List ℚ) (fl fr x : ℚ) :
    interpAt xs (ys.map (· / k)) (fl / k) (fr / k) x = interpAt xs ys fl fr x / k := by
  unfold interpAt
  cases xs.head? <;> cases xs.getLast? <;> simp only [seg_vscale]
  split
  · rfl
  · split <;> rfl

/-- the values of a spectrum divided by `k` -/
def vscaleS (k : ℚ) (s : Spectrum) : Spectrum := ⟨s.wave, s.value.map (· / k)⟩

theorem vscaleS_wave (k : ℚ) (s : Spectrum) : (vscaleS k s).wave = s.wave := rfl

theorem operandAt_vscale (k : ℚ) (s : Spectrum) (lo hi tol fill g : ℚ) :
    operandAt (vscaleS k s) lo hi tol (fill / k) g = operandAt s lo hi tol fill g / k := by
  unfold operandAt vscaleS
  simp only [interpAt_vscale]
  split <;> rfl

theorem interpCommon_vscale (k : ℚ) (s1 s2 : Spectrum) (m : Sampling) (fill : ℚ) :
    interpCommon (vscaleS k s1) (vscaleS k s2) m (fill / k)
      = (interpCommon s1 s2 m fill).map (fun r => (r.1, r.2.1.map (· / k), r.2.2.map (· / k))) := by
  simp only [interpCommon, vscaleS_wave]
  cases minL s1.wave <;> cases maxL s1.wave <;> cases minL s2.wave <;> cases maxL s2.wave <;> try rfl
  rename_i lo1 hi1 lo2 hi2
  simp only []
  cases samplingOf m s1.wave s2.wave with
  | none => rfl
  | some dw => simp only [Except.map, List.map_map, Function.comp_def, ← operandAt_vscale]

theorem toWave_arrays (u : WUnit) (s : USpec) : (⟨(toWave u s).wave, (toWave u s).value⟩ : Spectrum) =
    scaleS (waveTo s.wu u) (vscaleS (vdiv s.vu (waveTo s.wu u)) ⟨s.wave, s.value⟩) := by
  rw [toWave_eq']; rfl

end Lentil.Spec
