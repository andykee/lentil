import LentilVerif.Model.Detector
import Mathlib.Algebra.BigOperators.Ring.Finset
import Mathlib.Algebra.Order.Floor.Ring
import Mathlib.Data.Rat.Floor
import Mathlib.Tactic.NormNum
import Mathlib.Algebra.Order.Field.Basic
import Mathlib.Tactic.Ring
import Mathlib.Tactic.Linarith
/-! What the definitions of `Model/Detector.lean` compute, in the form `Props/C16.lean` reasons with instead of unfolding them: the
gain polynomial as a sum and the digitisation as `max 0 ⌊·⌋`, the Bayer mosaic as an array (shape and entries) and the arithmetic of
its shape, the colour channels, and linear interpolation on flat and on rescaled grids. -/
namespace Lentil.Det
open Finset

/-! ## adc -/

-- `protected`: Mathlib has a root `npow_eq_pow` (about `Monoid.npow`)
protected theorem npow_eq_pow {K} [Monoid K] (x : K) (n : Nat) : npow x n = x ^ n := by
  induction n with
  | zero => simp [npow]
  | succ n ih => simp [npow, ih, pow_succ]

theorem polyGain_eq_sum {K} [CommSemiring K] (g : List K) (x : K) :
    polyGain g x = ∑ d ∈ range g.length, g.getD d 0 * x ^ (g.length - d) := by
  induction g with
  | nil => rfl
  | cons c cs ih =>
    rw [polyGain, ih, Det.npow_eq_pow, List.length_cons, Finset.sum_range_succ', add_comm]
    simp only [List.getD_cons_succ, List.getD_cons_zero, Nat.add_sub_add_right, Nat.sub_zero]

theorem polyGain_singleton {K} [Semiring K] (g x : K) : polyGain [g] x = g * x := by
  simp [polyGain, npow]

theorem polyGain_mono {K} [Semiring K] [LinearOrder K] [IsStrictOrderedRing K] (g : List K) (hg : ∀ c ∈ g, 0 ≤ c)
    {x y : K} (hx : 0 ≤ x) (hxy : x ≤ y) : polyGain g x ≤ polyGain g y := by
  induction g with
  | nil => simp [polyGain]
  | cons c cs ih =>
    simp only [polyGain, Det.npow_eq_pow]
    exact add_le_add (mul_le_mul_of_nonneg_left (pow_le_pow_left₀ hx hxy _) (hg c List.mem_cons_self))
      (ih fun c hc => hg c (List.mem_cons_of_mem _ hc))

theorem clipSat_eq_min {K} [LinearOrder K] (c x : K) : clipSat (some c) x = min x c := by
  simp only [clipSat]
  split_ifs with h
  · exact (min_eq_right (le_of_lt h)).symm
  · exact (min_eq_left (le_of_not_gt h)).symm

theorem clipSat_mono {K} [LinearOrder K] (cap : Option K) {x y : K} (hxy : x ≤ y) : clipSat cap x ≤ clipSat cap y := by
  cases cap with
  | none => exact hxy
  | some c => rw [clipSat_eq_min, clipSat_eq_min]; exact min_le_min_right c hxy

theorem adcValue_eq_max {K} [Add K] [Mul K] [Zero K] [One K] [LT K] [DecidableLT K] (floor : K → Int) (cap : Option K) (g : List K) (x : K) :
    adcValue floor cap g x = max 0 (floor (polyGain g (clipSat cap x))) := by
  simp only [adcValue]
  split_ifs with h
  · exact (max_eq_left (le_of_lt h)).symm
  · exact (max_eq_right (not_lt.mp h)).symm

theorem adcValue_le_of_le {K} [Field K] [LinearOrder K] [FloorRing K] {cap : Option K} {g : List K} {x v : K}
    (h : polyGain g (clipSat cap x) ≤ v) : adcValue Int.floor cap g x ≤ max 0 ⌊v⌋ := by
  rw [adcValue_eq_max]; exact max_le_max le_rfl (Int.floor_mono h)

theorem gainFromSource_eq {K} [Add K] [Mul K] [Zero K] [One K] (gain : Gain K) (x : K) (i j : Int) :
    gainFromSource gain x i j = some (sumRange (gain.at i j).length fun d =>
      npow x (Gen.adcCubeExponent (gain.at i j).length d).toNat * (gain.at i j).getD d 0) := by
  cases gain <;> rfl

theorem mem_idx (s0 s1 : Int) (p : Int × Int) : p ∈ idx s0 s1 ↔ 0 ≤ p.1 ∧ p.1 < s0 ∧ 0 ≤ p.2 ∧ p.2 < s1 := by
  obtain ⟨a, b⟩ := p
  simp only [idx, List.mem_flatMap, List.mem_map, List.mem_range, Prod.mk.injEq]
  constructor
  · rintro ⟨i, hi, j, hj, rfl, rfl⟩; omega
  · rintro ⟨h1, h2, h3, h4⟩
    exact ⟨a.toNat, by omega, b.toNat, by omega, Int.toNat_of_nonneg h1, Int.toNat_of_nonneg h3⟩

/-- the compressive test curve `2x − x²/64` of the examples in `Props/C16.lean`, rising up to its vertex at 64 -/
theorem compressive_curve_mono {a b : ℚ} (hab : a ≤ b) (hb : b ≤ 64) :
    polyGain [-(1 / 64 : ℚ), 2] a ≤ polyGain [-(1 / 64 : ℚ), 2] b := by
  have e : polyGain [-(1 / 64 : ℚ), 2] b - polyGain [-(1 / 64 : ℚ), 2] a = (b - a) * (128 - (a + b)) / 64 := by
    simp only [polyGain, npow, List.length_cons, List.length_nil]; ring
  rw [← sub_nonneg, e]
  exact div_nonneg (mul_nonneg (sub_nonneg.mpr hab) (by linarith)) (by norm_num)

/-! ## Bayer mosaic -/

section
variable {K : Type}

/-- the length `np.tile` + `np.repeat` produce along an axis of `n` samples (pattern size `d`, oversampling `os`) -/
def tileSpan (os d n : Int) : Int := os * (n / os / d * d)

theorem mosaic_s0 (kern : Img K) (R C os : Int) : (mosaic kern R C os).s0 = tileSpan os kern.s0 R := rfl
theorem mosaic_s1 (kern : Img K) (R C os : Int) : (mosaic kern R C os).s1 = tileSpan os kern.s1 C := rfl
theorem mosaic_get (kern : Img K) (R C os i j : Int) :
    (mosaic kern R C os).get i j = kern.get (i / os % kern.s0) (j / os % kern.s1) := rfl

theorem dvd_tileSpan (os d n : Int) : d * os ∣ tileSpan os d n := ⟨n / os / d, by unfold tileSpan; ring⟩

theorem dvd_of_tileSpan_eq {d os n : Int} (h : tileSpan os d n = n) : d * os ∣ n := (dvd_tileSpan os d n).trans h.dvd

theorem tileSpan_eq_of_dvd {d os n : Int} (hd : 0 < d) (hos : 0 < os) (h : d * os ∣ n) : tileSpan os d n = n := by
  obtain ⟨k, rfl⟩ := h
  rw [tileSpan, Int.ediv_ediv_of_nonneg hos.le, mul_comm os d, Int.mul_ediv_cancel_left _ (mul_pos hd hos).ne']
  ring

theorem tileSpan_eq_zero {d os n : Int} (hos : 0 ≤ os) (h0 : 0 ≤ n) (h : n < os * d) : tileSpan os d n = 0 := by
  rw [tileSpan, Int.ediv_ediv_of_nonneg hos, Int.ediv_eq_zero_of_lt h0 h, zero_mul, mul_zero]

theorem bcast_eq_none {a b : Int} : bcast a b = none ↔ a ≠ b ∧ a ≠ 1 ∧ b ≠ 1 := by
  unfold bcast; split_ifs <;> simp [*]

/-- the mosaic length is a multiple of `d * os`, so it cannot be 1 unless every length is a multiple -/
theorem bcast_tileSpan_eq_none {d os n : Int} (hd : 0 < d) (hos : 0 < os) (hn : 1 < n) :
    bcast n (tileSpan os d n) = none ↔ ¬ d * os ∣ n := by
  rw [bcast_eq_none]
  refine ⟨fun h hdvd => h.1 (tileSpan_eq_of_dvd hd hos hdvd).symm, fun h => ?_⟩
  have hne : n ≠ tileSpan os d n := fun e => h (dvd_of_tileSpan_eq e.symm)
  refine ⟨hne, by omega, fun h1 => hne ?_⟩
  exact (tileSpan_eq_of_dvd hd hos (((dvd_tileSpan os d n).trans h1.dvd).trans (one_dvd n))).symm

theorem bayerChannel_get [Semiring K] {nw : Nat} {R C : Int} {img : Nat → Int → Int → K} {qe : Nat → K} {d : Int}
    {pattern : Int → Int → Colour} {os : Int} {c : Colour} {x : Int → Int → K}
    (h : bayerChannel nw R C img qe d pattern os c = some x) (i j : Int) :
    x i j = if pattern (i / os % d) (j / os % d) = c then collectCharge nw img qe i j else 0 := by
  simp only [bayerChannel] at h
  split_ifs at h
  cases h
  simp only [mosaic_get, kernel]
  split_ifs
  · exact mul_one _
  · exact mul_zero _

theorem bayerFlat_eq_some [Add K] [Mul K] [Zero K] [One K] {nw : Nat} {R C : Int} {img : Nat → Int → Int → K} {qe : Colour → Nat → K}
    {d : Int} {pattern : Int → Int → Colour} {os : Int} {f : Int → Int → K} (h : bayerFlat nw R C img qe d pattern os = some f) :
    ∃ r g b, bayerChannel nw R C img (qe .R) d pattern os .R = some r ∧ bayerChannel nw R C img (qe .G) d pattern os .G = some g ∧
      bayerChannel nw R C img (qe .B) d pattern os .B = some b ∧ f = fun i j => r i j + g i j + b i j := by
  unfold bayerFlat at h
  split at h
  · cases h; exact ⟨_, _, _, ‹_›, ‹_›, ‹_›, rfl⟩
  · cases h

theorem bayerChannelFromSource_eq [Add K] [Mul K] [Zero K] [One K] (nw : Nat) (R C : Int) (img : Nat → Int → Int → K)
    (qe : Colour → Nat → K) (d : Int) (pattern : Int → Int → Colour) (os : Int) :
    bayerChannelFromSource nw R C img qe d pattern os "red_e" = bayerChannel nw R C img (qe .R) d pattern os .R ∧
    bayerChannelFromSource nw R C img qe d pattern os "green_e" = bayerChannel nw R C img (qe .G) d pattern os .G ∧
    bayerChannelFromSource nw R C img qe d pattern os "blue_e" = bayerChannel nw R C img (qe .B) d pattern os .B :=
  ⟨rfl, rfl, rfl⟩

end

/-! ## collect_charge: sampling a `Spectrum` efficiency -/

section interp
variable {K : Type} [Field K] [LinearOrder K] [IsStrictOrderedRing K]

omit [IsStrictOrderedRing K] in
/-- the scan stops at the first segment that contains `w`; if it is not the current one, `w` lies beyond its right end, so the next
segment starts left of `w` again -/
theorem interpLin_flat (q : K) {pts : List (K × K)} {w x0 xl : K} (hall : ∀ p ∈ pts, p.2 = q)
    (hh : pts.head? = some (x0, q)) (hl : pts.getLast? = some (xl, q)) (hlen : 2 ≤ pts.length) (h0 : x0 ≤ w) (h1 : w ≤ xl) :
    interpLin pts w = q := by
  induction pts generalizing x0 with
  | nil => cases hh
  | cons p rest ih =>
    cases hh
    match rest, hlen with
    | (a1, v1) :: rest, _ =>
      have e1 : v1 = q := hall (a1, v1) (List.mem_cons_of_mem _ List.mem_cons_self)
      subst e1
      rw [interpLin]
      split_ifs with hin
      · rw [sub_self, zero_mul, zero_div, add_zero]
      · have hlt : a1 < w := lt_of_not_ge fun h => hin ⟨h0, h⟩
        rw [List.getLast?_cons_cons] at hl
        refine ih (fun p hp => hall p (List.mem_cons_of_mem _ hp)) rfl hl ?_ hlt.le
        cases rest with
        | nil => cases hl; exact absurd h1 hlt.not_ge
        | cons _ _ => exact Nat.le_add_left 2 _

theorem interpLin_scale (k : K) (hk : 0 < k) : ∀ (pts : List (K × K)) (w : K),
    interpLin (pts.map fun p => (p.1 * k, p.2)) (w * k) = interpLin pts w
  | [], _ => rfl
  | [_], _ => rfl
  | (a0, v0) :: (a1, v1) :: rest, w => by
    have ih := interpLin_scale k hk ((a1, v1) :: rest) w
    simp only [List.map_cons] at ih ⊢
    unfold interpLin
    have c1 : (a0 * k ≤ w * k ∧ w * k ≤ a1 * k) ↔ (a0 ≤ w ∧ w ≤ a1) := by
      rw [mul_le_mul_iff_of_pos_right hk, mul_le_mul_iff_of_pos_right hk]
    by_cases hin : a0 ≤ w ∧ w ≤ a1
    · rw [if_pos (c1.mpr hin), if_pos hin]
      have : (w * k - a0 * k) / (a1 * k - a0 * k) = (w - a0) / (a1 - a0) := by
        rw [← sub_mul, ← sub_mul, mul_div_mul_right _ _ (ne_of_gt hk)]
      rw [mul_div_assoc, this, ← mul_div_assoc]
    · rw [if_neg (fun h => hin (c1.mp h)), if_neg hin]; exact ih
end interp
end Lentil.Det
