import Mathlib.Tactic.Ring
import Mathlib.Tactic.FieldSimp
import Mathlib.Tactic.NormNum
import Mathlib.Tactic.Linarith
import Mathlib.Algebra.Order.Field.Rat
import Mathlib.Data.List.Chain
import Mathlib.Algebra.BigOperators.Ring.List
import LentilVerif.Model.Spectrum
/-! `Model/Spectrum.lean` for C13–C15, `bin` apart (Lemmas/SpectrumBin.lean): strict monotonicity as `Pairwise`, what each
resizing operation of a spectrum can return, the trapezoid sum, the interpolant; `wfB_iff` bridges the driver's Boolean check `wfB`
to the invariant `WF`. A spectrum with one value per wavelength is reasoned about as the list of its (wavelength, value) pairs
`List.zip s.wave s.value`: deleting samples by a test on the wavelength is `List.filter` there. -/
namespace Lentil.Spec

abbrev StrictInc (l : List ℚ) : Prop := l.Pairwise (· < ·)

/-- the invariant as a proposition -/
def WF (s : Spectrum) : Prop := StrictInc s.wave ∧ s.wave.length = s.value.length

theorem strictIncB_iff : ∀ l : List ℚ, strictIncB l = true ↔ StrictInc l
  | [] | [_] => by simp [strictIncB]
  | x0 :: x1 :: xs => by
    simp only [strictIncB, Bool.and_eq_true, decide_eq_true_eq, strictIncB_iff (x1 :: xs), StrictInc,
      ← List.isChain_iff_pairwise, List.isChain_cons_cons]

theorem wfB_iff (s : Spectrum) : wfB s = true ↔ WF s := by
  simp [wfB, WF, strictIncB_iff]

theorem validWave_iff (w : List ℚ) : validWave w = true ↔ (∀ x ∈ w, 0 < x) ∧ StrictInc w := by
  simp only [validWave, Bool.and_eq_true, List.all_eq_true, decide_eq_true_eq, strictIncB_iff]

theorem validWave_pos (w : List ℚ) (h : validWave w = true) : ∀ x ∈ w, 0 < x := ((validWave_iff w).1 h).1

theorem WF.of_valid {w v : List ℚ} (hw : validWave w = true) (hl : w.length = v.length) : WF ⟨w, v⟩ :=
  ⟨((validWave_iff w).1 hw).2, hl⟩

theorem head_le_of_strictInc {l : List ℚ} {a : ℚ} (hl : StrictInc l) (ha : l.head? = some a) : ∀ x ∈ l, a ≤ x := fun _ hx =>
  Option.some.inj (ha.symm.trans (List.head?_eq_some_head (List.ne_nil_of_mem hx))) ▸ (hl.imp le_of_lt).rel_head hx

theorem le_getLast_of_strictInc {l : List ℚ} {b : ℚ} (hl : StrictInc l) (hb : l.getLast? = some b) : ∀ x ∈ l, x ≤ b := fun _ hx =>
  Option.some.inj (hb.symm.trans (List.getLast?_eq_some_getLast (List.ne_nil_of_mem hx))) ▸ (hl.imp le_of_lt).rel_getLast hx

theorem validWave_map_mul (w : List ℚ) (k : ℚ) (hk : 0 < k) (h : validWave w = true) : validWave (w.map (· * k)) = true := by
  rw [validWave_iff] at h ⊢
  exact ⟨List.forall_mem_map.2 fun y hy => mul_pos (h.1 y hy) hk,
    h.2.map _ fun a b hab => (mul_lt_mul_iff_of_pos_right hk).mpr hab⟩

theorem linspace_length (a b : ℚ) (n : ℕ) : (linspace a b n).length = n := by
  unfold linspace
  split
  · next h => rw [h]; rfl
  · simp

theorem linspace_getElem? (a b : ℚ) {n i : ℕ} (hn : n ≠ 1) (hi : i < n) :
    (linspace a b n)[i]? = some (a + (i : ℚ) * ((b - a) / ((n - 1 : ℕ) : ℚ))) := by
  rw [linspace, if_neg hn, List.getElem?_map, List.getElem?_range hi]
  rfl

theorem linspace_head? (a b : ℚ) {n : ℕ} (hn : 0 < n) : (linspace a b n).head? = some a := by
  by_cases h : n = 1
  · rw [linspace, if_pos h]; rfl
  · rw [List.head?_eq_getElem?, linspace_getElem? a b h hn, Nat.cast_zero, zero_mul, add_zero]

theorem linspace_getLast? (a b : ℚ) {n : ℕ} (hn : 2 ≤ n) : (linspace a b n).getLast? = some b := by
  have h0 : ((n - 1 : ℕ) : ℚ) ≠ 0 := Nat.cast_ne_zero.mpr (by omega)
  rw [List.getLast?_eq_getElem?, linspace_length, linspace_getElem? a b (by omega) (by omega),
    mul_div_cancel₀ _ h0, add_sub_cancel]

theorem linspace_valid (a b : ℚ) (n : ℕ) (ha : 0 < a) (hab : a < b) (hn : 2 ≤ n) : validWave (linspace a b n) = true := by
  rw [validWave_iff, linspace, if_neg (by omega)]
  have hstep : 0 < (b - a) / ((n - 1 : ℕ) : ℚ) := div_pos (sub_pos.2 hab) (Nat.cast_pos.2 (by omega))
  exact ⟨List.forall_mem_map.2 fun i _ => add_pos_of_pos_of_nonneg ha (mul_nonneg (Nat.cast_nonneg i) hstep.le),
    List.pairwise_lt_range.map _ fun i j hij => add_lt_add_right (mul_lt_mul_of_pos_right (Nat.cast_lt.2 hij) hstep) a⟩

/-! ### selection by a mask computed from the wavelengths -/

/-- `L = w` gives the wavelengths, `L` the list of pairs gives the values -/
theorem keepMask_map_map {α : Type} (f : α → Bool) (g : α → ℚ) (L : List α) :
    keepMask (L.map f) (L.map g) = (L.filter f).map g := by
  induction L with
  | nil => rfl
  | cons x L ih => cases h : f x <;> simp [keepMask, h, ih]

theorem keepMask_map_self (p : ℚ → Bool) (w : List ℚ) : keepMask (w.map p) w = w.filter p := by
  simpa using keepMask_map_map p id w

/-- the spectrum without the samples whose wavelength fails `p`: `np.delete(self.wave, indx)`, `np.delete(self.value, indx)`
of `crop`, and the selection `integrate` makes -/
def maskS (p : ℚ → Bool) (s : Spectrum) : Spectrum := ⟨keepMask (s.wave.map p) s.wave, keepMask (s.wave.map p) s.value⟩

theorem maskS_wave (p : ℚ → Bool) (s : Spectrum) : (maskS p s).wave = s.wave.filter p :=
  keepMask_map_self p s.wave

theorem zip_maskS (p : ℚ → Bool) (s : Spectrum) :
    List.zip (maskS p s).wave (maskS p s).value = (List.zip s.wave s.value).filter fun x => p x.1 := by
  obtain ⟨w, v⟩ := s
  induction w generalizing v with
  | nil => rfl
  | cons x w ih =>
    cases v with
    | nil => simp [maskS, keepMask]
    | cons y v =>
      simp only [maskS, List.map_cons, keepMask, List.zip_cons_cons, List.filter_cons] at ih ⊢
      split
      · rw [List.zip_cons_cons, ih]
      · exact ih v

theorem maskS_pairs (p : ℚ → Bool) (P : List (ℚ × ℚ)) :
    maskS p ⟨P.map Prod.fst, P.map Prod.snd⟩
      = ⟨(P.filter fun x => p x.1).map Prod.fst, (P.filter fun x => p x.1).map Prod.snd⟩ := by
  simp only [maskS, List.map_map, keepMask_map_map]; rfl

theorem exists_pairs {α β : Type} {w : List α} {v : List β} (h : w.length = v.length) :
    ∃ P : List (α × β), w = P.map Prod.fst ∧ v = P.map Prod.snd :=
  ⟨w.zip v, (List.map_fst_zip h.le).symm, (List.map_snd_zip h.ge).symm⟩

theorem WF.maskS {s : Spectrum} (h : WF s) (p : ℚ → Bool) : WF (maskS p s) := by
  obtain ⟨w, v⟩ := s
  obtain ⟨P, rfl, rfl⟩ := exists_pairs h.2
  rw [maskS_pairs]
  exact ⟨h.1.sublist (List.filter_sublist.map _), by simp⟩

theorem maskS_eq_self {s : Spectrum} (h : s.wave.length = s.value.length) (p : ℚ → Bool) (hp : ∀ w ∈ s.wave, p w = true) :
    maskS p s = s := by
  obtain ⟨w, v⟩ := s
  obtain ⟨P, rfl, rfl⟩ := exists_pairs h
  rw [maskS_pairs, List.filter_eq_self.2 fun x hx => hp x.1 (List.mem_map_of_mem hx)]

/-! ### `trim`: the slice and its two indices -/

theorem slice_sublist (a b : Nat) (l : List ℚ) : (slice a b l).Sublist l :=
  (List.take_sublist _ _).trans (List.drop_sublist _ _)

theorem zip_slice_sublist (a b : Nat) (l1 l2 : List ℚ) :
    (List.zip (slice a b l1) (slice a b l2)).Sublist (List.zip l1 l2) := by
  simp only [slice, List.zip, ← List.take_zipWith, ← List.drop_zipWith]
  exact (List.take_sublist _ _).trans (List.drop_sublist _ _)

theorem WF.slice {s : Spectrum} (h : WF s) (a b : Nat) : WF ⟨slice a b s.wave, slice a b s.value⟩ :=
  ⟨h.1.sublist (slice_sublist a b _), by simp only [Spec.slice, List.length_take, List.length_drop, h.2]⟩

theorem firstIdx_eq (p : ℚ → Bool) : ∀ l : List ℚ, firstIdx p l = l.findIdx? p
  | [] => rfl
  | x :: xs => by rw [firstIdx, List.findIdx?_cons, firstIdx_eq p xs]

/-! the test of `trim` is taken as `decide (P v)`: `Gen.trimAbove v m tol` unfolds to `decide (v / m > tol)` -/

theorem firstIdx_spec {P : ℚ → Prop} [DecidablePred P] {l : List ℚ} {a : ℕ} (h : firstIdx (fun v => decide (P v)) l = some a) :
    (∃ v, l[a]? = some v ∧ P v) ∧ ∀ j, j < a → ∀ v, l[j]? = some v → ¬ P v := by
  rw [firstIdx_eq, List.findIdx?_eq_some_iff_getElem] at h
  obtain ⟨ha, hp, hlt⟩ := h
  refine ⟨⟨l[a], List.getElem?_eq_getElem ha, of_decide_eq_true hp⟩, fun j hj v hv => ?_⟩
  obtain ⟨hjl, rfl⟩ := List.getElem?_eq_some_iff.1 hv
  exact fun hP => hlt j hj (decide_eq_true hP)

theorem firstIdx_none {P : ℚ → Prop} [DecidablePred P] {l : List ℚ} (h : firstIdx (fun v => decide (P v)) l = none) :
    ∀ v ∈ l, ¬ P v := by
  rw [firstIdx_eq, List.findIdx?_eq_none_iff] at h
  exact fun v hv => of_decide_eq_false (h v hv)

theorem lastIdx_spec {P : ℚ → Prop} [DecidablePred P] {l : List ℚ} {b : ℕ} (h : lastIdx (fun v => decide (P v)) l = some b) :
    (∃ v, l[b]? = some v ∧ P v) ∧ ∀ j, b < j → ∀ v, l[j]? = some v → ¬ P v := by
  simp only [lastIdx, firstIdx_eq, Option.map_eq_some_iff, List.findIdx?_eq_some_iff_getElem, List.getElem_reverse,
    List.length_reverse] at h
  obtain ⟨i, ⟨hi, hp, hlt⟩, rfl⟩ := h
  refine ⟨⟨_, List.getElem?_eq_getElem (by omega), of_decide_eq_true hp⟩, fun j hj v hv => ?_⟩
  obtain ⟨hjl, rfl⟩ := List.getElem?_eq_some_iff.1 hv
  have := hlt (l.length - 1 - j) (by omega)
  simp only [show l.length - 1 - (l.length - 1 - j) = j by omega] at this
  exact fun hP => this (decide_eq_true hP)

theorem lastIdx_none {P : ℚ → Prop} [DecidablePred P] {l : List ℚ} (h : lastIdx (fun v => decide (P v)) l = none) :
    ∀ v ∈ l, ¬ P v := by
  simp only [lastIdx, Option.map_eq_none_iff] at h
  exact fun v hv => firstIdx_none h v (List.mem_reverse.2 hv)

/-! ### what each resizing operation can return

One rule per operation: a property of outcomes holds of the operation's outcome once it holds of each kind of outcome the
operation has. The invariant, the fate of the old samples and the state after a refusal are all read off these. -/

theorem sample_eq_ok {s : Spectrum} {fl fr : ℚ} {xs v : List ℚ} (h : sample s fl fr xs = .ok v) :
    1 ≤ s.wave.length ∧ v = xs.map (interpAt s.wave s.value fl fr) := by
  unfold sample at h
  split at h
  · cases h
  · exact ⟨by omega, by cases h; rfl⟩

theorem trim_elim {Q : Outcome → Prop} (tol : ℚ) (s : Spectrum) (same : ∀ e, Q (s, e))
    (cut : ∀ a b, Q (⟨slice a b s.wave, slice a b s.value⟩, none)) : Q (trim tol s) := by
  simp only [trim]
  repeat' split
  all_goals first | exact same _ | exact cut _ _

theorem append_elim {Q : Outcome → Prop} (o s : Spectrum) (refuse : Q (s, some .valueError))
    (ok : validWave (s.wave ++ o.wave) = true → Q (⟨s.wave ++ o.wave, s.value ++ o.value⟩, none)) : Q (append o s) := by
  simp only [append]
  repeat' split
  all_goals first | exact refuse | exact ok ‹_›

theorem pad_elim {Q : Outcome → Prop} (e0 e1 : ℚ) (sm : Option ℚ) (edge : Bool) (vL vR : ℚ) (s : Spectrum)
    (refuse : ∀ e, Q (s, some e))
    (ok : ∀ left right vl vr, validWave (left ++ s.wave ++ right) = true →
      Q (⟨left ++ s.wave ++ right, List.replicate left.length vl ++ s.value ++ List.replicate right.length vr⟩, none)) :
    Q (pad e0 e1 sm edge vL vR s) := by
  simp only [pad]
  repeat' split
  all_goals first | exact refuse _ | exact ok _ _ _ _ ‹_›

theorem resample_elim {Q : Outcome → Prop} (xs : List ℚ) (fl fr : ℚ) (s : Spectrum) (refuse : ∀ e, Q (s, some e))
    (ok : validWave xs = true → Q (⟨xs, xs.map (interpAt s.wave s.value fl fr)⟩, none)) : Q (resample xs fl fr s) := by
  unfold resample
  split
  · exact refuse _
  · rename_i v hv
    rw [(sample_eq_ok hv).2]
    split
    · exact ok ‹_›
    · exact refuse _

/-! ### `crop`: two stages of the same kind -/

/-- one stage of `crop`: when its guard fires, the samples whose wavelength fails `p` are deleted -/
def cropStage (g : Bool) (p : ℚ → Bool) (s : Spectrum) : Spectrum := if g then maskS p s else s

theorem crop_eq_stages (lo hi : ℚ) (s : Spectrum) :
    crop lo hi s = match s.wave.head? with
      | none => (s, some .indexError)
      | some w0 =>
        let s1 := cropStage (Gen.cropLowGuard lo w0) (fun w => !Gen.cropDropLow lo w) s
        match s1.wave.getLast? with
        | none => (s1, some .indexError)
        | some wl => (cropStage (Gen.cropHighGuard hi wl) (fun w => !Gen.cropDropHigh hi w) s1, none) := by
  cases h : s.wave.head? with
  | none => simp only [crop, h]
  | some w0 =>
    simp only [crop, h, cropStage, maskS]
    generalize (if Gen.cropLowGuard lo w0 = true then _ else s : Spectrum) = s1
    cases s1.wave.getLast? with
    | none => rfl
    | some wl => dsimp only; split <;> rfl

theorem crop_elim {Q : Outcome → Prop} (lo hi : ℚ) (s : Spectrum) (empty : s.wave = [] → Q (s, some .indexError))
    (emptied : ∀ g p, (cropStage g p s).wave = [] → Q (cropStage g p s, some .indexError))
    (ok : ∀ g p g' p', Q (cropStage g' p' (cropStage g p s), none)) : Q (crop lo hi s) := by
  rw [crop_eq_stages]
  split
  · exact empty (List.head?_eq_none_iff.1 ‹_›)
  · dsimp only
    split
    · exact emptied _ _ (List.getLast?_eq_none_iff.1 ‹_›)
    · exact ok _ _ _ _

theorem zip_cropStage_sublist (g : Bool) (p : ℚ → Bool) (s : Spectrum) :
    (List.zip (cropStage g p s).wave (cropStage g p s).value).Sublist (List.zip s.wave s.value) := by
  unfold cropStage
  split
  · rw [zip_maskS]; exact List.filter_sublist
  · exact List.Sublist.refl _

theorem cropStage_eq_maskS {s : Spectrum} (h : s.wave.length = s.value.length) (g : Bool) (p : ℚ → Bool)
    (hg : g = false → ∀ w ∈ s.wave, p w = true) : cropStage g p s = maskS p s := by
  unfold cropStage
  split
  · rfl
  · exact (maskS_eq_self h p (hg (by simpa using ‹¬ g = true›))).symm

/-- a guard of `crop` that does not fire has nothing to delete: the first wavelength is the least, the last the greatest -/
theorem crop_eq_maskS (lo hi : ℚ) {s : Spectrum} (h : WF s) :
    (crop lo hi s).1 = maskS (fun w => !Gen.cropDropHigh hi w) (maskS (fun w => !Gen.cropDropLow lo w) s) := by
  have hnil : ∀ {s' : Spectrum} (p : ℚ → Bool), WF s' → s'.wave = [] → maskS p s' = s' := fun p h' e =>
    maskS_eq_self h'.2 p (by rw [e]; nofun)
  rw [crop_eq_stages]
  split
  · rename_i hw
    have e := List.head?_eq_none_iff.1 hw
    rw [hnil _ h e, hnil _ h e]
  · rename_i w0 hw0
    dsimp only
    rw [cropStage_eq_maskS h.2 _ _ fun hg w hw => by
      have : lo ≤ w0 := by simpa [Gen.cropLowGuard] using hg
      simpa [Gen.cropDropLow] using this.trans (head_le_of_strictInc h.1 hw0 w hw)]
    split
    · rename_i hl
      exact (hnil _ (h.maskS _) (List.getLast?_eq_none_iff.1 hl)).symm
    · rename_i wl hl
      exact cropStage_eq_maskS (h.maskS _).2 _ _ fun hg w hw => by
        have : wl ≤ hi := by simpa [Gen.cropHighGuard] using hg
        simpa [Gen.cropDropHigh] using (le_getLast_of_strictInc (h.maskS _).1 hl w hw).trans this

/-! ### change of unit -/

/-- the same spectrum with its wavelengths expressed in another unit (factor k) -/
def scaleS (k : ℚ) (s : Spectrum) : Spectrum := ⟨s.wave.map (· * k), s.value⟩

theorem scaleS_wave (k : ℚ) (s : Spectrum) : (scaleS k s).wave = s.wave.map (· * k) := rfl

theorem mask_gt_scale (k a : ℚ) (hk : 0 < k) (l : List ℚ) :
    (l.map (· * k)).map (fun w => !decide (a * k > w)) = l.map (fun w => !decide (a > w)) := by
  simp only [List.map_map, Function.comp_def, gt_iff_lt, mul_lt_mul_iff_of_pos_right hk]

theorem mask_lt_scale (k a : ℚ) (hk : 0 < k) (l : List ℚ) :
    (l.map (· * k)).map (fun w => !decide (a * k < w)) = l.map (fun w => !decide (a < w)) := by
  simp only [List.map_map, Function.comp_def, mul_lt_mul_iff_of_pos_right hk]

theorem maskS_scale (k : ℚ) (q : ℚ → Bool) (s : Spectrum) :
    maskS q (scaleS k s) = scaleS k (maskS (fun w => q (w * k)) s) := by
  simp only [maskS, scaleS, List.map_map]
  rw [keepMask_map_map (q ∘ (· * k)) (· * k), keepMask_map_self]
  rfl

theorem cropStage_scale (k : ℚ) (g : Bool) (q : ℚ → Bool) (s : Spectrum) :
    cropStage g q (scaleS k s) = scaleS k (cropStage g (fun w => q (w * k)) s) := by
  unfold cropStage
  split
  · exact maskS_scale k q s
  · rfl

theorem cropOps_scale {k : ℚ} (hk : 0 < k) (a w : ℚ) :
    Gen.cropDropLow (a * k) (w * k) = Gen.cropDropLow a w ∧ Gen.cropDropHigh (a * k) (w * k) = Gen.cropDropHigh a w ∧
    Gen.cropLowGuard (a * k) (w * k) = Gen.cropLowGuard a w ∧ Gen.cropHighGuard (a * k) (w * k) = Gen.cropHighGuard a w := by
  simp only [Gen.cropDropLow, Gen.cropDropHigh, Gen.cropLowGuard, Gen.cropHighGuard, gt_iff_lt, mul_lt_mul_iff_of_pos_right hk, and_self]

/-! ### integration -/

theorem integrate_pairs (P : List (ℚ × ℚ)) (a b : ℚ) :
    integrate ⟨P.map Prod.fst, P.map Prod.snd⟩ a b
      = trapz ((P.filter fun x => Gen.integrateKeeps a b x.1).map Prod.fst)
          ((P.filter fun x => Gen.integrateKeeps a b x.1).map Prod.snd) :=
  congrArg (fun s : Spectrum => trapz s.wave s.value) (maskS_pairs _ P)

theorem trapz_map_linear {α : Type} (ca cb : ℚ) (f g : α → ℚ) : ∀ (w : List ℚ) (L : List α),
    trapz w (L.map fun x => ca * f x + cb * g x) = ca * trapz w (L.map f) + cb * trapz w (L.map g)
  | x0 :: x1 :: xs, a0 :: a1 :: as => by
    have := trapz_map_linear ca cb f g (x1 :: xs) (a1 :: as)
    simp only [List.map_cons, trapz] at this ⊢
    rw [this]; ring
  | [], _ | [_], _ | _ :: _ :: _, [] | _ :: _ :: _, [_] => by simp [trapz]

theorem trapz_append_at_sample (m y : ℚ) (w2 v2 : List ℚ) : ∀ P : List (ℚ × ℚ),
    trapz (P.map Prod.fst ++ m :: w2) (P.map Prod.snd ++ y :: v2)
      = trapz (P.map Prod.fst ++ [m]) (P.map Prod.snd ++ [y]) + trapz (m :: w2) (y :: v2)
  | [] => (zero_add _).symm
  | [_] => by simp only [List.map_cons, List.map_nil, List.cons_append, List.nil_append, trapz, add_zero]
  | _ :: q :: P => by
    have := trapz_append_at_sample m y w2 v2 (q :: P)
    simp only [List.map_cons, List.cons_append, trapz] at this ⊢
    rw [this, add_assoc]

theorem trapz_nonneg : ∀ w v : List ℚ, w.IsChain (· ≤ ·) → (∀ y ∈ v, 0 ≤ y) → 0 ≤ trapz w v
  | x0 :: x1 :: xs, y0 :: y1 :: ys, hw, hv => by
    obtain ⟨h01, hw⟩ := List.isChain_cons_cons.1 hw
    have hv' : ∀ y ∈ y1 :: ys, 0 ≤ y := fun y hy => hv y (List.mem_cons_of_mem _ hy)
    exact add_nonneg (div_nonneg (mul_nonneg (sub_nonneg.2 h01) (add_nonneg (hv' y1 List.mem_cons_self)
      (hv y0 List.mem_cons_self))) (by norm_num)) (trapz_nonneg _ _ hw hv')
  | [], _, _, _ | [_], _, _, _ | _ :: _ :: _, [], _, _ | _ :: _ :: _, [_], _, _ => le_rfl

theorem integrate_nonneg {s : Spectrum} (hwf : WF s) (hv : ∀ v ∈ s.value, 0 ≤ v) (a b : ℚ) : 0 ≤ integrate s a b := by
  obtain ⟨w, v⟩ := s
  obtain ⟨P, rfl, rfl⟩ := exists_pairs hwf.2
  rw [integrate_pairs]
  exact trapz_nonneg _ _ ((hwf.1.sublist (List.filter_sublist.map _)).isChain.imp fun _ _ => le_of_lt)
    fun y hy => hv y ((List.filter_sublist.map _).subset hy)

/-! ### interpolation -/

/-- the line through (x0, y0), (x1, y1) -/
def lineThrough (x0 y0 x1 y1 x : ℚ) : ℚ := y0 + (y1 - y0) / (x1 - x0) * (x - x0)
/-- a primitive of that line: `linePrim (x + h) − linePrim x = h·lineThrough x + slope·h²/2` (`linePrim_is_primitive`) -/
def linePrim (x0 y0 x1 y1 x : ℚ) : ℚ := y0 * x + (y1 - y0) / (x1 - x0) * (x - x0) ^ 2 / 2

theorem seg_on_segment {x a b ya yb : ℚ} : ∀ (xs ys : List ℚ) (i : ℕ), StrictInc xs →
    xs[i]? = some a → xs[i + 1]? = some b → ys[i]? = some ya → ys[i + 1]? = some yb → a ≤ x → x ≤ b →
    seg xs ys x = lineThrough a ya b yb x
  | x0 :: x1 :: xs, y0 :: y1 :: ys, 0 => fun _ ha hb hya hyb _ hxb => by
    cases ha; cases hb; cases hya; cases hyb
    rw [seg, if_pos hxb, lineThrough]; ring
  | x0 :: x1 :: xs, y0 :: y1 :: ys, i + 1 => fun hs ha hb hya hyb hax hxb => by
    rw [← seg_on_segment (x1 :: xs) (y1 :: ys) i hs.of_cons ha hb hya hyb hax hxb, seg]
    split
    · -- then `x` is the knot `x1 = a`, where the segment before it and the one after it agree
      have hx1a : x1 ≤ a := head_le_of_strictInc hs.of_cons rfl a (List.mem_of_getElem? ha)
      obtain rfl : x = x1 := le_antisymm ‹_› (hx1a.trans hax)
      have h01 : x0 < x := List.rel_of_pairwise_cons hs List.mem_cons_self
      match xs, ys, hb, hyb with
      | x2 :: xs, y2 :: ys, _, _ =>
        rw [seg, if_pos (List.rel_of_pairwise_cons hs.of_cons List.mem_cons_self).le, sub_self, mul_zero, zero_add]
        have : x - x0 ≠ 0 := (sub_pos.2 h01).ne'
        field_simp; ring
    · rfl
  | [], _, _ => fun _ ha => by cases ha
  | [_], _, _ => fun _ _ hb => by simp at hb
  | _ :: _ :: _, [], _ => fun _ _ _ hya => by cases hya
  | _ :: _ :: _, [_], _ => fun _ _ _ _ hyb => by simp at hyb

theorem interpAt_of_head_last {xs : List ℚ} {lo hi : ℚ} (hlo : xs.head? = some lo) (hhi : xs.getLast? = some hi)
    (ys : List ℚ) (fl fr x : ℚ) :
    interpAt xs ys fl fr x = if x < lo then fl else if hi < x then fr else seg xs ys x := by
  simp only [interpAt, hlo, hhi]

theorem interpAt_on_segment {xs ys : List ℚ} (hs : StrictInc xs) (fl fr : ℚ) {i : ℕ} {a b ya yb x : ℚ}
    (ha : xs[i]? = some a) (hb : xs[i + 1]? = some b) (hya : ys[i]? = some ya) (hyb : ys[i + 1]? = some yb)
    (hax : a ≤ x) (hxb : x ≤ b) : interpAt xs ys fl fr x = lineThrough a ya b yb x := by
  have hne : xs ≠ [] := fun e => by rw [e] at ha; cases ha
  have hh := List.head?_eq_some_head hne
  have hl := List.getLast?_eq_some_getLast hne
  have hlo := head_le_of_strictInc hs hh a (List.mem_of_getElem? ha)
  have hhi := le_getLast_of_strictInc hs hl b (List.mem_of_getElem? hb)
  rw [interpAt_of_head_last hh hl, if_neg (by linarith), if_neg (by linarith)]
  exact seg_on_segment xs ys i hs ha hb hya hyb hax hxb

theorem exists_segment : ∀ (xs : List ℚ) (x : ℚ), 2 ≤ xs.length → (∀ a ∈ xs.head?, a ≤ x) → (∀ b ∈ xs.getLast?, x ≤ b) →
    ∃ i a b, xs[i]? = some a ∧ xs[i + 1]? = some b ∧ a ≤ x ∧ x ≤ b
  | [x0, x1], x, _, ha, hb => ⟨0, x0, x1, rfl, rfl, ha x0 rfl, hb x1 rfl⟩
  | x0 :: x1 :: x2 :: xs, x, _, ha, hb => by
    by_cases h : x ≤ x1
    · exact ⟨0, x0, x1, rfl, rfl, ha x0 rfl, h⟩
    · obtain ⟨i, a, b, h1, h2, h3, h4⟩ := exists_segment (x1 :: x2 :: xs) x (Nat.le_add_left _ _)
        (fun _ e => Option.some.inj e ▸ (not_le.1 h).le) hb
      exact ⟨i + 1, a, b, h1, h2, h3, h4⟩

theorem lt_of_getElem?_succ {xs : List ℚ} (hs : StrictInc xs) {i : ℕ} {a b : ℚ} (ha : xs[i]? = some a)
    (hb : xs[i + 1]? = some b) : a < b := by
  obtain ⟨hi0, rfl⟩ := List.getElem?_eq_some_iff.mp ha
  obtain ⟨hi1, rfl⟩ := List.getElem?_eq_some_iff.mp hb
  exact List.pairwise_iff_getElem.mp hs i (i + 1) hi0 hi1 (Nat.lt_succ_self i)

theorem interpAt_spec {xs ys : List ℚ} (hs : StrictInc xs) (hl : xs.length = ys.length) (h2 : 2 ≤ xs.length) {lo hi x : ℚ}
    (hlo : xs.head? = some lo) (hhi : xs.getLast? = some hi) (h1 : lo ≤ x) (h3 : x ≤ hi) (fl fr : ℚ) :
    ∃ i a b ya yb, xs[i]? = some a ∧ xs[i + 1]? = some b ∧ ys[i]? = some ya ∧ ys[i + 1]? = some yb ∧ a < b ∧ a ≤ x ∧ x ≤ b ∧
      interpAt xs ys fl fr x = lineThrough a ya b yb x := by
  obtain ⟨i, a, b, ha, hb, hax, hxb⟩ := exists_segment xs x h2 (fun _ e => (Option.some.inj (e.symm.trans hlo)).trans_le h1)
    (fun _ e => h3.trans_eq (Option.some.inj (hhi.symm.trans e)))
  have hi := (List.getElem?_eq_some_iff.mp hb).1
  rw [hl] at hi
  have hya : ys[i]? = some ys[i] := List.getElem?_eq_getElem (by omega)
  have hyb : ys[i + 1]? = some ys[i + 1] := List.getElem?_eq_getElem hi
  exact ⟨i, a, b, _, _, ha, hb, hya, hyb, lt_of_getElem?_succ hs ha hb, hax, hxb,
    interpAt_on_segment hs fl fr ha hb hya hyb hax hxb⟩

theorem lineThrough_nonneg {a b ya yb x : ℚ} (hab : a < b) (hax : a ≤ x) (hxb : x ≤ b) (hya : 0 ≤ ya) (hyb : 0 ≤ yb) :
    0 ≤ lineThrough a ya b yb x := by
  have hd : 0 < b - a := sub_pos.2 hab
  have : lineThrough a ya b yb x = (yb * (x - a) + ya * (b - x)) / (b - a) := by
    unfold lineThrough; field_simp; ring
  rw [this]
  exact div_nonneg (add_nonneg (mul_nonneg hyb (sub_nonneg.2 hax)) (mul_nonneg hya (sub_nonneg.2 hxb))) hd.le

theorem interpAt_nonneg {xs ys : List ℚ} (hs : StrictInc xs) (hl : xs.length = ys.length) (hy : ∀ y ∈ ys, 0 ≤ y) {fl fr : ℚ}
    (hfl : 0 ≤ fl) (hfr : 0 ≤ fr) (x : ℚ) : 0 ≤ interpAt xs ys fl fr x := by
  match xs, ys, hl with
  | [], _, _ => exact hfl
  | [a], [y], _ =>
    rw [interpAt_of_head_last rfl rfl]
    split_ifs
    exacts [hfl, hfr, hy y List.mem_cons_self]
  | x0 :: x1 :: xs, ys, hl =>
    obtain ⟨hi, hhi⟩ : ∃ hi, (x0 :: x1 :: xs).getLast? = some hi := ⟨_, List.getLast?_eq_some_getLast (by simp)⟩
    by_cases h1 : x < x0
    · rw [interpAt_of_head_last rfl hhi, if_pos h1]; exact hfl
    by_cases h3 : hi < x
    · rw [interpAt_of_head_last rfl hhi, if_neg h1, if_pos h3]; exact hfr
    obtain ⟨i, a, b, ya, yb, -, -, hya, hyb, hab, hax, hxb, e⟩ :=
      interpAt_spec hs hl (by simp) rfl hhi (not_lt.1 h1) (not_lt.1 h3) fl fr
    rw [e]
    exact lineThrough_nonneg hab hax hxb (hy _ (List.mem_of_getElem? hya)) (hy _ (List.mem_of_getElem? hyb))

theorem sample_linear (s : Spectrum) (a b lo hi : ℚ) (hval : s.value = s.wave.map fun t => a * t + b)
    (hs : StrictInc s.wave) (h2 : 2 ≤ s.wave.length) (hlo : s.wave.head? = some lo) (hhi : s.wave.getLast? = some hi)
    (fl fr : ℚ) (x : List ℚ) (hx : ∀ e ∈ x, lo ≤ e ∧ e ≤ hi) :
    x.map (interpAt s.wave s.value fl fr) = x.map fun t => a * t + b :=
  List.map_congr_left fun e he => by
    obtain ⟨i, u, v, yu, yv, hu, hv, hyu, hyv, huv, -, -, h⟩ :=
      interpAt_spec hs (hval ▸ (List.length_map _).symm) h2 hlo hhi (hx e he).1 (hx e he).2 fl fr
    rw [hval, List.getElem?_map, hu] at hyu
    rw [hval, List.getElem?_map, hv] at hyv
    cases hyu; cases hyv
    have hd : v - u ≠ 0 := (sub_pos.2 huv).ne'
    rw [h, lineThrough]; field_simp; ring

theorem trapzTerm_line (a ya b yb e0 e1 : ℚ) :
    Gen.trapzTerm e0 e1 (lineThrough a ya b yb e0) (lineThrough a ya b yb e1)
      = linePrim a ya b yb e1 - linePrim a ya b yb e0 := by
  simp only [Gen.trapzTerm, lineThrough, linePrim]; ring

end Lentil.Spec
