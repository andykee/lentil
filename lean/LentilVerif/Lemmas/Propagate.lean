import LentilVerif.Model.Propagate
import LentilVerif.Lemmas.Extent
import Mathlib.Tactic.Ring
/-! `propagate_dft` per field, in closed form: the generated window block (`dftWindow`: which part of the output plane one field is
propagated to) and the output extent `outExtent` (whole array or bounding box of the mask); the loop body `propagateField`; and the
coordinate bookkeeping that reads its recentred `dft2` sample as the point evaluation `fraunhoferAt` at a global coordinate.
Generic in the scalar types, as the model is. -/
namespace Lentil

/-- the two `array_center` calls of the source evaluated: `prop_shift` is `fix_shift - intersect_shift`. No hypothesis,
whence the `getD`: validity of the extents only makes `intersection_shape` answer (`dftWindow_some`). -/
theorem dftWindow_eq (oe : Extent) (P0 P1 f0 f1 : Int) :
    dftWindow oe P0 P1 f0 f1 =
      if intersect oe (propExtent P0 P1 f0 f1) then
        some ((intersectionShape oe (propExtent P0 P1 f0 f1)).getD (0, 0), intersectionShift oe (propExtent P0 P1 f0 f1),
              (f0 - (intersectionShift oe (propExtent P0 P1 f0 f1)).1, f1 - (intersectionShift oe (propExtent P0 P1 f0 f1)).2))
      else none := by
  simp only [dftWindow, Gen.dftWindow, Gen.arrayCenter_arrayExtent]; rfl

theorem dftWindow_none (oe : Extent) (P0 P1 f0 f1 : Int) (h : intersect oe (propExtent P0 P1 f0 f1) = false) :
    dftWindow oe P0 P1 f0 f1 = none := by
  rw [dftWindow_eq, h]; rfl

theorem dftWindow_some (oe : Extent) (P0 P1 f0 f1 : Int) (hoe : oe.rmin ≤ oe.rmax ∧ oe.cmin ≤ oe.cmax)
    (hP : 0 < P0 ∧ 0 < P1) (h : intersect oe (propExtent P0 P1 f0 f1) = true) :
    dftWindow oe P0 P1 f0 f1 =
      some (((intersectionExtent oe (propExtent P0 P1 f0 f1)).nrow, (intersectionExtent oe (propExtent P0 P1 f0 f1)).ncol),
            intersectionShift oe (propExtent P0 P1 f0 f1),
            (f0 - (intersectionShift oe (propExtent P0 P1 f0 f1)).1, f1 - (intersectionShift oe (propExtent P0 P1 f0 f1)).2)) := by
  rw [dftWindow_eq, if_pos h, intersectionShape_some oe (propExtent P0 P1 f0 f1) hoe (arrayExtent_valid P0 P1 f0 f1 hP) h]; rfl

theorem dftWindow_pos (oe : Extent) (P0 P1 f0 f1 : Int) (hoe : oe.rmin ≤ oe.rmax ∧ oe.cmin ≤ oe.cmax) (hP : 0 < P0 ∧ 0 < P1)
    (w : (Int × Int) × (Int × Int) × (Int × Int)) (h : dftWindow oe P0 P1 f0 f1 = some w) : 0 < w.1.1 ∧ 0 < w.1.2 := by
  cases hint : intersect oe (propExtent P0 P1 f0 f1)
  · rw [dftWindow_none _ _ _ _ _ hint] at h
    cases h
  · rw [dftWindow_some _ _ _ _ _ hoe hP hint] at h
    cases h
    exact inter_shape_pos _ _ hoe (arrayExtent_valid P0 P1 f0 f1 hP) hint

/-- `b`: the bounding rows/columns of the output mask in an `S0 x S1` array, origin at `floor(S/2)` -/
theorem outExtent_mask (S0 S1 : Int) (b : Extent) :
    outExtent S0 S1 (some b) = ⟨b.rmin - S0 / 2, b.rmax - S0 / 2, b.cmin - S1 / 2, b.cmax - S1 / 2⟩ := by
  simp only [outExtent, Gen.maskShape, Gen.maskShift]; rw [arrayExtent_eq]
  simp only [Extent.mk.injEq]; omega

theorem outExtent_nomask (S0 S1 : Int) :
    outExtent S0 S1 none = ⟨-(S0 / 2), -(S0 / 2) + S0 - 1, -(S1 / 2), -(S1 / 2) + S1 - 1⟩ := by
  simp only [outExtent]; rw [arrayExtent_eq]; simp only [Extent.mk.injEq]; omega

theorem dftMaskMismatch_iff (a b c d : Int) : Gen.dftMaskMismatch a b c d = true ↔ a ≠ c ∨ b ≠ d := by
  simp only [Gen.dftMaskMismatch, Bool.or_eq_true, bne_iff_ne]

section
variable {K R : Type} [Add R] [Sub R] [Mul R] [Neg R] [RealLike R] [Add K] [Mul K] [Zero K] [CxLike K R]

theorem dft2_shape0 (f : Arr K) (αr αc : R) (M N : Int) (shr shc : R) (offr offc : Int) (un : Bool) :
    (dft2 f αr αc M N shr shc offr offc un).s0 = M := rfl
theorem dft2_shape1 (f : Arr K) (αr αc : R) (M N : Int) (shr shc : R) (offr offc : Int) (un : Bool) :
    (dft2 f αr αc M N shr shc offr offc un).s1 = N := rfl

omit [Add R] in
theorem dft2_get_congr (f : Arr K) (αr αc : R) (M N M' N' : Int) (shr shc shr' shc' : R) (offr offc : Int) (un : Bool)
    (u v u' v' : Int)
    (hr : (RealLike.ofInt (cc M u) : R) - shr = RealLike.ofInt (cc M' u') - shr')
    (hc : (RealLike.ofInt (cc N v) : R) - shc = RealLike.ofInt (cc N' v') - shc') :
    (dft2 f αr αc M N shr shc offr offc un).get u v = (dft2 f αr αc M' N' shr' shc' offr offc un).get u' v' := by
  simp only [dft2, dftKernel, hr, hc]

/-- one `dft2` onto the intersection of the output extent and the propagation window, recentred by `fix - centre(intersection)`,
placed at the intersection's centre -/
theorem propagateField_eq (t : TField K R) (αr αc : R) (oe : Extent) (P0 P1 : Int)
    (hoe : oe.rmin ≤ oe.rmax ∧ oe.cmin ≤ oe.cmax) (hP : 0 < P0 ∧ 0 < P1) :
    propagateField t αr αc oe P0 P1 =
      if intersect oe (propExtent P0 P1 t.fix0 t.fix1) then
        some ⟨dft2 t.fld.arr αr αc (intersectionExtent oe (propExtent P0 P1 t.fix0 t.fix1)).nrow
                (intersectionExtent oe (propExtent P0 P1 t.fix0 t.fix1)).ncol
                (RealLike.ofInt (t.fix0 - (intersectionShift oe (propExtent P0 P1 t.fix0 t.fix1)).1) + t.sub0)
                (RealLike.ofInt (t.fix1 - (intersectionShift oe (propExtent P0 P1 t.fix0 t.fix1)).2) + t.sub1)
                t.fld.o0 t.fld.o1 true,
              (intersectionShift oe (propExtent P0 P1 t.fix0 t.fix1)).1, (intersectionShift oe (propExtent P0 P1 t.fix0 t.fix1)).2⟩
      else none := by
  unfold propagateField
  cases h : intersect oe (propExtent P0 P1 t.fix0 t.fix1)
  · rw [dftWindow_none _ _ _ _ _ h]; rfl
  · rw [dftWindow_some _ _ _ _ _ hoe hP h]; rfl

theorem propagateField_pos (t : TField K R) (αr αc : R) (oe : Extent) (P0 P1 : Int)
    (hoe : oe.rmin ≤ oe.rmax ∧ oe.cmin ≤ oe.cmax) (hP : 0 < P0 ∧ 0 < P1) (g : Fld K)
    (h : propagateField t αr αc oe P0 P1 = some g) : 0 < g.arr.s0 ∧ 0 < g.arr.s1 := by
  rw [propagateField_eq t αr αc oe P0 P1 hoe hP] at h
  obtain ⟨hi, rfl⟩ := Option.ite_some_none_eq_some.mp h
  exact inter_shape_pos _ _ hoe (arrayExtent_valid P0 P1 t.fix0 t.fix1 hP) hi
end

section
variable {K R : Type} [CommRing R] [RealLike R] [Add K] [Mul K] [Zero K] [CxLike K R]

theorem dft2_get_eq_fraunhoferAt (hcast : ∀ n : Int, (RealLike.ofInt n : R) = (n : R)) (f : Fld K) (αr αc : R) (M N : Int)
    (shr shc : R) (u v : Int) :
    (dft2 f.arr αr αc M N shr shc f.o0 f.o1 true).get u v =
      fraunhoferAt f αr αc (RealLike.ofInt (cc M u) - shr) (RealLike.ofInt (cc N v) - shc) := by
  have h0 : ∀ p : R, p = RealLike.ofInt (cc 1 0) - -p := fun p => by
    rw [show cc 1 0 = 0 from rfl, hcast, Int.cast_zero, zero_sub, neg_neg]
  exact dft2_get_congr (hr := h0 _) (hc := h0 _) ..

/-- coordinate bookkeeping of `propagate_dft`, one axis: local sample `r - lo` of an `n`-sample window starting at `lo` (centre
`lo + n / 2`), recentred by `fix - centre`, sits at `r - fix - sub` -/
theorem kernel_coord (hcast : ∀ n : Int, (RealLike.ofInt n : R) = (n : R)) (n lo fix r : Int) (sub : R) :
    (RealLike.ofInt (cc n (r - lo)) : R) - (RealLike.ofInt (fix - (lo + n / 2)) + sub) = RealLike.ofInt (r - fix) - sub := by
  simp only [hcast, cc]; push_cast; ring

/-- an integer `k` moved between the integer and the sub-pixel part of a shift -/
theorem sub_split (hcast : ∀ n : Int, (RealLike.ofInt n : R) = (n : R)) (g k : Int) (s : R) :
    (RealLike.ofInt (g - k) : R) - (s - RealLike.ofInt k) = RealLike.ofInt g - s := by
  simp only [hcast]; push_cast; ring
end

end Lentil
