import LentilVerif.Lemmas.Fourier
import LentilVerif.Model.Energy
/-! The power of an array at `K = ℂ`, `R = ℝ`: `arrSum` as a `Finset` sum, `intensity` through `Complex.normSq`, `normalizePower` sample by
sample. Lemmas/Blur.lean builds on this file as well as the propagation-energy lemmas do: the propagation model stays out of it. -/
open Finset
namespace Lentil

noncomputable instance instNormSqLikeComplex : NormSqLike ℂ ℝ := ⟨Complex.normSq⟩

theorem arrSum_eq {A} [AddCommMonoid A] (a : Arr A) :
    arrSum a = ∑ i ∈ range a.s0.toNat, ∑ j ∈ range a.s1.toNat, a.get i j := by
  unfold arrSum; simp only [sumRange_eq]

theorem arrSum_intensity (a : Arr ℂ) :
    arrSum (intensity (R := ℝ) a) = ∑ i ∈ range a.s0.toNat, ∑ j ∈ range a.s1.toNat, Complex.normSq (a.get i j) :=
  arrSum_eq _

theorem arrSum_intensity_scaled (a b : Arr ℂ) (k : ℝ) (h0 : b.s0 = a.s0) (h1 : b.s1 = a.s1)
    (h : ∀ i j, Complex.normSq (b.get i j) = Complex.normSq (a.get i j) * k) :
    arrSum (intensity (R := ℝ) b) = arrSum (intensity (R := ℝ) a) * k := by
  simp only [arrSum_intensity, h0, h1, h, sum_mul]

theorem normalizePower_get (a : Arr ℂ) (p : ℝ) (i j : ℤ) :
    (normalizePower a p).get i j = a.get i j * ((Real.sqrt (p / arrSum (intensity (R := ℝ) a)) : ℝ) : ℂ) := rfl

end Lentil
