import LentilVerif.Lemmas.PlaneAlg
/-! The hand model of `boundary_slice` / `_plane_slice` (`bboxSlice`, `mkMask` in Model/Plane.lean): its searches are those of
`boundary` (`firstTrueIdx_eq`, `lastTrueIdx_eq`, `anyBelowIdx_eq`), so its slices cover the mask's support; and `Attr.npSize`,
`Attr.whole`, `Attr.select_eq_at`, the vocabulary in which `C07.loop_body_is_segPhasor` relates the hand model of the loop body of
`Plane.multiply` (`segPhasor`) to the regenerated `Gen.planeLoop*` (plane.py). -/
namespace Lentil

/-- `attr.size` as NumPy reports it: 1 for a 0-d attribute, rows·columns for an array -/
def Attr.npSize {α} (a : Attr α) : Int :=
  match a with
  | .scalar _ => 1
  | .array x => x.s0 * x.s1

/-- the attribute used whole (`self.amplitude`, `self.opd` without `[s]`): the value NumPy broadcasts when it has one
element -/
def Attr.whole {α} (a : Attr α) : α :=
  match a with
  | .scalar v => v
  | .array x => x.get 0 0

/-- the loop body's `self.attr if self.attr.size == 1 else self.attr[s]`; `ha` excludes an *array* attribute with exactly one
element, which NumPy would broadcast -/
theorem Attr.select_eq_at {α} (a : Attr α) (ha : ∀ x, a = .array x → x.s0 * x.s1 ≠ 1) (i j : Int) :
    (if decide (a.npSize = 1) then a.whole else a.at i j) = a.at i j := by
  cases a with
  | scalar v => rfl
  | array x => exact if_neg (by rw [decide_eq_true_eq]; exact ha x rfl)

/-- the two models of the boundary search (`Model/Plane.lean` for `_plane_slice`, `Model/Geometry.lean` for `lentil.util.boundary`)
are one function -/
theorem firstTrueIdx_eq (p : Nat → Bool) : ∀ n, firstTrueIdx p n = firstTrue n p
  | 0 => rfl
  | n + 1 => by
    simp only [firstTrueIdx, firstTrue, firstTrueIdx_eq p n]
    cases firstTrue n p <;> rfl

theorem lastTrueIdx_eq (p : Nat → Bool) : ∀ n, lastTrueIdx p n = lastTrue n p
  | 0 => rfl
  | n + 1 => by simp only [lastTrueIdx, lastTrue, lastTrueIdx_eq p n]

theorem firstTrueIdx_lt (p : Nat → Bool) : ∀ (n i : Nat), firstTrueIdx p n = some i → i < n :=
  fun n i h => (firstTrue_some n p i (firstTrueIdx_eq p n ▸ h)).1

theorem anyBelowIdx_eq (p : Nat → Bool) (n : Nat) : anyBelowIdx p n = anyBelow n p := by
  rw [anyBelowIdx, firstTrueIdx_eq, Bool.eq_iff_iff, anyBelow_iff, Option.isSome_iff_exists]
  exact ⟨fun ⟨k, hk⟩ => ⟨k, (firstTrue_some n p k hk).1, (firstTrue_some n p k hk).2.1⟩, fun ⟨_, hk, hp⟩ => firstTrue_exists hk hp⟩

theorem bboxSlice_some (s0 s1 : Int) (m : Int → Int → Bool) (s : Slice2) (h : bboxSlice s0 s1 m = some s) :
    ∃ rmin rmax cmin cmax : Nat,
      firstTrueIdx (fun i => anyBelowIdx (fun j => m i j) s1.toNat) s0.toNat = some rmin ∧
      lastTrueIdx (fun i => anyBelowIdx (fun j => m i j) s1.toNat) s0.toNat = some rmax ∧
      firstTrueIdx (fun j => anyBelowIdx (fun i => m i j) s0.toNat) s1.toNat = some cmin ∧
      lastTrueIdx (fun j => anyBelowIdx (fun i => m i j) s0.toNat) s1.toNat = some cmax ∧
      s = ⟨rmin, (rmax : Int) + 1, cmin, (cmax : Int) + 1⟩ := by
  unfold bboxSlice at h
  simp only [] at h
  split at h
  · rename_i r0 r1 c0 c1 h1 h2 h3 h4
    exact ⟨r0, r1, c0, c1, h1, h2, h3, h4, (Option.some.inj h).symm⟩
  · exact absurd h (by simp)

theorem bboxSlice_covers (s0 s1 : Int) (m : Int → Int → Bool) (s : Slice2) (h : bboxSlice s0 s1 m = some s) :
    Seg.covers s0 s1 ⟨m, s⟩ := by
  obtain ⟨r0, r1, c0, c1, h1, h2, h3, h4, rfl⟩ := bboxSlice_some s0 s1 m s h
  -- the same search as `lentil.util.boundary` on the mask as an array, whose box `boundary_bbox` describes
  have hb : boundary ⟨s0, s1, m⟩ = some ⟨r0, r1, c0, c1⟩ := by
    unfold boundary rowAny colAny
    simp only [← firstTrueIdx_eq, ← lastTrueIdx_eq, ← anyBelowIdx_eq, h1, h2, h3, h4]
  obtain ⟨hin, hcov, -⟩ := boundary_bbox _ _ hb
  unfold Seg.covers
  simp only at hin hcov ⊢
  refine ⟨by omega, by omega, by omega, by omega, ?_⟩
  intro i j hi0 hi1 hj0 hj1 hm
  obtain ⟨i, rfl⟩ := Int.eq_ofNat_of_zero_le hi0
  obtain ⟨j, rfl⟩ := Int.eq_ofNat_of_zero_le hj0
  have := hcov i j hi1 hj1 hm
  omega

theorem mkMask_segs (s0 s1 : Int) (ms : List (Int → Int → Bool)) (S0 S1 : Int) (l : List Seg)
    (h : mkMask s0 s1 ms = some (.segs S0 S1 l)) : S0 = s0 ∧ S1 = s1 ∧ ∀ g ∈ l, bboxSlice s0 s1 g.m = some g.s := by
  unfold mkMask at h
  obtain ⟨l', hm, hl'⟩ := Option.map_eq_some_iff.mp h
  obtain ⟨rfl, rfl, rfl⟩ := MaskM.segs.inj hl'
  refine ⟨rfl, rfl, ?_⟩
  clear h hl'
  induction ms generalizing l' with
  | nil => simp at hm; subst hm; simp
  | cons m ms ih =>
    simp only [List.mapM_cons, Option.bind_eq_bind, Option.bind_eq_some_iff, Option.map_eq_some_iff, Option.pure_def,
      Option.some.injEq] at hm
    obtain ⟨_, ⟨s, hb, rfl⟩, l'', hr, rfl⟩ := hm
    exact List.forall_mem_cons.mpr ⟨hb, ih l'' hr⟩

end Lentil
