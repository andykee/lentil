import LentilVerif.Lemmas.Field
import LentilVerif.Lemmas.Sums
import LentilVerif.Model.FieldZ
import Mathlib.Tactic.SplitIfs
/-! `lentil.field.boundary` and `_merge`. Each side of `boundary` is a running minimum / maximum, so the box contains every member and
each side is attained: it is the exact bounding box (`IsBBox`, `boundaryL_isBBox`). `_merge` writes every member through its window
of a zero canvas on that box: the merged field occupies the box and embeds as the sum of the members (`mergeL_spec`). The 0-d aware
`mergeZ` is `mergeL` except for an all-0-d collection on the origin pixel (`mergeZ_cases`), where the same holds for another reason
(`mergeZ_spec`). -/
namespace Lentil
variable {K : Type}

/-! ### `boundary` -/

theorem foldl_lo_spec {β : Type} (π : β → Int) (l : List β) (a m : Int)
    (hm : l.foldl (fun a y => if π y < a then π y else a) a = m) :
    m ≤ a ∧ (∀ y ∈ l, m ≤ π y) ∧ (m = a ∨ ∃ y ∈ l, π y = m) :=
  foldl_select (fun a x => if x < a then x else a) (· ≤ ·) Int.le_refl (fun _ _ _ => Int.le_trans)
    (fun a b => by split <;> omega) (fun a b => by split <;> simp) π l a m hm

theorem foldl_hi_spec {β : Type} (π : β → Int) (l : List β) (a m : Int)
    (hm : l.foldl (fun a y => if π y > a then π y else a) a = m) :
    a ≤ m ∧ (∀ y ∈ l, π y ≤ m) ∧ (m = a ∨ ∃ y ∈ l, π y = m) :=
  foldl_select (fun a x => if x > a then x else a) (· ≥ ·) Int.le_refl (fun _ _ _ h1 h2 => Int.le_trans h2 h1)
    (fun a b => by split <;> omega) (fun a b => by split <;> simp) π l a m hm

/-- the start values are ±`sys.maxsize` -/
theorem boundaryL_sides (es : List Extent) :
    (boundaryL es).rmin = es.foldl (fun a e => if e.rmin < a then e.rmin else a) 9223372036854775807 ∧
    (boundaryL es).rmax = es.foldl (fun a e => if e.rmax > a then e.rmax else a) (-9223372036854775807) ∧
    (boundaryL es).cmin = es.foldl (fun a e => if e.cmin < a then e.cmin else a) 9223372036854775807 ∧
    (boundaryL es).cmax = es.foldl (fun a e => if e.cmax > a then e.cmax else a) (-9223372036854775807) := by
  refine ⟨?_, ?_, ?_, ?_⟩ <;>
  exact (List.foldl_hom _ fun acc e => by simp [Extent.ofT, Gen.boundaryStep]).symm

theorem boundaryL_contains (es : List Extent) (e : Extent) (he : e ∈ es) :
    (boundaryL es).rmin ≤ e.rmin ∧ e.rmax ≤ (boundaryL es).rmax ∧
    (boundaryL es).cmin ≤ e.cmin ∧ e.cmax ≤ (boundaryL es).cmax := by
  obtain ⟨h1, h2, h3, h4⟩ := boundaryL_sides es
  exact ⟨(foldl_lo_spec _ es _ _ h1.symm).2.1 e he, (foldl_hi_spec _ es _ _ h2.symm).2.1 e he,
    (foldl_lo_spec _ es _ _ h3.symm).2.1 e he, (foldl_hi_spec _ es _ _ h4.symm).2.1 e he⟩

/-! ### the bounding box -/

/-- `b` is the bounding box of the extents `es`: it contains each of them, and each of its four sides is attained -/
def IsBBox (b : Extent) (es : List Extent) : Prop :=
  (∀ e ∈ es, b.rmin ≤ e.rmin ∧ e.rmax ≤ b.rmax ∧ b.cmin ≤ e.cmin ∧ e.cmax ≤ b.cmax) ∧
  (∃ e ∈ es, e.rmin = b.rmin) ∧ (∃ e ∈ es, e.rmax = b.rmax) ∧ (∃ e ∈ es, e.cmin = b.cmin) ∧ (∃ e ∈ es, e.cmax = b.cmax)

/-- for a non-empty collection within ±`sys.maxsize`; otherwise a side may still hold its start value -/
theorem boundaryL_isBBox (es : List Extent) (hne : es ≠ [])
    (hM : ∀ e ∈ es, e.rmin ≤ 9223372036854775807 ∧ -9223372036854775807 ≤ e.rmax ∧
                    e.cmin ≤ 9223372036854775807 ∧ -9223372036854775807 ≤ e.cmax) :
    IsBBox (boundaryL es) es := by
  obtain ⟨e1, e2, e3, e4⟩ := boundaryL_sides es
  obtain ⟨e, he⟩ := List.exists_mem_of_ne_nil es hne
  have hc := boundaryL_contains es e he
  have hm := hM e he
  -- a side still at its start value is attained by `e`, which lies between that value and the box
  exact ⟨boundaryL_contains es,
    (foldl_lo_spec Extent.rmin es _ _ e1.symm).2.2.elim (fun h => ⟨e, he, by omega⟩) id,
    (foldl_hi_spec Extent.rmax es _ _ e2.symm).2.2.elim (fun h => ⟨e, he, by omega⟩) id,
    (foldl_lo_spec Extent.cmin es _ _ e3.symm).2.2.elim (fun h => ⟨e, he, by omega⟩) id,
    (foldl_hi_spec Extent.cmax es _ _ e4.symm).2.2.elim (fun h => ⟨e, he, by omega⟩) id⟩

theorem IsBBox.unique {b b' : Extent} {es : List Extent} (h : IsBBox b es) (h' : IsBBox b' es) : b = b' := by
  obtain ⟨hc, ⟨e1, m1, a1⟩, ⟨e2, m2, a2⟩, ⟨e3, m3, a3⟩, ⟨e4, m4, a4⟩⟩ := h
  obtain ⟨hc', ⟨f1, n1, b1⟩, ⟨f2, n2, b2⟩, ⟨f3, n3, b3⟩, ⟨f4, n4, b4⟩⟩ := h'
  -- each side of one box is attained by a member, which the other box contains
  have r1 : b.rmin = b'.rmin := Int.le_antisymm (b1 ▸ (hc f1 n1).1) (a1 ▸ (hc' e1 m1).1)
  have r2 : b.rmax = b'.rmax := Int.le_antisymm (a2 ▸ (hc' e2 m2).2.1) (b2 ▸ (hc f2 n2).2.1)
  have r3 : b.cmin = b'.cmin := Int.le_antisymm (b3 ▸ (hc f3 n3).2.2.1) (a3 ▸ (hc' e3 m3).2.2.1)
  have r4 : b.cmax = b'.cmax := Int.le_antisymm (a4 ▸ (hc' e4 m4).2.2.2) (b4 ▸ (hc f4 n4).2.2.2)
  cases b; cases b'
  simp only at r1 r2 r3 r4
  rw [r1, r2, r3, r4]

theorem IsBBox.of_mem_iff {b : Extent} {es es' : List Extent} (hm : ∀ e, e ∈ es ↔ e ∈ es') (h : IsBBox b es) : IsBBox b es' := by
  obtain ⟨hc, ⟨e1, m1, a1⟩, ⟨e2, m2, a2⟩, ⟨e3, m3, a3⟩, ⟨e4, m4, a4⟩⟩ := h
  exact ⟨fun e he => hc e ((hm e).mpr he), ⟨e1, (hm e1).mp m1, a1⟩, ⟨e2, (hm e2).mp m2, a2⟩, ⟨e3, (hm e3).mp m3, a3⟩,
    ⟨e4, (hm e4).mp m4, a4⟩⟩

theorem IsBBox.shift {b : Extent} {es : List Extent} (h : IsBBox b es) (d0 d1 : Int) :
    IsBBox (b.shift d0 d1) (es.map fun e => e.shift d0 d1) := by
  obtain ⟨hc, ⟨e1, m1, a1⟩, ⟨e2, m2, a2⟩, ⟨e3, m3, a3⟩, ⟨e4, m4, a4⟩⟩ := h
  refine ⟨List.forall_mem_map.mpr fun e he => ?_, ⟨_, List.mem_map_of_mem m1, congrArg (· + d0) a1⟩,
    ⟨_, List.mem_map_of_mem m2, congrArg (· + d0) a2⟩, ⟨_, List.mem_map_of_mem m3, congrArg (· + d1) a3⟩,
    ⟨_, List.mem_map_of_mem m4, congrArg (· + d1) a4⟩⟩
  have := hc e he
  simp only [Extent.shift]; omega

/-! ### `_merge` of arrays -/

/-- the last argument is `all0d` (0: not a 0-d-only collection); the (1, 1) that `_merge_shape` returns on the origin pixel is
the shape of the box too -/
theorem mergeShape_arrays (b : Extent) : Gen.mergeShape b.rmin b.rmax b.cmin b.cmax 0 = some (b.nrow, b.ncol) := by
  unfold Gen.mergeShape
  simp only [Extent.nrow, Extent.ncol]
  split_ifs with h1 h2
  · simp at h2
  · simp only [Bool.and_eq_true, decide_eq_true_eq] at h1
    simp only [Option.some.injEq, Prod.mk.injEq]; omega
  · rfl

theorem merge_box (b : Extent) :
    arrayExtent b.nrow b.ncol (Gen.mergeOffset b.rmin b.rmax b.cmin b.cmax).1 (Gen.mergeOffset b.rmin b.rmax b.cmin b.cmax).2 = b :=
  arrayExtent_center b

theorem mergeSlice_eq (b e : Extent) :
    Gen.mergeSlice b.rmin b.rmax b.cmin b.cmax e.rmin e.rmax e.cmin e.cmax =
      ((e.rmin - b.rmin, e.rmax - b.rmin + 1), (e.cmin - b.cmin, e.cmax - b.cmin + 1)) := by
  simp [Gen.mergeSlice]

theorem mergeL_isSome [Add K] [Zero K] (fs : List (Fld K)) : (mergeL fs).isSome = true := by
  unfold mergeL
  simp only [mergeShape_arrays, Option.isSome_some]

/-- no member needs a positive shape: an empty member adds nothing, and every member lies inside the box -/
theorem mergeL_spec [AddZeroClass K] (fs : List (Fld K)) (p : Fld K) (h : mergeL fs = some p) :
    p.extent = boundaryL (fs.map Fld.extent) ∧ ∀ r c, p.emb r c = sumList fs (fun f => f.emb r c) := by
  unfold mergeL at h
  simp only [mergeShape_arrays, mergeSlice_eq, Option.some.injEq] at h
  subst h
  refine ⟨merge_box _, fun r c => ?_⟩
  rw [emb_mk, merge_box, embAt_sumList]
  exact sumList_congr fs _ _ fun f hf => embAt_window _ f.extent f.arr.get r c (boundaryL_contains _ _ (List.mem_map_of_mem hf))

/-! ### the 0-d aware `_merge` -/

theorem mergeShape_none_iff (b : Extent) (a : Int) :
    Gen.mergeShape b.rmin b.rmax b.cmin b.cmax a = none ↔ (b = ⟨0, 0, 0, 0⟩ ∧ a ≠ 0) := by
  cases b
  unfold Gen.mergeShape
  simp only []
  split_ifs with h h2 <;> simp_all

theorem b2i_ne_zero (x : Bool) : b2i x ≠ 0 ↔ x = true := by cases x <;> simp [b2i]

theorem mergeZ_cases [Add K] [Zero K] (zs : List (ZFld K)) :
    ((boundaryL (zs.map fun z => z.fld.extent) = ⟨0, 0, 0, 0⟩ ∧ (zs.all fun z => z.zd) = true) ∧
      mergeZ zs = some ⟨⟨⟨1, 1, fun _ _ => sumList zs fun z => z.fld.arr.get 0 0⟩, 0, 0⟩, true⟩) ∨
    (¬ (boundaryL (zs.map fun z => z.fld.extent) = ⟨0, 0, 0, 0⟩ ∧ (zs.all fun z => z.zd) = true) ∧
      mergeZ zs = (mergeL (zs.map fun z => z.fld)).map fun p => ⟨p, false⟩) := by
  unfold mergeZ
  simp only []
  cases hc : Gen.mergeShape _ _ _ _ _ with
  | none =>
    obtain ⟨hb, ha⟩ := (mergeShape_none_iff _ _).mp hc
    exact Or.inl ⟨⟨hb, (b2i_ne_zero _).mp ha⟩, by rw [hb]; rfl⟩
  | some shp =>
    refine Or.inr ⟨fun ⟨hb, ha⟩ => ?_, rfl⟩
    rw [(mergeShape_none_iff _ _).mpr ⟨hb, (b2i_ne_zero _).mpr ha⟩] at hc
    cases hc

theorem mergeZ_of_no_zd [Add K] [Zero K] (zs : List (ZFld K)) (hz : ∀ z ∈ zs, z.zd = false) :
    mergeZ zs = (mergeL (zs.map fun z => z.fld)).map fun p => ⟨p, false⟩ := by
  rcases mergeZ_cases zs with ⟨⟨hb, ha⟩, _⟩ | ⟨_, hm⟩
  · match zs, hz with
    | [], _ => exact absurd hb (show boundaryL ([] : List Extent) ≠ ⟨0, 0, 0, 0⟩ by decide)
    | z :: _, hz =>
      rw [List.all_cons, hz z List.mem_cons_self] at ha
      cases ha
  · exact hm

theorem mergeZ_isSome [Add K] [Zero K] (zs : List (ZFld K)) : (mergeZ zs).isSome = true := by
  rcases mergeZ_cases zs with ⟨_, hm⟩ | ⟨_, hm⟩
  · rw [hm]; rfl
  · rw [hm, Option.isSome_map]; exact mergeL_isSome _

theorem members_origin_of_box_origin (fs : List (Fld K)) (hpos : ∀ f ∈ fs, 0 < f.arr.s0 ∧ 0 < f.arr.s1)
    (hb : boundaryL (fs.map Fld.extent) = ⟨0, 0, 0, 0⟩) : ∀ f ∈ fs, f.extent = ⟨0, 0, 0, 0⟩ := by
  intro f hf
  have h1 := boundaryL_contains (fs.map Fld.extent) f.extent (List.mem_map_of_mem hf)
  simp only [hb] at h1
  have h2 := f.extent_valid (hpos f hf)
  cases he : f.extent with
  | mk a b c d => rw [he] at h1 h2; simp only at h1 h2; simp only [Extent.mk.injEq]; omega

theorem extent_ne_origin_of_not_size1 (f : Fld K) (hpos : 0 < f.arr.s0 ∧ 0 < f.arr.s1) (h : f.size1 = false) :
    f.extent ≠ ⟨0, 0, 0, 0⟩ := by
  intro he
  simp only [Fld.extent, arrayExtent_eq, Extent.mk.injEq] at he
  exact Bool.false_ne_true (h.symm.trans ((Fld.size1_iff f).mpr (by omega)))

theorem mergeZ_spec [AddZeroClass K] (zs : List (ZFld K))
    (hpos : ∀ z ∈ zs, 0 < z.fld.arr.s0 ∧ 0 < z.fld.arr.s1) (p : ZFld K) (h : mergeZ zs = some p) :
    p.fld.extent = boundaryL (zs.map fun z => z.fld.extent) ∧
    ∀ r c, p.fld.emb r c = sumList zs (fun z => z.fld.emb r c) := by
  have hmm : (zs.map fun z => z.fld.extent) = (zs.map fun z => z.fld).map Fld.extent := by
    rw [List.map_map]; rfl
  rcases mergeZ_cases zs with ⟨⟨hb, _⟩, hm⟩ | ⟨_, hm⟩
  · -- the corner: every member is one sample on the origin pixel, and so is the result
    rw [hm, Option.some.injEq] at h
    subst h
    have hmem := members_origin_of_box_origin (zs.map fun z => z.fld) (List.forall_mem_map.mpr hpos) (hmm ▸ hb)
    refine ⟨hb.symm, fun r c => ?_⟩
    rw [emb_mk, embAt_sumList]
    refine sumList_congr zs _ _ fun z hz => ?_
    have he : arrayExtent 1 1 0 0 = z.fld.extent := (hmem _ (List.mem_map_of_mem hz)).symm
    rw [he]
    exact embAt_congr _ _ _ r c fun i j hi hj => by
      rw [hmem _ (List.mem_map_of_mem hz)] at hi hj
      simp only at hi hj
      rw [show i = 0 by omega, show j = 0 by omega]
  · rw [hm, Option.map_eq_some_iff] at h
    obtain ⟨q, hq, rfl⟩ := h
    obtain ⟨e1, e2⟩ := mergeL_spec _ q hq
    exact ⟨e1.trans (congrArg boundaryL hmm.symm), fun r c => (e2 r c).trans (sumList_map_comp zs _ _)⟩

end Lentil
