import LentilVerif.Lemmas.BlurDft
import LentilVerif.Lemmas.Energy
import Mathlib.Analysis.SpecialFunctions.Trigonometric.Sinc
/-! Lemmas for the blur model (C19) at `K = ℂ`, `R = ℝ`. `conv img k = ifft2 (fft2 img · k)` is the exact circular convolution in its
Fourier form; its lemmas (`conv_get` and what follows it, read off from the `dsum` calculus of Lemmas/BlurDft.lean) are all the Fourier
analysis used above them. The blurs are treated for an arbitrary transfer function `k`: `pixel` is `blurCore img k = |conv img k|`,
`jitter` and `smear` are `renormZ img (blurCore img k)` (`pixel_def`, `jitter_def`, `smear_def`). The three kernels enter through their
closed forms (`pixelKernel_get`, …) and their symmetry under negation of the frequency indices only. -/
open Finset
namespace Lentil
open ComplexConjugate

/-! ## arrays: extensionality, `force`, `roll` -/

theorem Arr.ext_get {A : Type} {x y : Arr A} (h0 : x.s0 = y.s0) (h1 : x.s1 = y.s1) (hg : ∀ i j, x.get i j = y.get i j) :
    x = y := by
  cases x; cases y
  simp only [Arr.mk.injEq]
  exact ⟨h0, h1, funext fun i => funext (hg i)⟩

theorem force_get {A : Type} (a : Arr A) (i j : ℤ) : a.force.get i j = a.get i j := by
  unfold Arr.force
  simp only
  split_ifs with h
  · obtain ⟨hi0, -, hj0, hj1⟩ := h
    have hs1 : 0 < a.s1 := by omega
    rw [Array.getD_eq_getD_getElem?, List.getElem?_toArray, List.getElem?_map]
    -- an index beyond the table falls back to the entry itself, so the table's length needs no bound
    by_cases hnat : (i * a.s1 + j).toNat < (a.s0 * a.s1).toNat
    · rw [List.getElem?_range hnat, Option.map_some, Option.getD_some, Int.ofNat_eq_natCast, Int.toNat_of_nonneg (by positivity),
        add_comm, Int.add_mul_ediv_right _ _ hs1.ne', Int.add_mul_emod_self_right, Int.ediv_eq_zero_of_lt hj0 hj1,
        Int.emod_eq_of_lt hj0 hj1, zero_add]
    · rw [List.getElem?_eq_none (by rw [List.length_range]; exact Nat.le_of_not_lt hnat), Option.map_none, Option.getD_none]
  · rfl

@[simp] theorem force_s0 {A : Type} (a : Arr A) : a.force.s0 = a.s0 := rfl
@[simp] theorem force_s1 {A : Type} (a : Arr A) : a.force.s1 = a.s1 := rfl

theorem force_eq {A : Type} (a : Arr A) : a.force = a := Arr.ext_get rfl rfl (force_get a)

theorem roll_get {A : Type} (x : Arr A) (a b i j : ℤ) :
    (roll x a b).get i j = x.get ((i - a) % x.s0) ((j - b) % x.s1) := rfl
@[simp] theorem roll_s0 {A : Type} (x : Arr A) (a b : ℤ) : (roll x a b).s0 = x.s0 := rfl
@[simp] theorem roll_s1 {A : Type} (x : Arr A) (a b : ℤ) : (roll x a b).s1 = x.s1 := rfl

theorem arrSum_roll (x : Arr ℝ) (m n : ℕ) (hm : x.s0 = m) (hn : x.s1 = n) (a b : ℤ) :
    arrSum (roll x a b) = arrSum x := by
  rw [arrSum_eq, arrSum_eq]
  simp only [roll_get, roll_s0, roll_s1, hm, hn, Int.toNat_natCast]
  exact sum_roll2 m n x.get a b

/-! ## the model at `ℝ` / `ℂ`; the convolution -/

noncomputable instance instBlurLikeReal : BlurLike ℝ :=
  ⟨fun x => Real.sinc (Real.pi * x), Real.exp, Real.sin, Real.cos, Real.pi, fun x => decide (x = 0)⟩
noncomputable instance instAbsLikeComplex : AbsLike ℂ ℝ := ⟨fun z => ‖z‖⟩

theorem toCx_roll (img : Arr ℝ) (a b : ℤ) : toCx (K := ℂ) (roll img a b) = roll (toCx (K := ℂ) img) a b := rfl

/-- the exact circular convolution of the image with the kernel whose DFT is `k`, in its Fourier form -/
noncomputable def conv (img k : Arr ℝ) : Arr ℂ := ifft2 (R := ℝ) (mulKernel (fft2 (R := ℝ) (toCx (K := ℂ) img)) k)

theorem spectrum_get (img : Arr ℝ) (m n : ℕ) (hm : img.s0 = m) (hn : img.s1 = n) (u v : ℤ) :
    (fft2 (R := ℝ) (toCx (K := ℂ) img)).get u v = dsum m n 1 (fun a b => (img.get a b : ℂ)) u v :=
  fft2_get _ m n hm hn u v

theorem conv_get (img k : Arr ℝ) (m n : ℕ) (hm : img.s0 = m) (hn : img.s1 = n) (i j : ℤ) :
    (conv img k).get i j
      = dsum m n (-1) (fun u v => dsum m n 1 (fun a b => (img.get a b : ℂ)) u v * (k.get u v : ℂ)) i j / ((m : ℂ) * n) := by
  unfold conv
  rw [ifft2_get _ m n hm hn]
  simp only [mulKernel, spectrum_get img m n hm hn, CxLike.ofReal]

theorem conv_one (img k : Arr ℝ) (hk : ∀ u v, k.get u v = 1) (m n : ℕ) (hm : img.s0 = m) (hn : img.s1 = n)
    (i j : ℕ) (hi : i < m) (hj : j < n) : (conv img k).get i j = img.get i j := by
  have hm' : (m : ℂ) ≠ 0 := Nat.cast_ne_zero.mpr (Nat.ne_zero_of_lt hi)
  have hn' : (n : ℂ) ≠ 0 := Nat.cast_ne_zero.mpr (Nat.ne_zero_of_lt hj)
  simp only [conv_get img k m n hm hn, hk, Complex.ofReal_one, mul_one]
  rw [dsum_inv m n 1 (Or.inl rfl) _ i j hi hj]
  field_simp

theorem sum_conv (img k : Arr ℝ) (m n : ℕ) (hm : img.s0 = m) (hn : img.s1 = n) (hm0 : 0 < m) (hn0 : 0 < n) :
    ∑ i ∈ range m, ∑ j ∈ range n, (conv img k).get i j = ((k.get 0 0 * arrSum img : ℝ) : ℂ) := by
  have hmn : (m : ℂ) * n ≠ 0 := mul_ne_zero (by exact_mod_cast hm0.ne') (by exact_mod_cast hn0.ne')
  -- the total of an inverse transform is the zero-frequency sample of its forward transform, which undoes it
  have h := dsum_inv m n (-1) (Or.inr rfl)
    (fun u v => dsum m n 1 (fun a b => (img.get a b : ℂ)) u v * (k.get u v : ℂ)) 0 0 hm0 hn0
  rw [Nat.cast_zero, dsum_zero] at h
  simp only [conv_get img k m n hm hn, div_eq_mul_inv, ← sum_mul]
  rw [h, mul_comm, ← mul_assoc, inv_mul_cancel₀ hmn, one_mul, dsum_zero, arrSum_eq, hm, hn,
    mul_comm]
  push_cast [Int.toNat_natCast]
  rfl

theorem conv_roll (img k : Arr ℝ) (m n : ℕ) (hm : img.s0 = m) (hn : img.s1 = n) (a b i j : ℤ) :
    (conv (roll img a b) k).get i j = (conv img k).get ((i - a) % m) ((j - b) % n) := by
  rw [conv_get (roll img a b) k m n hm hn, conv_get img k m n hm hn, ← dsum_mod]
  simp only [roll_get, hm, hn, dsum_roll m n 1 (fun a b => (img.get a b : ℂ)), neg_neg, mul_assoc]

theorem conv_add (img k kH kN : Arr ℝ) (m n : ℕ) (hm : img.s0 = m) (hn : img.s1 = n)
    (hk : ∀ u v : ℕ, u < m → v < n → k.get u v = kH.get u v + kN.get u v) (i j : ℤ) :
    (conv img k).get i j = (conv img kH).get i j + (conv img kN).get i j := by
  rw [conv_get _ _ m n hm hn, conv_get _ _ m n hm hn, conv_get _ _ m n hm hn, ← add_div, ← dsum_add]
  -- not `congr 1`: it tries `rfl` on the two sums first and unfolds the complex exponentials
  refine congrArg (· / ((m : ℂ) * n)) (dsum_congr m n _ _ _ (fun u hu v hv => ?_) i j)
  rw [hk u v (mem_range.mp hu) (mem_range.mp hv)]
  push_cast; ring

theorem norm_conv_le (img k : Arr ℝ) (m n : ℕ) (hm : img.s0 = m) (hn : img.s1 = n) (i j : ℤ) :
    ‖(conv img k).get i j‖
      ≤ (∑ v ∈ range n, ∑ u ∈ range m, ‖(fft2 (R := ℝ) (toCx (K := ℂ) img)).get u v‖ * |k.get u v|) / ((m : ℝ) * n) := by
  rw [conv_get img k m n hm hn, norm_div, norm_mul, Complex.norm_natCast, Complex.norm_natCast, sum_comm]
  refine div_le_div_of_nonneg_right ((norm_dsum_le m n _ _ i j).trans (le_of_eq ?_)) (by positivity)
  simp only [spectrum_get img m n hm hn, norm_mul, Complex.norm_real, Real.norm_eq_abs]

/-! ## transfer functions under negation of the frequency indices -/

/-- evenness of a real transfer function under index negation modulo the shape (`K(−f) = K(f)`: Hermitian, being real) -/
def KerEven (k : Arr ℝ) (m n : ℕ) : Prop := ∀ u v : ℤ, k.get ((-u) % m) ((-v) % n) = k.get (u % m) (v % n)

theorem conv_real (img k : Arr ℝ) (m n : ℕ) (hm : img.s0 = m) (hn : img.s1 = n) (hk : KerEven k m n) (i j : ℤ) :
    (conv img k).get i j = (((conv img k).get i j).re : ℂ) := by
  refine (Complex.conj_eq_iff_re.mp ?_).symm
  rw [conv_get img k m n hm hn, map_div₀, map_mul, Complex.conj_natCast, Complex.conj_natCast, conj_dsum, neg_neg,
    ← dsum_reflect m n 1]
  refine congrArg (· / ((m : ℂ) * n)) (dsum_congr m n 1 _ _ (fun u hu v hv => ?_) i j)
  have hkuv := hk u v
  rw [emod_range_nat m u hu, emod_range_nat n v hv] at hkuv
  rw [map_mul, conj_dsum_ofReal, hkuv, Complex.conj_ofReal]

/-- even and odd parts of a real transfer function under negation of the frequency indices modulo the shape -/
noncomputable def evenPart (k : Arr ℝ) (m n : ℕ) : Arr ℝ :=
  { k with get := fun u v => (k.get (u % m) (v % n) + k.get ((-u) % m) ((-v) % n)) / 2 }
noncomputable def oddPart (k : Arr ℝ) (m n : ℕ) : Arr ℝ :=
  { k with get := fun u v => (k.get (u % m) (v % n) - k.get ((-u) % m) ((-v) % n)) / 2 }

theorem neg_emod_emod (n : ℕ) (u : ℤ) : (-(u % (n : ℤ))) % (n : ℤ) = (-u) % n := by
  simpa using Int.sub_emod_emod 0 u n

theorem neg_neg_emod (n : ℕ) (u : ℤ) : (-((-u) % (n : ℤ))) % (n : ℤ) = u % n := by
  rw [neg_emod_emod, neg_neg]

theorem evenPart_even (k : Arr ℝ) (m n : ℕ) : KerEven (evenPart k m n) m n := by
  intro u v
  simp only [evenPart, Int.emod_emod, neg_emod_emod, neg_neg]
  rw [add_comm]

/-! ## the un-normalised blur, for any transfer function -/

theorem blurCore_eq (img k : Arr ℝ) : blurCore ℂ img k = absArr (conv img k) := by
  simp only [blurCore, force_eq, conv]

theorem blurCore_get (img k : Arr ℝ) (i j : ℤ) : (blurCore ℂ img k).get i j = ‖(conv img k).get i j‖ := by
  rw [blurCore_eq]; rfl

@[simp] theorem blurCore_s0 (img k : Arr ℝ) : (blurCore ℂ img k).s0 = img.s0 := by rw [blurCore_eq]; rfl
@[simp] theorem blurCore_s1 (img k : Arr ℝ) : (blurCore ℂ img k).s1 = img.s1 := by rw [blurCore_eq]; rfl

theorem blurCore_nonneg (img k : Arr ℝ) (i j : ℤ) : 0 ≤ (blurCore ℂ img k).get i j := by
  rw [blurCore_get]; exact norm_nonneg _

theorem arrSum_blurCore (img k : Arr ℝ) (m n : ℕ) (hm : img.s0 = m) (hn : img.s1 = n) :
    arrSum (blurCore ℂ img k) = ∑ i ∈ range m, ∑ j ∈ range n, ‖(conv img k).get i j‖ := by
  simp only [arrSum_eq, blurCore_s0, blurCore_s1, hm, hn, Int.toNat_natCast, blurCore_get]

theorem blurCore_total_ge (img k : Arr ℝ) (m n : ℕ) (hm : img.s0 = m) (hn : img.s1 = n) (hm0 : 0 < m) (hn0 : 0 < n) :
    |k.get 0 0 * arrSum img| ≤ arrSum (blurCore ℂ img k) := by
  rw [arrSum_blurCore img k m n hm hn, ← Real.norm_eq_abs, ← Complex.norm_real, ← sum_conv img k m n hm hn hm0 hn0]
  exact (norm_sum_le _ _).trans (sum_le_sum fun i _ => norm_sum_le _ _)

theorem blurCore_roll (img k : Arr ℝ) (m n : ℕ) (hm : img.s0 = m) (hn : img.s1 = n) (a b : ℤ) :
    blurCore ℂ (roll img a b) k = roll (blurCore ℂ img k) a b :=
  Arr.ext_get (by simp) (by simp) fun i j => by
    rw [roll_get, blurCore_s0, blurCore_s1, hm, hn, blurCore_get, blurCore_get, conv_roll img k m n hm hn]

theorem blurCore_one (img k : Arr ℝ) (hk : ∀ i j, k.get i j = 1) (m n : ℕ) (hm : img.s0 = m) (hn : img.s1 = n)
    (hpos : ∀ i j, 0 ≤ img.get i j) (i j : ℕ) (hi : i < m) (hj : j < n) :
    (blurCore ℂ img k).get i j = img.get i j := by
  rw [blurCore_get, conv_one img k hk m n hm hn i j hi hj, Complex.norm_real, Real.norm_eq_abs, abs_of_nonneg (hpos _ _)]

/-- "the output equals the convolution": `c = conv img k` is real everywhere and the un-normalised output is `|c|`; if `c ≥ 0`
on the image the output equals `c` at every sample, and with unit DC gain the total is kept and the renormalised output
equals `c` as well -/
def EqualsConvolution (img k : Arr ℝ) (m n : ℕ) : Prop :=
  (∀ i j : ℤ, (conv img k).get i j = (((conv img k).get i j).re : ℂ)) ∧
  (∀ i j : ℤ, (blurCore ℂ img k).get i j = |((conv img k).get i j).re|) ∧
  ((∀ i j : ℕ, i < m → j < n → 0 ≤ ((conv img k).get i j).re) →
    (∀ i j : ℕ, i < m → j < n → (blurCore ℂ img k).get i j = ((conv img k).get i j).re) ∧
    (k.get 0 0 = 1 → arrSum (blurCore ℂ img k) = arrSum img ∧
      (arrSum img ≠ 0 → ∀ i j : ℕ, i < m → j < n → (renorm img (blurCore ℂ img k)).get i j = ((conv img k).get i j).re)))

theorem EqualsConvolution.eq_of_nonneg {img k : Arr ℝ} {m n : ℕ} (h : EqualsConvolution img k m n)
    (hnn : ∀ i j : ℕ, i < m → j < n → 0 ≤ ((conv img k).get i j).re) (i j : ℕ) (hi : i < m) (hj : j < n) :
    (blurCore ℂ img k).get i j = ((conv img k).get i j).re := (h.2.2 hnn).1 i j hi hj

theorem EqualsConvolution.total_of_nonneg {img k : Arr ℝ} {m n : ℕ} (h : EqualsConvolution img k m n)
    (hnn : ∀ i j : ℕ, i < m → j < n → 0 ≤ ((conv img k).get i j).re) (hk : k.get 0 0 = 1) :
    arrSum (blurCore ℂ img k) = arrSum img := ((h.2.2 hnn).2 hk).1

theorem blur_deviation_le (img k : Arr ℝ) (m n : ℕ) (hm : img.s0 = m) (hn : img.s1 = n) (i j : ℤ) :
    (conv img (evenPart k m n)).get i j = (((conv img (evenPart k m n)).get i j).re : ℂ) ∧
    abs ((blurCore ℂ img k).get i j - abs ((conv img (evenPart k m n)).get i j).re)
      ≤ (∑ v ∈ range n, ∑ u ∈ range m, ‖(fft2 (R := ℝ) (toCx (K := ℂ) img)).get u v‖ * |(oddPart k m n).get u v|) / ((m : ℝ) * n) := by
  have hreal := conv_real img _ m n hm hn (evenPart_even k m n) i j
  refine ⟨hreal, ?_⟩
  have hsplit := conv_add img k (evenPart k m n) (oddPart k m n) m n hm hn (fun u v hu hv => by
    simp only [evenPart, oddPart, emod_range_nat m u (mem_range.mpr hu), emod_range_nat n v (mem_range.mpr hv)]; ring) i j
  rw [blurCore_get, hsplit, ← Real.norm_eq_abs (Complex.re _), ← Complex.norm_real, ← hreal]
  refine (abs_norm_sub_norm_le _ _).trans ?_
  rw [add_sub_cancel_left]
  exact norm_conv_le img _ m n hm hn i j

/-! ## renormalisation -/

/-- the closing statements of `jitter` / `smear` at ℝ: a blurred frame with zero total is returned as it is (the regenerated guard
`if np.sum(out) == 0: return out`), any other is rescaled to the input total -/
noncomputable def renormZ (img out : Arr ℝ) : Arr ℝ := if arrSum out = 0 then out else renorm img out

theorem renorm_get (img out : Arr ℝ) (i j : ℤ) : (renorm img out).get i j = out.get i j * arrSum img / arrSum out := rfl
@[simp] theorem renorm_s0 (img out : Arr ℝ) : (renorm img out).s0 = out.s0 := rfl
@[simp] theorem renorm_s1 (img out : Arr ℝ) : (renorm img out).s1 = out.s1 := rfl
@[simp] theorem renormZ_s0 (img out : Arr ℝ) : (renormZ img out).s0 = out.s0 := by unfold renormZ; split_ifs <;> rfl
@[simp] theorem renormZ_s1 (img out : Arr ℝ) : (renormZ img out).s1 = out.s1 := by unfold renormZ; split_ifs <;> rfl

theorem renormGuarded_true_eq (img out : Arr ℝ) :
    renormGuarded true (fun o s t : ℝ => (o * s) / t) img out = renormZ img out := by
  unfold renormGuarded renormZ
  by_cases h : arrSum out = 0
  · simp [h, BlurLike.isZero]
  · simp [h, BlurLike.isZero, renormWith, renorm]

theorem arrSum_renorm (img out : Arr ℝ) (h : arrSum out ≠ 0) : arrSum (renorm img out) = arrSum img := by
  rw [arrSum_eq]
  simp only [renorm_get, renorm_s0, renorm_s1, mul_div_assoc, ← sum_mul]
  rw [← arrSum_eq, mul_div_cancel₀ _ h]

theorem renormZ_get_of_sum_eq (img out : Arr ℝ) (h : arrSum out = arrSum img) (i j : ℤ) :
    (renormZ img out).get i j = out.get i j := by
  unfold renormZ
  split_ifs with h0
  · rfl
  · rw [renorm_get, ← h, mul_div_assoc, div_self h0, mul_one]

theorem renormZ_nonneg (img out : Arr ℝ) (hS : 0 ≤ arrSum img) (hout : ∀ i j, 0 ≤ out.get i j) (i j : ℤ) :
    0 ≤ (renormZ img out).get i j := by
  unfold renormZ
  split_ifs
  · exact hout i j
  · exact div_nonneg (mul_nonneg (hout i j) hS) (by rw [arrSum_eq]; exact sum_nonneg fun i _ => sum_nonneg fun j _ => hout i j)

theorem renormZ_roll (img out : Arr ℝ) (m n : ℕ) (hm : img.s0 = m) (hn : img.s1 = n) (hm' : out.s0 = m) (hn' : out.s1 = n)
    (a b : ℤ) : renormZ (roll img a b) (roll out a b) = roll (renormZ img out) a b := by
  unfold renormZ
  rw [arrSum_roll out m n hm' hn']
  split_ifs
  · rfl
  · simp only [renorm, arrSum_roll img m n hm hn, arrSum_roll out m n hm' hn']
    rfl

theorem arrSum_renormZ_blurCore (img k : Arr ℝ) (m n : ℕ) (hm : img.s0 = m) (hn : img.s1 = n) (hm0 : 0 < m) (hn0 : 0 < n)
    (hk : k.get 0 0 = 1) : arrSum (renormZ img (blurCore ℂ img k)) = arrSum img := by
  unfold renormZ
  split_ifs with h0
  · -- a vanishing blur total forces a vanishing image total
    have h := blurCore_total_ge img k m n hm hn hm0 hn0
    rw [hk, one_mul, h0] at h
    rw [h0, abs_nonpos_iff.mp h]
  · exact arrSum_renorm img _ h0

theorem renormZ_blurCore_roll (img k : Arr ℝ) (m n : ℕ) (hm : img.s0 = m) (hn : img.s1 = n) (a b : ℤ) :
    renormZ (roll img a b) (blurCore ℂ (roll img a b) k) = roll (renormZ img (blurCore ℂ img k)) a b := by
  rw [blurCore_roll img k m n hm hn,
    renormZ_roll img _ m n hm hn ((blurCore_s0 img k).trans hm) ((blurCore_s1 img k).trans hn)]

theorem renormZ_blurCore_one (img k : Arr ℝ) (hk : ∀ i j, k.get i j = 1) (m n : ℕ) (hm : img.s0 = m) (hn : img.s1 = n)
    (hpos : ∀ i j, 0 ≤ img.get i j) (i j : ℕ) (hi : i < m) (hj : j < n) :
    (renormZ img (blurCore ℂ img k)).get i j = img.get i j := by
  rw [renormZ_get_of_sum_eq, blurCore_one img k hk m n hm hn hpos i j hi hj]
  simp only [arrSum_eq, blurCore_s0, blurCore_s1, hm, hn, Int.toNat_natCast]
  exact sum_congr rfl fun i hi => sum_congr rfl fun j hj =>
    blurCore_one img k hk m n hm hn hpos i j (mem_range.mp hi) (mem_range.mp hj)

/-! ## the three blurs, as the source composes them (`Gen.bw…Renorm` regenerated from the `return` statements) -/

theorem pixel_def (img : Arr ℝ) (os : ℝ) : pixel ℂ img os = blurCore ℂ img (pixelKernel img.s0 img.s1 os) := by
  simp only [pixel, Gen.bwPixelRenorm, Bool.false_eq_true, if_false, Gen.bwPixelApply, stAbs, stIfft2, stFft2, stMul, blurCore]
theorem jitter_def (img : Arr ℝ) (scale ps os : ℝ) :
    jitter ℂ img scale ps os = renormZ img (blurCore ℂ img (jitterKernel img.s0 img.s1 scale ps os)) := by
  rw [← renormGuarded_true_eq]
  simp only [jitter, Gen.bwJitterRenorm, if_true, Gen.bwJitterApply, stAbs, stIfft2, stFft2, stMul, blurCore,
    Gen.bwJitterRenormGuard]
  rfl
theorem smear_def (img : Arr ℝ) (dist ang ps os : ℝ) :
    smear ℂ img dist ang ps os = renormZ img (blurCore ℂ img (smearKernel img.s0 img.s1 dist ang ps os)) := by
  rw [← renormGuarded_true_eq]
  simp only [smear, Gen.bwSmearRenorm, if_true, Gen.bwSmearApply, stAbs, stIfft2, stFft2, stMul, blurCore,
    Gen.bwSmearRenormGuard]
  rfl

/-! ## frequencies and the three transfer functions -/

theorem fftfreq_zero (n : ℤ) (hn : 1 ≤ n) : (fftfreq n 0 : ℝ) = 0 := by
  unfold fftfreq fftfreqIdx; rw [if_pos (by omega)]; simp [RealLike.ofInt]

/-- `2 * (u % n) = n`: the unpaired Nyquist sample of an even axis, its own mirror image -/
theorem fftfreqIdx_neg (n : ℕ) (hn : 0 < n) (u : ℤ) :
    (2 * (u % n) ≠ n → fftfreqIdx n ((-u) % n) = -fftfreqIdx n (u % n)) ∧ (2 * (u % n) = n → (-u) % n = u % n) := by
  have hw0 := Int.emod_nonneg u (Int.natCast_ne_zero.mpr hn.ne')
  have hw1 := Int.emod_lt_of_pos u (Int.natCast_pos.mpr hn)
  simp only [Int.neg_emod, Int.dvd_iff_emod_eq_zero, Int.natAbs_natCast, fftfreqIdx]
  constructor <;> intro h <;> split_ifs <;> omega

theorem fftfreq_neg (n : ℕ) (hn : 0 < n) (u : ℤ) (h : 2 * (u % n) ≠ n) : (fftfreq n ((-u) % n) : ℝ) = -fftfreq n (u % n) := by
  unfold fftfreq; rw [(fftfreqIdx_neg n hn u).1 h]; simp [RealLike.ofInt, neg_div]

theorem fftfreq_neg_or (n : ℕ) (hn : 0 < n) (u : ℤ) :
    (fftfreq n ((-u) % n) : ℝ) = -fftfreq n (u % n) ∨ (fftfreq n ((-u) % n) : ℝ) = fftfreq n (u % n) := by
  by_cases h : 2 * (u % n) = n
  · right; rw [(fftfreqIdx_neg n hn u).2 h]
  · left; exact fftfreq_neg n hn u h

theorem pixelKernel_get (s0 s1 : ℤ) (os : ℝ) (i j : ℤ) : (pixelKernel s0 s1 os).get i j
    = Real.sinc (Real.pi * ((fftfreq s0 i : ℝ) * os)) * Real.sinc (Real.pi * ((fftfreq s1 j : ℝ) * os)) := rfl

theorem jitterKernel_get (s0 s1 : ℤ) (scale ps os : ℝ) (i j : ℤ) : (jitterKernel s0 s1 scale ps os).get i j
    = Real.exp (-2 * Real.pi ^ 2 * (scale / ps * os) ^ 2 * ((fftfreq s1 j : ℝ) ^ 2 + (fftfreq s0 i : ℝ) ^ 2)) := by
  simp only [jitterKernel, Gen.bwJitterKernel, BlurLike.exp, BlurLike.pi, RealLike.sqrt, RealLike.ofInt]
  rw [mul_mul_mul_comm, Real.mul_self_sqrt (add_nonneg (mul_self_nonneg _) (mul_self_nonneg _))]
  congr 1; push_cast; ring

theorem smearKernel_get (s0 s1 : ℤ) (dist ang ps os : ℝ) (i j : ℤ) : (smearKernel s0 s1 dist ang ps os).get i j
    = Real.sinc (Real.pi * ((Real.sin (ang * (Real.pi / 180)) * (fftfreq s0 i : ℝ)
        + Real.cos (ang * (Real.pi / 180)) * (fftfreq s1 j : ℝ)) * (dist / ps * os))) := by
  simp only [smearKernel, Gen.bwSmearKernel, BlurLike.sinc, BlurLike.sin, BlurLike.cos, BlurLike.pi, RealLike.ofInt]
  congr 2; push_cast; ring

theorem jitterKernel_congr (s0 s1 : ℤ) {e ps os e' ps' os' : ℝ} (h : e / ps * os = e' / ps' * os') :
    jitterKernel s0 s1 e ps os = jitterKernel s0 s1 e' ps' os' :=
  Arr.ext_get rfl rfl fun i j => by rw [jitterKernel_get, jitterKernel_get, h]

theorem smearKernel_congr (s0 s1 : ℤ) (ang : ℝ) {e ps os e' ps' os' : ℝ} (h : e / ps * os = e' / ps' * os') :
    smearKernel s0 s1 e ang ps os = smearKernel s0 s1 e' ang ps' os' :=
  Arr.ext_get rfl rfl fun i j => by rw [smearKernel_get, smearKernel_get, h]

theorem pixelKernel_even (m n : ℕ) (hm : 0 < m) (hn : 0 < n) (os : ℝ) : KerEven (pixelKernel m n os) m n := by
  intro u v
  simp only [pixelKernel_get]
  rcases fftfreq_neg_or m hm u with h1 | h1 <;> rcases fftfreq_neg_or n hn v with h2 | h2 <;>
    simp only [h1, h2, neg_mul, mul_neg, Real.sinc_neg]

theorem jitterKernel_even (m n : ℕ) (hm : 0 < m) (hn : 0 < n) (scale ps os : ℝ) :
    KerEven (jitterKernel m n scale ps os) m n := by
  intro u v
  simp only [jitterKernel_get]
  rcases fftfreq_neg_or m hm u with h1 | h1 <;> rcases fftfreq_neg_or n hn v with h2 | h2 <;>
    simp only [h1, h2, neg_sq]

/-- a sinc of a linear form in both frequencies: on a Nyquist row or column only one of them changes sign -/
theorem smearKernel_even_off_nyquist (m n : ℕ) (hm : 0 < m) (hn : 0 < n) (dist ang ps os : ℝ) (u v : ℤ)
    (hu : 2 * (u % (m : ℤ)) ≠ m) (hv : 2 * (v % (n : ℤ)) ≠ n) :
    (smearKernel m n dist ang ps os).get ((-u) % m) ((-v) % n) = (smearKernel m n dist ang ps os).get (u % m) (v % n) := by
  simp only [smearKernel_get, fftfreq_neg m hm u hu, fftfreq_neg n hn v hv, mul_neg, ← neg_add, neg_mul, Real.sinc_neg]

end Lentil
