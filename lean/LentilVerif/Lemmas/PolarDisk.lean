import Mathlib.Analysis.SpecialFunctions.PolarCoord
import Mathlib.MeasureTheory.Integral.IntervalIntegral.Periodic
import Mathlib.MeasureTheory.Integral.Prod
/-! The area integral over the unit disk of a function given in polar form is the iterated polar integral (Mathlib's polar change of
variables + Fubini + periodicity in the angle). -/
open MeasureTheory Set Real
namespace Lentil

def unitDisk : Set (ℝ × ℝ) := {q | q.1 ^ 2 + q.2 ^ 2 < 1}

theorem polar_indicator (G : ℝ → ℝ → ℝ) (p : ℝ × ℝ) (hp : p ∈ polarCoord.target) :
    p.1 • (unitDisk.indicator (fun q => G (polarCoord q).1 (polarCoord q).2) (polarCoord.symm p))
      = (Ioo (0 : ℝ) 1 ×ˢ Ioo (-π) π).indicator (fun p => p.1 * G p.1 p.2) p := by
  have hr : 0 < p.1 := hp.1
  have hmem : polarCoord.symm p ∈ unitDisk ↔ p.1 < 1 := by
    simp only [unitDisk, polarCoord_symm_apply, mem_ofPred_eq, mul_pow, ← mul_add, Real.cos_sq_add_sin_sq, mul_one]
    exact sq_lt_one_iff₀ hr.le
  by_cases h1 : p.1 < 1
  · rw [indicator_of_mem (hmem.2 h1), indicator_of_mem (show p ∈ Ioo (0 : ℝ) 1 ×ˢ Ioo (-π) π from ⟨⟨hr, h1⟩, hp.2⟩),
      polarCoord.right_inv hp, smul_eq_mul]
  · rw [indicator_of_notMem (fun h => h1 (hmem.1 h)), indicator_of_notMem (fun h => h1 h.1.2), smul_zero]

theorem disk_integral_polar (G : ℝ → ℝ → ℝ) :
    ∫ q in unitDisk, G (polarCoord q).1 (polarCoord q).2 = ∫ p in Ioo (0 : ℝ) 1 ×ˢ Ioo (-π) π, p.1 * G p.1 p.2 := by
  have hmeas : MeasurableSet unitDisk := by
    unfold unitDisk
    exact measurableSet_lt (by fun_prop) measurable_const
  rw [← integral_indicator hmeas, ← integral_comp_polarCoord_symm]
  have hmeas2 : MeasurableSet (Ioo (0 : ℝ) 1 ×ˢ Ioo (-π) π) := measurableSet_Ioo.prod measurableSet_Ioo
  rw [← integral_indicator hmeas2]
  have hsub : Ioo (0 : ℝ) 1 ×ˢ Ioo (-π) π ⊆ polarCoord.target := fun p hp => ⟨hp.1.1, hp.2⟩
  rw [← integral_indicator polarCoord.open_target.measurableSet]
  congr 1
  funext p
  by_cases hp : p ∈ polarCoord.target
  · rw [indicator_of_mem hp, polar_indicator G p hp]
  · rw [indicator_of_notMem hp, indicator_of_notMem (fun h => hp (hsub h))]

theorem polar_rect_iterated (G : ℝ → ℝ → ℝ) (hG : Continuous (fun p : ℝ × ℝ => G p.1 p.2)) :
    ∫ p in Ioo (0 : ℝ) 1 ×ˢ Ioo (-π) π, p.1 * G p.1 p.2 = ∫ θ in (-π)..π, ∫ ρ in (0 : ℝ)..1, G ρ θ * ρ := by
  have hcont : Continuous (fun p : ℝ × ℝ => p.1 * G p.1 p.2) := continuous_fst.mul hG
  rw [Measure.volume_eq_prod, ← setIntegral_prod_swap, setIntegral_prod]
  · rw [intervalIntegral.integral_of_le (by linarith [Real.pi_pos]), integral_Ioc_eq_integral_Ioo]
    apply setIntegral_congr_fun measurableSet_Ioo
    intro θ _
    simp only [Prod.swap_prod_mk]
    rw [intervalIntegral.integral_of_le zero_le_one, integral_Ioc_eq_integral_Ioo]
    apply setIntegral_congr_fun measurableSet_Ioo
    intro ρ _
    simp only [mul_comm]
  · exact ((hcont.comp continuous_swap).continuousOn.integrableOn_compact (isCompact_Icc.prod isCompact_Icc)).mono_set
      (prod_mono Ioo_subset_Icc_self Ioo_subset_Icc_self)

theorem disk_integral_eq_iterated (G : ℝ → ℝ → ℝ) (hG : Continuous (fun p : ℝ × ℝ => G p.1 p.2))
    (hper : ∀ ρ, Function.Periodic (G ρ) (2 * π)) :
    ∫ q in unitDisk, G (polarCoord q).1 (polarCoord q).2 = ∫ θ in (0 : ℝ)..(2 * π), ∫ ρ in (0 : ℝ)..1, G ρ θ * ρ := by
  rw [disk_integral_polar, polar_rect_iterated G hG]
  have hH : Function.Periodic (fun θ => ∫ ρ in (0 : ℝ)..1, G ρ θ * ρ) (2 * π) := by
    intro θ; simp only; congr 1; funext ρ; rw [hper ρ θ]
  have := hH.intervalIntegral_add_eq (-π) 0
  rw [show -π + 2 * π = π by ring, zero_add] at this
  exact this

end Lentil
