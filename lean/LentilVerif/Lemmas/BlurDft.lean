import LentilVerif.Lemmas.Fourier
import LentilVerif.Model.Blur
/-! `np.fft.fft2` / `np.fft.ifft2` of the blur model (Model/Blur.lean: the shared `dft2` with the centring cancelled) at `K = ℂ`,
`R = ℝ`. Both are values of one sum, `dsum m n s`: the plain two-axis DFT with a sign `s = ±1` in the exponent (`fft2_get`,
`ifft2_get`), and the Fourier analysis the blurs need is proved once for `dsum`, for either sign. Only inversion needs `0 < m`,
`0 < n`, and has it from `i < m`, `j < n`: `E n` sees its argument modulo `n` also for `n = 0`. -/
open Finset
namespace Lentil
open ComplexConjugate

/-- `ker` at the arguments `fft2` passes it: offset `⌊n/2⌋` and shift `-⌊n/2⌋` cancel -/
theorem ker_plain (n : ℕ) (a k : ℤ) : ker (1 / n) n n ((n : ℤ) / 2) (-(((n : ℤ) / 2 : ℤ) : ℝ)) a k = E n (a * k) := by
  rw [← Int.cast_neg, ker_eq_E]
  refine congrArg _ ?_
  unfold cc
  ring

theorem sum_E_orth (n : ℕ) (s : ℤ) (hs : s = 1 ∨ s = -1) (a i : ℕ) (ha : a < n) (hi : i < n) :
    ∑ u ∈ range n, E n (s * (a * u)) * E n (-s * (u * i)) = if a = i then (n : ℂ) else 0 := by
  have key : ∀ a < n, ∀ i < n, ∑ u ∈ range n, E n (a * u) * E n (-(i * u)) = if a = i then (n : ℂ) else 0 := by
    intro a ha i hi
    simpa only [ker_plain, conj_E] using
      orth_ker n n (Nat.zero_lt_of_lt ha) le_rfl n ((n : ℤ) / 2) (-(((n : ℤ) / 2 : ℤ) : ℝ)) a ha i hi
  rcases hs with rfl | rfl
  · rw [← key a ha i hi]
    exact sum_congr rfl fun u _ => by congr 2 <;> ring
  · rw [if_congr eq_comm rfl rfl, ← key i hi a ha]
    exact sum_congr rfl fun u _ => by rw [mul_comm]; congr 2 <;> ring

/-- `∑ a < m, ∑ b < n, exp(-2πi·s·a·k/m) · exp(-2πi·s·b·l/n) · f a b`: `np.fft.fft2` for `s = 1`, `m·n·np.fft.ifft2` for `s = -1` -/
noncomputable def dsum (m n : ℕ) (s : ℤ) (f : ℤ → ℤ → ℂ) (k l : ℤ) : ℂ :=
  ∑ a ∈ range m, ∑ b ∈ range n, E m (s * (a * k)) * E n (s * (b * l)) * f a b

theorem dsum_zero (m n : ℕ) (s : ℤ) (f : ℤ → ℤ → ℂ) : dsum m n s f 0 0 = ∑ a ∈ range m, ∑ b ∈ range n, f a b := by
  simp only [dsum, mul_zero, E_zero, one_mul]

theorem dsum_congr (m n : ℕ) (s : ℤ) (f g : ℤ → ℤ → ℂ) (h : ∀ a ∈ range m, ∀ b ∈ range n, f a b = g a b) (k l : ℤ) :
    dsum m n s f k l = dsum m n s g k l :=
  sum_congr rfl fun a ha => sum_congr rfl fun b hb => by rw [h a ha b hb]

theorem dsum_add (m n : ℕ) (s : ℤ) (f g : ℤ → ℤ → ℂ) (k l : ℤ) :
    dsum m n s (fun a b => f a b + g a b) k l = dsum m n s f k l + dsum m n s g k l := by
  simp only [dsum, mul_add, sum_add_distrib]

theorem norm_dsum_le (m n : ℕ) (s : ℤ) (f : ℤ → ℤ → ℂ) (k l : ℤ) :
    ‖dsum m n s f k l‖ ≤ ∑ a ∈ range m, ∑ b ∈ range n, ‖f a b‖ :=
  (norm_sum_le _ _).trans (sum_le_sum fun a _ => (norm_sum_le _ _).trans (sum_le_sum fun b _ => by
    rw [norm_mul, norm_mul, norm_E, norm_E, one_mul, one_mul]))

theorem conj_dsum (m n : ℕ) (s : ℤ) (f : ℤ → ℤ → ℂ) (k l : ℤ) :
    conj (dsum m n s f k l) = dsum m n (-s) (fun a b => conj (f a b)) k l := by
  simp only [dsum, map_sum, map_mul, conj_E, neg_mul]

theorem conj_dsum_ofReal (m n : ℕ) (s : ℤ) (g : ℤ → ℤ → ℝ) (k l : ℤ) :
    conj (dsum m n s (fun a b => (g a b : ℂ)) k l) = dsum m n s (fun a b => (g a b : ℂ)) ((-k) % m) ((-l) % n) := by
  rw [conj_dsum]
  simp only [Complex.conj_ofReal, dsum, E_emod_right, mul_neg, neg_mul]

theorem dsum_reflect (m n : ℕ) (s : ℤ) (f : ℤ → ℤ → ℂ) (k l : ℤ) :
    dsum m n s (fun a b => f ((-a) % m) ((-b) % n)) k l = dsum m n (-s) f k l := by
  unfold dsum
  rw [← sum_neg2 m n (fun a b => E m (-s * (a * k)) * E n (-s * (b * l)) * f a b)]
  refine sum_congr rfl fun a _ => sum_congr rfl fun b _ => ?_
  rw [E_emod_left, E_emod_left]
  congr 3 <;> ring

theorem dsum_roll (m n : ℕ) (s : ℤ) (f : ℤ → ℤ → ℂ) (p q k l : ℤ) :
    dsum m n s (fun a b => f ((a - p) % m) ((b - q) % n)) k l = E m (s * (p * k)) * E n (s * (q * l)) * dsum m n s f k l := by
  have key : ∀ (n : ℕ) (a p k : ℤ), E n (s * (a * k)) = E n (s * (p * k)) * E n (s * ((a - p) % n * k)) := fun n a p k => by
    rw [E_emod_left, ← E_add]; congr 1; ring
  unfold dsum
  simp only [mul_sum]
  rw [← sum_roll2 m n (fun a b => E m (s * (p * k)) * E n (s * (q * l)) * (E m (s * (a * k)) * E n (s * (b * l)) * f a b)) p q]
  refine sum_congr rfl fun a _ => sum_congr rfl fun b _ => ?_
  rw [key m a p k, key n b q l]; ring

theorem dsum_mod (m n : ℕ) (s : ℤ) (f : ℤ → ℤ → ℂ) (p q k l : ℤ) :
    dsum m n s (fun a b => E m (-s * (p * a)) * E n (-s * (q * b)) * f a b) k l = dsum m n s f ((k - p) % m) ((l - q) % n) := by
  have key : ∀ (n : ℕ) (a p k : ℤ), E n (s * (a * ((k - p) % n))) = E n (s * (a * k)) * E n (-s * (p * a)) := fun n a p k => by
    rw [E_emod_right, ← E_add]; congr 1; ring
  unfold dsum
  refine sum_congr rfl fun a _ => sum_congr rfl fun b _ => ?_
  rw [key m a p k, key n b q l]; ring

theorem dsum_inv (m n : ℕ) (s : ℤ) (hs : s = 1 ∨ s = -1) (f : ℤ → ℤ → ℂ) (i j : ℕ)
    (hi : i < m) (hj : j < n) : dsum m n (-s) (dsum m n s f) i j = m * n * f i j := by
  unfold dsum
  simp only [mul_sum]
  rw [sum4_comm]
  have h : ∀ a ∈ range m, ∀ b ∈ range n,
      ∑ u ∈ range m, ∑ v ∈ range n, E m (-s * (u * i)) * E n (-s * (v * j)) * (E m (s * (a * u)) * E n (s * (b * v)) * f a b)
        = (if a = i then (m : ℂ) else 0) * (if b = j then (n : ℂ) else 0) * f a b := by
    intro a ha b hb
    rw [← sum_E_orth m s hs a i (mem_range.mp ha) hi, ← sum_E_orth n s hs b j (mem_range.mp hb) hj, sum_mul_sum, sum_mul]
    exact sum_congr rfl fun u _ => by rw [sum_mul]; exact sum_congr rfl fun v _ => by ring
  rw [sum_congr rfl fun a ha => sum_congr rfl fun b hb => h a ha b hb]
  simp [ite_mul, sum_ite_eq', hi, hj]

/-! ## `np.fft.fft2` / `ifft2` of the model as DFT sums -/

@[simp] theorem fft2_s0 (x : Arr ℂ) : (fft2 (R := ℝ) x).s0 = x.s0 := rfl
@[simp] theorem fft2_s1 (x : Arr ℂ) : (fft2 (R := ℝ) x).s1 = x.s1 := rfl

theorem fft2_get (x : Arr ℂ) (m n : ℕ) (hm : x.s0 = m) (hn : x.s1 = n) (k l : ℤ) :
    (fft2 (R := ℝ) x).get k l = dsum m n 1 x.get k l := by
  unfold fft2
  rw [dft2_get_eq]
  simp only [dft2Sum, hm, hn, RealLike.ofInt, Int.toNat_natCast, Bool.false_eq_true, if_false, one_mul, Int.cast_one,
    Int.cast_natCast, ker_plain]
  rw [dsum, sum_comm]
  refine sum_congr rfl fun b _ => ?_
  rw [sum_mul]
  exact sum_congr rfl fun a _ => by rw [one_mul, one_mul]; ring

theorem ifft2_get (X : Arr ℂ) (m n : ℕ) (hm : X.s0 = m) (hn : X.s1 = n) (i j : ℤ) :
    (ifft2 (R := ℝ) X).get i j = dsum m n (-1) X.get i j / ((m : ℂ) * n) := by
  unfold ifft2
  simp only [CxLike.divInt, CxLike.conj]
  rw [fft2_get ⟨X.s0, X.s1, fun i j => conj (X.get i j)⟩ m n hm hn, conj_dsum]
  simp only [Complex.conj_conj, hm, hn]
  push_cast
  rfl

end Lentil
