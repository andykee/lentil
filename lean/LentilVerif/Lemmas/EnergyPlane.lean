import LentilVerif.Lemmas.Energy
import LentilVerif.Lemmas.ChainExtents
import LentilVerif.Props.C02
import LentilVerif.Props.C07
import LentilVerif.Props.C09
/-! C05 over the propagation models. `fieldAtR`, the sum over the fields of C02's `fraunhoferAt`, is the wavefront's far field at a
real plane coordinate. Fields that lie on a canvas transform like the wavefront's total field on it, whose energy over one period of a
commensurate sampling — started at any real coordinate — is the input power (`dft2_energy`). The samples of `propagateField` and of
`propagate_fft` (C09) are values of `fieldAtR` (a tilt only moves the coordinate, or equivalently multiplies the input by a phase
ramp), so each propagator's energy statement is the period energy read at the samples it holds. -/
open Finset
namespace Lentil

/-! ## the far field of a wavefront -/

/-- proof device, not a model: neither run by a driver op nor generated, and no theorem of Props/C05 mentions it. The field a
window of `M × N` output samples whose first sample has integer frequency coordinate `(U0, V0)` would hold for untilted fields
(each field transformed by `dft2(…, shape=(M,N), shift=-(U0+⌊M/2⌋), offset=field.offset, unitary=True)`, coincident fields
summed). Its one-sample instance defines `fieldAt`. -/
noncomputable def propagateWindow (fs : List (Fld ℂ)) (αr αc : ℝ) (M N U0 V0 : ℤ) : Arr ℂ :=
  { s0 := M, s1 := N,
    get := fun u v => sumList fs fun f =>
      (dft2 f.arr αr αc M N (-(RealLike.ofInt (U0 + M / 2))) (-(RealLike.ofInt (V0 + N / 2))) f.o0 f.o1 true).get u v }

/-- the field at integer frequency coordinate `(U, V)`: the one-sample window there -/
noncomputable def fieldAt (fs : List (Fld ℂ)) (αr αc : ℝ) (U V : ℤ) : ℂ :=
  (propagateWindow fs αr αc 1 1 U V).get 0 0

theorem window_selects (fs : List (Fld ℂ)) (αr αc : ℝ) (M N U0 V0 u v : ℤ) :
    (propagateWindow fs αr αc M N U0 V0).get u v = fieldAt fs αr αc (U0 + u) (V0 + v) := by
  -- the kernel sees `(M, u, shift)` only through the real output coordinate `cc M u - shift`
  have h : ∀ M U0 u : ℤ, (RealLike.ofInt (cc M u) : ℝ) - -RealLike.ofInt (U0 + M / 2) = ((U0 + u : ℤ) : ℝ) := by
    intro M U0 u; simp only [RealLike.ofInt, cc]; push_cast; ring
  simp only [fieldAt, propagateWindow, dft2, dftKernel, h, add_zero]

/-- the wavefront's far field at a real plane coordinate: sum over the fields of C02's `fraunhoferAt` -/
noncomputable def fieldAtR (fs : List (Fld ℂ)) (αr αc pr pc : ℝ) : ℂ := (fs.map fun f => fraunhoferAt f αr αc pr pc).sum

theorem fieldAtR_singleton (f : Fld ℂ) (αr αc pr pc : ℝ) : fieldAtR [f] αr αc pr pc = fraunhoferAt f αr αc pr pc := by
  simp only [fieldAtR, List.map_singleton, List.sum_singleton]

theorem fieldAt_eq_fieldAtR (fs : List (Fld ℂ)) (αr αc : ℝ) (U V : ℤ) : fieldAt fs αr αc U V = fieldAtR fs αr αc U V := by
  simp only [fieldAt, propagateWindow, sumList_eq_sum, fieldAtR, fraunhoferAt, RealLike.ofInt, Int.reduceDiv, add_zero]

/-! ## several fields = the wavefront's total field on a canvas -/

/-- a field lies on an `S0 × S1` canvas whose origin is at index `⌊S/2⌋` -/
def Fits (f : Fld ℂ) (S0 S1 : ℕ) : Prop :=
  ∃ m n : ℕ, f.arr.s0 = m ∧ f.arr.s1 = n ∧
    (0 ≤ (S0 : ℤ) / 2 - (m : ℤ) / 2 + f.o0 ∧ (S0 : ℤ) / 2 - (m : ℤ) / 2 + f.o0 + m ≤ S0) ∧
    (0 ≤ (S1 : ℤ) / 2 - (n : ℤ) / 2 + f.o1 ∧ (S1 : ℤ) / 2 - (n : ℤ) / 2 + f.o1 + n ≤ S1)

/-- the wavefront's total field on the canvas, as one field at offset 0 -/
def canvasFld (fs : List (Fld ℂ)) (S0 S1 : ℕ) : Fld ℂ := ⟨embedAll fs S0 S1, 0, 0⟩

theorem fits_of_within (f : Fld ℂ) (W0 W1 : ℕ) (hpos : 0 < f.arr.s0 ∧ 0 < f.arr.s1) (hw : f.within W0 W1) : Fits f W0 W1 := by
  obtain ⟨m, hm⟩ := Int.eq_ofNat_of_zero_le hpos.1.le
  obtain ⟨n, hn⟩ := Int.eq_ofNat_of_zero_le hpos.2.le
  simp only [Fld.within, Fld.extent, arrayExtent_eq, hm, hn] at hw
  exact ⟨m, n, hm, hn, by omega, by omega⟩

theorem fieldAtR_eq_canvas (fs : List (Fld ℂ)) (S0 S1 : ℕ) (hfit : ∀ f ∈ fs, Fits f S0 S1) (αr αc pr pc : ℝ) :
    fieldAtR fs αr αc pr pc = fraunhoferAt (canvasFld fs S0 S1) αr αc pr pc := by
  refine (dft2_eq_sum_of_emb (embedAll fs S0 S1) ⟨Int.natCast_nonneg S0, Int.natCast_nonneg S1⟩ fs (fun f hf => ?_)
    (emb_eq_sum_of_get _ S0 S1 ⟨rfl, rfl⟩ fs (fun f hf => ?_) fun i j _ _ => sumList_eq_sum ..) αr αc 1 1 _ _ true 0 0).symm
  · obtain ⟨m, n, hm, hn, -⟩ := hfit f hf
    exact ⟨hm ▸ Int.natCast_nonneg m, hn ▸ Int.natCast_nonneg n⟩
  · obtain ⟨m, n, hm, hn, hr, hc⟩ := hfit f hf
    simp only [Fld.within, Fld.extent, arrayExtent_eq, hm, hn]
    omega

/-! ## energy over one period -/

theorem fraunhoferAt_shift (f : Fld ℂ) (αr αc : ℝ) (M N : ℤ) (p q : ℝ) (u v : ℤ) :
    fraunhoferAt f αr αc (p + u) (q + v)
      = (dft2 f.arr αr αc M N (-(p + (M / 2 : ℤ))) (-(q + (N / 2 : ℤ))) f.o0 f.o1 true).get u v := by
  rw [dft2_get_eq_fraunhoferAt (fun _ => rfl)]
  congr 1 <;> (simp only [RealLike.ofInt, cc]; push_cast; ring)

theorem fraunhoferAt_period_energy (f : Fld ℂ) (m n : ℕ) (hm : f.arr.s0 = m) (hn : f.arr.s1 = n) (K L : ℕ) (hK : 0 < K) (hL : 0 < L)
    (hmK : m ≤ K) (hnL : n ≤ L) (p q : ℝ) :
    ∑ u ∈ range K, ∑ v ∈ range L, Complex.normSq (fraunhoferAt f (1 / (K : ℝ)) (1 / (L : ℝ)) (p + (u : ℤ)) (q + (v : ℤ)))
      = arrSum (intensity (R := ℝ) f.arr) := by
  simp only [fraunhoferAt_shift f _ _ K L]
  rw [arrSum_intensity, hm, hn, dft2_energy f.arr m n hm hn K L hK hL hmK hnL]
  simp only [Int.toNat_natCast]

theorem fieldAtR_period_energy (fs : List (Fld ℂ)) (S0 S1 K L : ℕ) (hfit : ∀ f ∈ fs, Fits f S0 S1) (hK : 0 < K) (hL : 0 < L)
    (hS0 : S0 ≤ K) (hS1 : S1 ≤ L) (p q : ℝ) :
    ∑ u ∈ range K, ∑ v ∈ range L, Complex.normSq (fieldAtR fs (1 / (K : ℝ)) (1 / (L : ℝ)) (p + (u : ℤ)) (q + (v : ℤ)))
      = arrSum (intensity (R := ℝ) (embedAll fs S0 S1)) := by
  simp only [fieldAtR_eq_canvas fs S0 S1 hfit]
  exact fraunhoferAt_period_energy (canvasFld fs S0 S1) S0 S1 rfl rfl K L hK hL hS0 hS1 p q

/-- the full period of a commensurate sampling as a set of integer frequency coordinates -/
noncomputable def periodBox (K L : ℕ) : Finset (ℤ × ℤ) :=
  Finset.Ico (-((K : ℤ) / 2)) (-((K : ℤ) / 2) + K) ×ˢ Finset.Ico (-((L : ℤ) / 2)) (-((L : ℤ) / 2) + L)

theorem sum_periodBox {A : Type*} [AddCommMonoid A] (g : ℤ → ℤ → A) (K L : ℕ) :
    ∑ p ∈ periodBox K L, g p.1 p.2 = ∑ u ∈ range K, ∑ v ∈ range L, g (-((K : ℤ) / 2) + u) (-((L : ℤ) / 2) + v) := by
  rw [periodBox, Finset.sum_product, ← sum_range_add_eq_Ico]
  exact sum_congr rfl fun u _ => (sum_range_add_eq_Ico _ L _).symm

theorem periodBox_mono {s0 s1 K L : ℕ} (h0 : s0 ≤ K) (h1 : s1 ≤ L) : periodBox s0 s1 ⊆ periodBox K L :=
  have axis : ∀ {s K : ℕ}, s ≤ K → Finset.Ico (-((s : ℤ) / 2)) (-((s : ℤ) / 2) + s) ⊆ Finset.Ico (-((K : ℤ) / 2)) (-((K : ℤ) / 2) + K) :=
    fun h => Finset.Ico_subset_Ico (by omega) (by omega)
  Finset.product_subset_product (axis h0) (axis h1)

theorem fieldAt_period_energy (fs : List (Fld ℂ)) (S0 S1 K L : ℕ) (hfit : ∀ f ∈ fs, Fits f S0 S1) (hK : 0 < K) (hL : 0 < L)
    (hS0 : S0 ≤ K) (hS1 : S1 ≤ L) :
    ∑ p ∈ periodBox K L, Complex.normSq (fieldAt fs (1 / (K : ℝ)) (1 / (L : ℝ)) p.1 p.2)
      = arrSum (intensity (R := ℝ) (embedAll fs S0 S1)) := by
  rw [sum_periodBox fun U V => Complex.normSq (fieldAt fs (1 / (K : ℝ)) (1 / (L : ℝ)) U V),
    ← fieldAtR_period_energy fs S0 S1 K L hfit hK hL hS0 hS1 ((-((K : ℤ) / 2) : ℤ) : ℝ) ((-((L : ℤ) / 2) : ℤ) : ℝ)]
  simp only [fieldAt_eq_fieldAtR, Int.cast_add]

theorem fieldAt_energy_le (fs : List (Fld ℂ)) (S0 S1 K L : ℕ) (hfit : ∀ f ∈ fs, Fits f S0 S1) (hK : 0 < K) (hL : 0 < L)
    (hS0 : S0 ≤ K) (hS1 : S1 ≤ L) (B : Finset (ℤ × ℤ)) (hB : B ⊆ periodBox K L) :
    ∑ p ∈ B, Complex.normSq (fieldAt fs (1 / (K : ℝ)) (1 / (L : ℝ)) p.1 p.2) ≤ arrSum (intensity (R := ℝ) (embedAll fs S0 S1)) :=
  fieldAt_period_energy fs S0 S1 K L hfit hK hL hS0 hS1 ▸ sum_le_sum_of_subset_of_nonneg hB fun _ _ _ => Complex.normSq_nonneg _

/-! ## the samples `propagate_dft` produces -/

theorem propagateField_sum_sample (fs : List (Fld ℂ)) (αr αc : ℝ) (fix0 fix1 : ℤ) (sub0 sub1 : ℝ) (oe : Extent) (P0 P1 : ℤ)
    (hoe : oe.rmin ≤ oe.rmax ∧ oe.cmin ≤ oe.cmax) (hP : 0 < P0 ∧ 0 < P1) (r c : ℤ) :
    (fs.map fun f => embO (propagateField (⟨f, fix0, fix1, sub0, sub1⟩ : TField ℂ ℝ) αr αc oe P0 P1) r c).sum
      = if oe.inb r c && (propExtent P0 P1 fix0 fix1).inb r c
        then fieldAtR fs αr αc (((r - fix0 : ℤ) : ℝ) - sub0) (((c - fix1 : ℤ) : ℝ) - sub1) else 0 := by
  simp only [C02.propagateField_sample (K := ℂ) (R := ℝ) (fun _ => rfl) _ αr αc oe P0 P1 hoe hP r c, RealLike.ofInt]
  split_ifs
  · rfl
  · simp

theorem propagate_dft_energy_eq (fs : List (Fld ℂ)) (S0 S1 K L : ℕ) (hfit : ∀ f ∈ fs, Fits f S0 S1) (hK : 0 < K) (hL : 0 < L)
    (hS0 : S0 ≤ K) (hS1 : S1 ≤ L) (oe : Extent) (P0 P1 : ℤ) (hoe : oe.rmin ≤ oe.rmax ∧ oe.cmin ≤ oe.cmax) (hP : 0 < P0 ∧ 0 < P1)
    (hcover : ∀ q ∈ periodBox K L, (oe.inb q.1 q.2 && (propExtent P0 P1 0 0).inb q.1 q.2) = true) :
    ∑ q ∈ periodBox K L, Complex.normSq
        ((fs.map fun f => embO (propagateField (⟨f, 0, 0, 0, 0⟩ : TField ℂ ℝ) (1 / (K : ℝ)) (1 / (L : ℝ)) oe P0 P1) q.1 q.2).sum)
      = arrSum (intensity (R := ℝ) (embedAll fs S0 S1)) := by
  rw [← fieldAt_period_energy fs S0 S1 K L hfit hK hL hS0 hS1]
  refine sum_congr rfl fun q hq => ?_
  rw [propagateField_sum_sample fs _ _ 0 0 0 0 oe P0 P1 hoe hP, hcover q hq, if_pos rfl, fieldAt_eq_fieldAtR]
  simp only [sub_zero]

/-- the integer part of the tilt moves the window, the sub-pixel part the coordinate -/
theorem propagateField_sum_displaced (fs : List (Fld ℂ)) (αr αc : ℝ) (K L : ℕ) (fix0 fix1 : ℤ)
    (sub0 sub1 : ℝ) (oe : Extent) (hoe : oe.rmin ≤ oe.rmax ∧ oe.cmin ≤ oe.cmax)
    (hcover : ∀ r c, (propExtent K L fix0 fix1).inb r c = true → oe.inb r c = true) (u v : ℕ) (hu : u < K) (hv : v < L) :
    (fs.map fun f => embO (propagateField (⟨f, fix0, fix1, sub0, sub1⟩ : TField ℂ ℝ) αr αc oe K L)
        (-((K : ℤ) / 2) + fix0 + u) (-((L : ℤ) / 2) + fix1 + v)).sum
      = fieldAtR fs αr αc (((-((K : ℤ) / 2) : ℤ) : ℝ) - sub0 + (u : ℤ)) (((-((L : ℤ) / 2) : ℤ) : ℝ) - sub1 + (v : ℤ)) := by
  have hin : (propExtent (K : ℤ) (L : ℤ) fix0 fix1).inb (-((K : ℤ) / 2) + fix0 + u) (-((L : ℤ) / 2) + fix1 + v) = true :=
    (C02.prop_window ..).mpr (by omega)
  rw [propagateField_sum_sample fs αr αc fix0 fix1 sub0 sub1 oe K L hoe
    ⟨Int.natCast_pos.mpr (Nat.zero_lt_of_lt hu), Int.natCast_pos.mpr (Nat.zero_lt_of_lt hv)⟩,
    hcover _ _ hin, hin, Bool.and_self, if_pos rfl]
  congr 1 <;> (push_cast; ring)

/-! ## a tilt as a phase ramp on the input -/

/-- a field multiplied by the phase ramp of a tilt shift `(s0, s1)` (in output samples) at sampling `(αr, αc)` -/
noncomputable def rampFld (f : Fld ℂ) (αr αc s0 s1 : ℝ) : Fld ℂ :=
  ⟨⟨f.arr.s0, f.arr.s1, fun x y => f.arr.get x y *
      Complex.exp ((2 * Real.pi * Complex.I) * ((αr * ((cc f.arr.s0 x + f.o0 : ℤ) : ℝ) * s0 + αc * ((cc f.arr.s1 y + f.o1 : ℤ) : ℝ) * s1 : ℝ) : ℂ))⟩,
    f.o0, f.o1⟩

theorem fraunhoferAt_ramp (f : Fld ℂ) (αr αc s0 s1 pr pc : ℝ) :
    fraunhoferAt f αr αc (pr - s0) (pc - s1) = fraunhoferAt (rampFld f αr αc s0 s1) αr αc pr pc := by
  simp only [fraunhoferAt, rampFld, dft2_get_eq, dft2Sum, neg_sub', sub_neg_eq_add, ker_add_shift, sum_mul]
  refine congrArg _ (sum_congr rfl fun y _ => sum_congr rfl fun x _ => ?_)
  rw [Complex.ofReal_add, mul_add, Complex.exp_add]
  unfold ramp
  ring

theorem propagateField_sum_ramp (ts : List (TField ℂ ℝ)) (αr αc : ℝ) (oe : Extent) (P0 P1 : ℤ)
    (hoe : oe.rmin ≤ oe.rmax ∧ oe.cmin ≤ oe.cmax) (hP : 0 < P0 ∧ 0 < P1) (r c : ℤ)
    (hin : ∀ t ∈ ts, (oe.inb r c && (propExtent P0 P1 t.fix0 t.fix1).inb r c) = true) :
    (ts.map fun t => embO (propagateField t αr αc oe P0 P1) r c).sum
      = fieldAtR (ts.map fun t => rampFld t.fld αr αc ((t.fix0 : ℝ) + t.sub0) ((t.fix1 : ℝ) + t.sub1)) αr αc r c := by
  rw [fieldAtR, List.map_map]
  refine congrArg _ (List.map_congr_left fun t ht => ?_)
  rw [C02.propagateField_sample (K := ℂ) (R := ℝ) (fun _ => rfl) t _ _ oe P0 P1 hoe hP, hin t ht, if_pos rfl, Function.comp,
    ← fraunhoferAt_ramp]
  simp only [RealLike.ofInt]
  congr 1 <;> push_cast <;> ring

/-! ## what a pupil puts on the fresh wavefront -/

/-- the fresh wavefront: one field holding the scalar 1 at offset 0 -/
def unitField : Fld ℂ := ⟨⟨1, 1, fun _ _ => 1⟩, 0, 0⟩

theorem pupil_fields_on_canvas (wl : ℝ) (amp : Attr ℂ) (opd : Attr ℝ) (S0 S1 : ℕ) (g : Seg) (hc : g.covers S0 S1)
    (hbig : g.s.r0 < g.s.r1 ∧ g.s.c0 < g.s.c1 ∧ ¬ (g.s.r1 - g.s.r0 = 1 ∧ g.s.c1 - g.s.c0 = 1)) :
    ∀ f ∈ planeMultiply (planePh wl) ⟨amp, opd, .segs S0 S1 [g]⟩ [unitField], f.within S0 S1 ∧ 0 < f.arr.s0 ∧ 0 < f.arr.s1 := by
  obtain ⟨hd, hext⟩ := fresh_step_ok (planePh wl) unitField rfl ⟨amp, opd, .segs S0 S1 [g]⟩
    (List.forall_mem_singleton.mpr ⟨hc, hbig⟩)
  intro f hf
  have he : f.extent = segBox S0 S1 g := by
    have := List.mem_map_of_mem (f := Fld.extent) hf
    rw [hext] at this
    exact List.mem_singleton.mp this
  refine ⟨?_, hd.pos f hf⟩
  obtain ⟨h1, h2, h3, h4, _⟩ := hc
  simp only [Fld.within, he, arrayExtent_eq, segBox]
  omega

theorem normSq_planeExp (o wl : ℝ) : Complex.normSq (Complex.exp (2 * Real.pi * Complex.I * ((o : ℂ) / (wl : ℂ)))) = 1 := by
  rw [← Complex.ofReal_div, Complex.normSq_eq_norm_sq, Complex.norm_exp]
  simp [Complex.mul_re]

theorem pupil_input_power (wl : ℝ) (amp : Attr ℂ) (opd : Attr ℝ) (S0 S1 : ℕ) (g : Seg) (hc : g.covers S0 S1)
    (hbig : g.s.r0 < g.s.r1 ∧ g.s.c0 < g.s.c1 ∧ ¬ (g.s.r1 - g.s.r0 = 1 ∧ g.s.c1 - g.s.c0 = 1)) :
    arrSum (intensity (R := ℝ) (embedAll (planeMultiply (planePh wl) ⟨amp, opd, .segs S0 S1 [g]⟩ [unitField]) S0 S1))
      = ∑ i ∈ range S0, ∑ j ∈ range S1, (if g.m i j = true then Complex.normSq (amp.at i j) else 0) := by
  rw [arrSum_intensity]
  simp only [embedAll, Int.toNat_natCast]
  refine sum_congr rfl fun i hi => sum_congr rfl fun j hj => ?_
  have hi' := mem_range.mp hi
  have hj' := mem_range.mp hj
  have hsem : sumList [unitField] (fun f => f.sem ((i : ℤ) - (S0 : ℤ) / 2) ((j : ℤ) - (S1 : ℤ) / 2)) = 1 := by
    simp [sumList, Fld.sem, Fld.size1, unitField]
  rw [C07.plane_multiply_exp wl amp opd S0 S1 g hc hbig [unitField] (by simp [unitField]) _ _, hsem, one_mul, sub_add_cancel,
    sub_add_cancel]
  by_cases hm : g.m i j = true
  · rw [if_pos ⟨by omega, by omega, by omega, by omega, hm⟩, if_pos hm, Complex.normSq_mul, normSq_planeExp, mul_one]
  · rw [if_neg (fun h => hm h.2.2.2.2), if_neg hm, Complex.normSq_zero]

theorem masked_power (b : Arr ℂ) (S0 S1 : ℕ) (h0 : b.s0 = S0) (h1 : b.s1 = S1) (m : ℤ → ℤ → Bool)
    (hsupp : ∀ i j, m i j = false → b.get i j = 0) :
    ∑ i ∈ range S0, ∑ j ∈ range S1, (if m i j = true then Complex.normSq ((Attr.array b).at i j) else 0)
      = arrSum (intensity (R := ℝ) b) := by
  rw [arrSum_intensity, h0, h1]
  simp only [Int.toNat_natCast, Attr.at]
  refine sum_congr rfl fun i _ => sum_congr rfl fun j _ => ?_
  split_ifs with hm
  · rfl
  · rw [hsupp i j (by simpa using hm), map_zero]

/-! ## the samples `propagate_fft` returns -/

theorem propagate_fft_energy_cons (fs : List (Fld ℂ)) (W0 W1 : ℕ) (dx0 dx1 du0 du1 wl z : ℝ) (os : ℤ)
    (shape : Option (ℤ × ℤ)) (scratch : Option (Arr ℂ)) (lam : ℝ) (S0 S1 : ℤ) (so : ℤ × ℤ) (g : Fld ℂ)
    (h : propagateFft 1 fs false W0 W1 dx0 dx1 du0 du1 wl z os shape scratch = FftOut.ok lam S0 S1 so g)
    (hcons : dx0 * du0 = dx1 * du1 ∨ (S0 : ℝ) * (dx0 * du0) = (S1 : ℝ) * (dx1 * du1))
    (hp : dx0 * du0 ≠ 0) (hp1 : dx1 * du1 ≠ 0) (hz : z ≠ 0) (hos : 0 < os) (hS : 0 < S0 ∧ 0 < S1)
    (hW : (W0 : ℤ) ≤ S0 ∧ (W1 : ℤ) ≤ S1) (hfit : ∀ f ∈ fs, f.within W0 W1)
    (hpos : ∀ f ∈ fs, 0 < f.arr.s0 ∧ 0 < f.arr.s1) (hso : 0 < so.1 ∧ 0 < so.2) :
    ∑ i ∈ range so.1.toNat, ∑ j ∈ range so.2.toNat, Complex.normSq ((wavefrontField 1 [g] so.1 so.2).get i j)
      ≤ arrSum (intensity (R := ℝ) (embedAll fs W0 W1)) ∧
    (so = (S0, S1) →
      ∑ i ∈ range so.1.toNat, ∑ j ∈ range so.2.toNat, Complex.normSq ((wavefrontField 1 [g] so.1 so.2).get i j)
        = arrSum (intensity (R := ℝ) (embedAll fs W0 W1))) := by
  -- an accepted call samples at `α = (1/S0, 1/S1)` at the wavelength it reports and returns a shape inside its grid (C09)
  have hα := C09.ok_alpha_at_reported_wavelength (fun _ => rfl) (fun a => min_self a) h hcons hp hp1 hz (Int.cast_ne_zero.mpr hos.ne')
    hS.1 hS.2
  obtain ⟨hle0, hle1⟩ := propagateFft_ok_shape_le (fun _ => rfl) gt_real hos h
  obtain ⟨K, rfl⟩ := Int.eq_ofNat_of_zero_le hS.1.le
  obtain ⟨L, rfl⟩ := Int.eq_ofNat_of_zero_le hS.2.le
  obtain ⟨s0, s1⟩ := so
  obtain ⟨s0, rfl⟩ := Int.eq_ofNat_of_zero_le hso.1.le
  obtain ⟨s1, rfl⟩ := Int.eq_ofNat_of_zero_le hso.2.le
  simp only [Int.toNat_natCast] at hle0 hle1 hso ⊢
  -- every sample of the output is the field at its frequency coordinate (C09): the output is the centred `s0 × s1` crop of the plane
  have hsample : ∀ i ∈ range s0, ∀ j ∈ range s1, Complex.normSq ((wavefrontField 1 [g] s0 s1).get i j)
      = Complex.normSq (fieldAt fs (1 / (K : ℝ)) (1 / (L : ℝ)) (-((s0 : ℤ) / 2) + i) (-((s1 : ℤ) / 2) + j)) := by
    intro i hi j hj
    have hi' := mem_range.mp hi
    have hj' := mem_range.mp hj
    rw [C09.fft_sample_eq_fraunhoferAt fs W0 W1 dx0 dx1 du0 du1 wl z os shape scratch lam K L (s0, s1) g h hcons hp hp1 hz hos hS
      hW hfit hpos i j ⟨by omega, by omega⟩ ⟨by omega, by omega⟩, hα, fieldAt_eq_fieldAtR, neg_add_eq_sub, neg_add_eq_sub]
    rfl
  rw [sum_congr rfl fun i hi => sum_congr rfl (hsample i hi),
    ← sum_periodBox fun U V => Complex.normSq (fieldAt fs (1 / (K : ℝ)) (1 / (L : ℝ)) U V)]
  have hfits : ∀ f ∈ fs, Fits f W0 W1 := fun f hf => fits_of_within f W0 W1 (hpos f hf) (hfit f hf)
  refine ⟨fieldAt_energy_le fs W0 W1 K L hfits (by omega) (by omega) (by omega) (by omega) _
    (periodBox_mono (by omega) (by omega)), fun hfull => ?_⟩
  obtain ⟨rfl, rfl⟩ : s0 = K ∧ s1 = L := by simpa using hfull
  exact fieldAt_period_energy fs W0 W1 s0 s1 hfits (by omega) (by omega) (by omega) (by omega)

theorem propagate_fft_energy_aux (fs : List (Fld ℂ)) (W0 W1 : ℕ) (dx0 dx1 du0 du1 wl z : ℝ) (os : ℤ)
    (shape : Option (ℤ × ℤ)) (scratch : Option (Arr ℂ)) (lam : ℝ) (S0 S1 : ℤ) (so : ℤ × ℤ) (g : Fld ℂ)
    (h : propagateFft 1 fs false W0 W1 dx0 dx1 du0 du1 wl z os shape scratch = FftOut.ok lam S0 S1 so g)
    (hiso : dx0 * du0 = dx1 * du1) (hp : dx0 * du0 ≠ 0) (hz : z ≠ 0) (hos : 0 < os) (hS : 0 < S0 ∧ 0 < S1)
    (hW : (W0 : ℤ) ≤ S0 ∧ (W1 : ℤ) ≤ S1) (hfit : ∀ f ∈ fs, f.within W0 W1)
    (hpos : ∀ f ∈ fs, 0 < f.arr.s0 ∧ 0 < f.arr.s1) (hso : 0 < so.1 ∧ 0 < so.2) :
    ∑ i ∈ range so.1.toNat, ∑ j ∈ range so.2.toNat, Complex.normSq ((wavefrontField 1 [g] so.1 so.2).get i j)
      ≤ arrSum (intensity (R := ℝ) (embedAll fs W0 W1)) ∧
    (so = (S0, S1) →
      ∑ i ∈ range so.1.toNat, ∑ j ∈ range so.2.toNat, Complex.normSq ((wavefrontField 1 [g] so.1 so.2).get i j)
        = arrSum (intensity (R := ℝ) (embedAll fs W0 W1))) :=
  propagate_fft_energy_cons fs W0 W1 dx0 dx1 du0 du1 wl z os shape scratch lam S0 S1 so g h (Or.inl hiso) hp (hiso ▸ hp) hz hos hS hW
    hfit hpos hso

end Lentil
