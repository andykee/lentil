import LentilVerif.Model.Geometry
import Mathlib.Tactic.Ring
import Mathlib.Tactic.Linarith
import Mathlib.Algebra.Order.Field.Basic
/-! The shape model (`meshCoord`, `minK`, `clip01`, `absK`, `hexSide`, `rectangleAt`) and the hexagon sample as a fold of `min` over its six edge
profiles. Each part assumes what it uses: the mesh algebra a field, the fold of `min` a linear order, the symmetries of the hexagon (reindexings of the
edges) both but not their compatibility; only the bounds (`… ∈ [0, 1]`, `… = 1 ↔ …`) need the ordered field. -/
namespace Lentil
variable {K : Type}

theorem column_mirror_of_half_turn_and_row_mirror (g : Int → Int → K) (c0 c1 : Int)
    (hh : ∀ i j, g (2 * c0 - i) (2 * c1 - j) = g i j) (hr : ∀ i j, g (2 * c0 - i) j = g i j) (i j : Int) :
    g i (2 * c1 - j) = g i j := by
  have h := hh (2 * c0 - i) j
  rw [show 2 * c0 - (2 * c0 - i) = i by ring] at h
  rw [h, hr]

section
variable [Field K]

theorem meshCoord_shift (n i d : Int) (s : K) : meshCoord n i (s + (d : K)) = meshCoord n (i - d) s := by
  unfold meshCoord Gen.meshCoord; push_cast; ring

theorem meshCoord_half_turn (n i : Int) : meshCoord n (2 * (n / 2) - i) (0 : K) = -meshCoord n i (0 : K) := by
  unfold meshCoord Gen.meshCoord; push_cast; ring

theorem meshCoord_add_half (n d : Int) (s : K) : meshCoord n (n / 2 + d) s = (d : K) - s := by
  unfold meshCoord Gen.meshCoord; push_cast; ring

theorem meshCoord_congr {n i n' i' : Int} (h : i - n / 2 = i' - n' / 2) (s : K) : meshCoord n i s = meshCoord n' i' s := by
  unfold meshCoord Gen.meshCoord; rw [← Int.cast_sub, h, Int.cast_sub]

theorem meshRot_neg (a b ca sa : K) : Gen.meshRot (-a) (-b) ca sa = (-(Gen.meshRot a b ca sa).1, -(Gen.meshRot a b ca sa).2) := by
  unfold Gen.meshRot; ext <;> simp only <;> ring

theorem meshRot_unrotated (a b : K) : Gen.meshRot a b 1 0 = (a, b) := by
  unfold Gen.meshRot; ext <;> simp

theorem antipodal_mod {f : ℕ → K} (h : ∀ n, n < 3 → f (n + 3) = -f n) (n : ℕ) (hn : n < 6) : f ((n + 3) % 6) = -f n := by
  obtain hlt | hge := lt_or_ge n 3
  · rw [Nat.mod_eq_of_lt (by omega)]; exact h n hlt
  · obtain ⟨m, rfl⟩ : ∃ m, n = m + 3 := ⟨n - 3, by omega⟩
    rw [show (m + 3 + 3) % 6 = m by omega, h m (by omega), neg_neg]

end

section
variable [LinearOrder K]

theorem minK_eq_min (x y : K) : minK x y = min x y := (min_def_lt y x).symm.trans (min_comm y x)

/-- the fold is core's `List.min?` of `a :: l.map f`, whose lemmas give the two facts below -/
theorem foldl_min_eq_min? {ι : Type} (f : ι → K) (l : List ι) (a : K) :
    (a :: l.map f).min? = some (l.foldl (fun m n => min m (f n)) a) := by
  rw [List.min?_cons', List.foldl_map]

theorem le_foldl_min_iff {ι : Type} (f : ι → K) (l : List ι) (a x : K) :
    x ≤ l.foldl (fun m n => min m (f n)) a ↔ x ≤ a ∧ ∀ n ∈ l, x ≤ f n := by
  rw [List.le_min?_iff (foldl_min_eq_min? f l a), List.forall_mem_cons, List.forall_mem_map]

theorem foldl_min_mem {ι : Type} (f : ι → K) (l : List ι) (a : K) :
    l.foldl (fun m n => min m (f n)) a = a ∨ ∃ n ∈ l, l.foldl (fun m n => min m (f n)) a = f n := by
  have h := List.min?_mem (foldl_min_eq_min? f l a)
  rw [List.mem_cons, List.mem_map] at h
  exact h.imp_right fun ⟨n, hn, e⟩ => ⟨n, hn, e.symm⟩

end

variable [Field K] [LinearOrder K]

theorem binarise_mem {x : K} (h : 0 ≤ x ∧ x ≤ 1) : binarise x = 0 ∨ binarise x = 1 := by
  unfold binarise; split_ifs with g
  · exact Or.inr rfl
  · exact Or.inl (le_antisymm (not_lt.1 g) h.1)

theorem min_mem01 {x y : K} (hx : 0 ≤ x ∧ x ≤ 1) (hy : 0 ≤ y ∧ y ≤ 1) : 0 ≤ min x y ∧ min x y ≤ 1 :=
  ⟨le_min hx.1 hy.1, (min_le_left _ _).trans hx.2⟩

theorem hexSide_congr {half inner : K} {aa : Bool} {r c sn cn r' c' sn' cn' : K} (h : r * sn + c * cn = r' * sn' + c' * cn') :
    hexSide half inner aa r c sn cn = hexSide half inner aa r' c' sn' cn' := by
  unfold hexSide; simp only [h]

theorem rectangleAt_shift (half : K) (n0 n1 : Int) (width height s0 s1 ca sa : K) (aa : Bool) (i j d0 d1 : Int) :
    rectangleAt half n0 n1 width height (s0 + d0) (s1 + d1) ca sa aa i j = rectangleAt half n0 n1 width height s0 s1 ca sa aa (i - d0) (j - d1) := by
  unfold rectangleAt; rw [meshCoord_shift, meshCoord_shift]

/-! ### the hexagon as a fold of `min` over its six edge profiles -/

theorem hexagonAt_eq_foldl (half inner : K) (sinT cosT : Nat → K) (n0 n1 : Int) (s0 s1 : K) (aa : Bool) (i j : Int) :
    hexagonAt half inner sinT cosT n0 n1 s0 s1 aa i j =
      (List.range 6).foldl (fun m n => min m (hexSide half inner aa (meshCoord n0 i s0) (meshCoord n1 j s1) (sinT n) (cosT n))) 1 := by
  simp only [hexagonAt, minK_eq_min]
  rfl

theorem le_hexagonAt_iff (half inner : K) (sinT cosT : Nat → K) (n0 n1 : Int) (s0 s1 : K) (aa : Bool) (i j : Int) (x : K) :
    x ≤ hexagonAt half inner sinT cosT n0 n1 s0 s1 aa i j ↔
      x ≤ 1 ∧ ∀ n, n < 6 → x ≤ hexSide half inner aa (meshCoord n0 i s0) (meshCoord n1 j s1) (sinT n) (cosT n) := by
  rw [hexagonAt_eq_foldl, le_foldl_min_iff]
  simp only [List.mem_range]

theorem hexagonAt_mem (half inner : K) (sinT cosT : Nat → K) (n0 n1 : Int) (s0 s1 : K) (aa : Bool) (i j : Int) :
    hexagonAt half inner sinT cosT n0 n1 s0 s1 aa i j = 1 ∨ ∃ n, n < 6 ∧
      hexagonAt half inner sinT cosT n0 n1 s0 s1 aa i j = hexSide half inner aa (meshCoord n0 i s0) (meshCoord n1 j s1) (sinT n) (cosT n) := by
  rw [hexagonAt_eq_foldl]
  simpa only [List.mem_range] using foldl_min_mem _ (List.range 6) 1

/-- half-turns, mirrors and the transposition rotated ↔ unrotated are all reindexings of the six edges by an involution `σ` -/
theorem hexagonAt_reindex (σ : ℕ → ℕ) (hσ : ∀ n, n < 6 → σ n < 6 ∧ σ (σ n) = n)
    {half inner : K} {sinT cosT sinT' cosT' : Nat → K} {n0 n1 n0' n1' : Int} {s0 s1 s0' s1' : K} {aa : Bool} {i j i' j' : Int}
    (h : ∀ n, n < 6 → meshCoord n0 i s0 * sinT (σ n) + meshCoord n1 j s1 * cosT (σ n) =
      meshCoord n0' i' s0' * sinT' n + meshCoord n1' j' s1' * cosT' n) :
    hexagonAt half inner sinT cosT n0 n1 s0 s1 aa i j = hexagonAt half inner sinT' cosT' n0' n1' s0' s1' aa i' j' := by
  refine eq_of_forall_le_iff fun x => ?_
  rw [le_hexagonAt_iff, le_hexagonAt_iff]
  refine and_congr_right fun _ => ⟨fun H n hn => ?_, fun H n hn => ?_⟩
  · rw [← hexSide_congr (h n hn)]; exact H _ (hσ n hn).1
  · have := H _ (hσ n hn).1
    rwa [← hexSide_congr (h _ (hσ n hn).1), (hσ n hn).2] at this

theorem hexagonAt_row_mirror (perm : ℕ → ℕ) (hperm : ∀ n, n < 6 → perm n < 6 ∧ perm (perm n) = n) {sinT cosT : ℕ → K}
    (hs : ∀ n, n < 6 → sinT (perm n) = -sinT n) (hc : ∀ n, n < 6 → cosT (perm n) = cosT n)
    (half inner : K) (n0 n1 : Int) (aa : Bool) (i j : Int) :
    hexagonAt half inner sinT cosT n0 n1 0 0 aa (2 * (n0 / 2) - i) j = hexagonAt half inner sinT cosT n0 n1 0 0 aa i j := by
  refine hexagonAt_reindex perm hperm fun n hn => ?_
  rw [meshCoord_half_turn, hs n hn, hc n hn, neg_mul_neg]

variable [IsStrictOrderedRing K]

theorem clip01_mem (x : K) : 0 ≤ clip01 x ∧ clip01 x ≤ 1 := by
  unfold clip01; split_ifs with h1 h2
  · exact ⟨le_refl _, zero_le_one⟩
  · exact ⟨zero_le_one, le_refl _⟩
  · exact ⟨not_lt.1 h1, not_lt.1 h2⟩

theorem absK_eq_abs (x : K) : absK x = |x| := by
  unfold absK; split_ifs with h
  · exact (abs_of_neg h).symm
  · exact (abs_of_nonneg (not_lt.1 h)).symm

theorem binarise_mem01 {x : K} (h : 0 ≤ x ∧ x ≤ 1) : 0 ≤ binarise x ∧ binarise x ≤ 1 := by
  rcases binarise_mem h with e | e <;> rw [e] <;> simp

theorem hexSide_mem (half inner : K) (aa : Bool) (r c sn cn : K) :
    0 ≤ hexSide half inner aa r c sn cn ∧ hexSide half inner aa r c sn cn ≤ 1 := by
  unfold hexSide; simp only
  split_ifs
  · exact clip01_mem _
  · exact ⟨le_refl _, zero_le_one⟩
  · exact ⟨zero_le_one, le_refl _⟩

theorem hexSide_binary (half inner : K) (r c sn cn : K) :
    hexSide half inner false r c sn cn = 0 ∨ hexSide half inner false r c sn cn = 1 := by
  simp only [hexSide, Bool.false_eq_true, if_false]
  split_ifs <;> simp

theorem hexSide_eq_one_iff (half inner r c sn cn : K) : hexSide half inner false r c sn cn = 1 ↔ r * sn + c * cn ≤ inner := by
  simp only [hexSide, Bool.false_eq_true, if_false]
  split_ifs with h
  · exact iff_of_false zero_ne_one (not_le.2 h)
  · exact iff_of_true rfl (not_lt.1 h)

theorem hexagonAt_eq_one_iff (half inner : K) (sinT cosT : Nat → K) (n0 n1 : Int) (s0 s1 : K) (i j : Int) :
    hexagonAt half inner sinT cosT n0 n1 s0 s1 false i j = 1 ↔
      ∀ n, n < 6 → meshCoord n0 i s0 * sinT n + meshCoord n1 j s1 * cosT n ≤ inner := by
  rw [le_antisymm_iff, and_iff_right ((le_hexagonAt_iff ..).1 le_rfl).1, le_hexagonAt_iff, and_iff_right le_rfl]
  exact forall₂_congr fun n _ => (hexSide_mem ..).2.ge_iff_eq.trans (hexSide_eq_one_iff ..)

/-- with antipodal edge normals (true of the angles `n·π/3 + φ`) the hexagon is the intersection of three strips -/
theorem hexagonAt_eq_one_iff_abs {sinT cosT : Nat → K} (hs : ∀ n, n < 3 → sinT (n + 3) = -sinT n) (hc : ∀ n, n < 3 → cosT (n + 3) = -cosT n)
    (half inner : K) (n0 n1 : Int) (s0 s1 : K) (i j : Int) :
    hexagonAt half inner sinT cosT n0 n1 s0 s1 false i j = 1 ↔
      ∀ n, n < 3 → |meshCoord n0 i s0 * sinT n + meshCoord n1 j s1 * cosT n| ≤ inner := by
  rw [hexagonAt_eq_one_iff]
  constructor
  · intro h n hn
    have h3 := h (n + 3) (by omega)
    rw [hs n hn, hc n hn, mul_neg, mul_neg, ← neg_add] at h3
    exact abs_le.2 ⟨neg_le.1 h3, h n (by omega)⟩
  · intro h n hn
    obtain hlt | hge := lt_or_ge n 3
    · exact (abs_le.1 (h n hlt)).2
    · obtain ⟨m, rfl⟩ : ∃ m, n = m + 3 := ⟨n - 3, by omega⟩
      rw [hs m (by omega), hc m (by omega), mul_neg, mul_neg, ← neg_add]
      exact neg_le.2 (abs_le.1 (h m (by omega))).1

/-- the antialiased support is inside the binary hexagon that is `half` larger -/
theorem hexagonAt_aa_pos (half inner : K) (sinT cosT : Nat → K) (n0 n1 : Int) (s0 s1 : K) (i j : Int)
    (h : 0 < hexagonAt half inner sinT cosT n0 n1 s0 s1 true i j) :
    hexagonAt half (inner + half) sinT cosT n0 n1 s0 s1 false i j = 1 := by
  rw [hexagonAt_eq_one_iff]
  intro n hn
  have hside := h.trans_le (((le_hexagonAt_iff ..).1 le_rfl).2 n hn)
  by_contra hc
  simp only [hexSide, clip01, if_true] at hside
  rw [if_pos (by linarith)] at hside
  exact lt_irrefl _ hside

theorem rectangleAt_mem01 (half : K) (n0 n1 : Int) (width height s0 s1 ca sa : K) (aa : Bool) (i j : Int) :
    0 ≤ rectangleAt half n0 n1 width height s0 s1 ca sa aa i j ∧ rectangleAt half n0 n1 width height s0 s1 ca sa aa i j ≤ 1 := by
  unfold rectangleAt; simp only [minK_eq_min]
  cases aa
  · exact binarise_mem01 (min_mem01 (min_mem01 ⟨zero_le_one, le_rfl⟩ (clip01_mem _)) (clip01_mem _))
  · exact min_mem01 (min_mem01 ⟨zero_le_one, le_rfl⟩ (clip01_mem _)) (clip01_mem _)

theorem rectangleAt_binary (half : K) (n0 n1 : Int) (width height s0 s1 ca sa : K) (i j : Int) :
    rectangleAt half n0 n1 width height s0 s1 ca sa false i j = 0 ∨ rectangleAt half n0 n1 width height s0 s1 ca sa false i j = 1 := by
  unfold rectangleAt; simp only [minK_eq_min]
  exact binarise_mem (min_mem01 (min_mem01 ⟨zero_le_one, le_rfl⟩ (clip01_mem _)) (clip01_mem _))

/-- a 2 × 2 binary rectangle on a 6 × 6 array over ℚ -/
def exRect (i j : Int) : ℚ := rectangleAt (1 / 2) 6 6 2 2 0 0 1 0 false i j

theorem exRect_border (i j : Int) : exRect 0 j = 0 ∧ exRect i 0 = 0 := by
  -- index 0 has coordinate −3, beyond the half-width 3/2 of the edge profile
  have far : clip01 ((1 / 2 + 2 * (1 / 2) : ℚ) - |(-3 : ℚ)|) = 0 := by norm_num [clip01]
  have m3 : meshCoord 6 0 (0 : ℚ) = -3 := by norm_num [meshCoord, Gen.meshCoord]
  constructor
  · simp only [exRect, rectangleAt, meshRot_unrotated, absK_eq_abs, minK_eq_min, m3, far, Bool.false_eq_true, if_false]
    rw [min_eq_right (min_mem01 ⟨zero_le_one, le_rfl⟩ (clip01_mem _)).1]; simp [binarise]
  · simp only [exRect, rectangleAt, meshRot_unrotated, absK_eq_abs, minK_eq_min, m3, far, Bool.false_eq_true, if_false]
    rw [min_eq_right zero_le_one, min_eq_left (clip01_mem _).1]; simp [binarise]

end Lentil
