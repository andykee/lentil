import LentilVerif.Model.Geometry
/-! The hexagonal grid of `segmented.py` as lists of cells: the translated loops of `hex_ring` as six explicit sides, the cube-coordinate facts
about a ring and about the cells of a `k`-ring aperture, and the numbering loop of `hex_segments` (core Lean, `omega`). -/
namespace Lentil

theorem foldl_range_walkSide (i n : Nat) (st : List HexCell × HexCell) :
    (List.range n).foldl (fun st (_ : Nat) => (st.1 ++ [st.2], Gen.hexNeighbor st.2 i)) st = walkSide i n st.1 st.2 := by
  induction n generalizing st with
  | zero => rfl
  | succ n ih => rw [List.range_succ_eq_map, List.foldl_cons, List.foldl_map, walkSide]; exact ih _

theorem hexRing_eq_walk (k : Nat) : hexRing k = (walkSides k 6).1 := by
  have outer : ∀ m : Nat, (List.range m).foldl (fun st i => (List.range k).foldl (fun st (_ : Nat) => (st.1 ++ [st.2], Gen.hexNeighbor st.2 i)) st)
      (([] : List HexCell), Gen.hexRingStart (k : Int)) = walkSides k m := by
    intro m
    induction m with
    | zero => rfl
    | succ m ih => rw [List.range_succ, List.foldl_append, ih]; simp only [List.foldl_cons, List.foldl_nil, foldl_range_walkSide]; rfl
  unfold hexRing Gen.hexRing
  exact congrArg Prod.fst (outer 6)

/-- `t` steps from `h` in direction `d` -/
def hexStep (h d : HexCell) (t : Int) : HexCell := (h.1 + t * d.1, h.2.1 + t * d.2.1, h.2.2 + t * d.2.2)

theorem hexStep_zero (h d : HexCell) : hexStep h d 0 = h := by
  simp [hexStep]

theorem hexStep_succ (h : HexCell) (i t : Nat) :
    hexStep h (Gen.hexDirections.getD i (0, 0, 0)) ((t + 1 : Nat) : Int) = hexStep (hexNeighbor h i) (Gen.hexDirections.getD i (0, 0, 0)) t := by
  simp only [hexStep, hexNeighbor, Gen.hexNeighbor, Gen.hexDirection, Gen.hexAdd, Int.natCast_add, Int.natCast_one, Int.add_mul, Int.one_mul,
    Prod.mk.injEq]
  omega

theorem walkSide_spec (i n : Nat) (acc : List HexCell) (h : HexCell) :
    walkSide i n acc h =
      (acc ++ (List.range n).map (fun (t : Nat) => hexStep h (Gen.hexDirections.getD i (0, 0, 0)) t),
       hexStep h (Gen.hexDirections.getD i (0, 0, 0)) n) := by
  induction n generalizing acc h with
  | zero => simp [walkSide, hexStep_zero]
  | succ n ih =>
    simp only [walkSide, ih, List.range_succ_eq_map, List.map_cons, List.map_map, Function.comp_def, Nat.succ_eq_add_one, hexStep_succ,
      Int.natCast_zero, hexStep_zero, List.append_assoc, List.singleton_append]

theorem hexRing_eq (k : Nat) :
    hexRing k =
      (List.range k).map (fun (t : Nat) => ((-(k : Int) + t, (k : Int), -(t : Int)) : HexCell)) ++
      (List.range k).map (fun (t : Nat) => (((t : Int), (k : Int) - t, -(k : Int)) : HexCell)) ++
      (List.range k).map (fun (t : Nat) => (((k : Int), -(t : Int), -(k : Int) + t) : HexCell)) ++
      (List.range k).map (fun (t : Nat) => (((k : Int) - t, -(k : Int), (t : Int)) : HexCell)) ++
      (List.range k).map (fun (t : Nat) => ((-(t : Int), -(k : Int) + t, (k : Int)) : HexCell)) ++
      (List.range k).map (fun (t : Nat) => ((-(k : Int), (t : Int), (k : Int) - t) : HexCell)) := by
  have d : Gen.hexDirections = [(1, 0, -1), (1, -1, 0), (0, -1, 1), (-1, 0, 1), (-1, 1, 0), (0, 1, -1)] := rfl
  rw [hexRing_eq_walk]
  simp only [walkSides, walkSide_spec, d, List.getD_cons_zero, List.getD_cons_succ, Gen.hexRingStart, hexStep, List.nil_append]
  congr <;> (funext t; simp only [Prod.mk.injEq]; omega)

theorem hexRing_cube (k : Nat) (c : HexCell) (hc : c ∈ hexRing k) :
    c.1 + c.2.1 + c.2.2 = 0 ∧ (-(k : Int) ≤ c.1 ∧ c.1 ≤ k) ∧ (-(k : Int) ≤ c.2.1 ∧ c.2.1 ≤ k) ∧ (-(k : Int) ≤ c.2.2 ∧ c.2.2 ≤ k) ∧
    (c.1 = k ∨ c.1 = -k ∨ c.2.1 = k ∨ c.2.1 = -k ∨ c.2.2 = k ∨ c.2.2 = -k) := by
  rw [hexRing_eq] at hc
  simp only [List.mem_append, List.mem_map, List.mem_range] at hc
  rcases hc with ((((⟨t, ht, rfl⟩ | ⟨t, ht, rfl⟩) | ⟨t, ht, rfl⟩) | ⟨t, ht, rfl⟩) | ⟨t, ht, rfl⟩) | ⟨t, ht, rfl⟩ <;>
    exact ⟨by simp only; omega, ⟨by simp only; omega, by simp only; omega⟩, ⟨by simp only; omega, by simp only; omega⟩,
      ⟨by simp only; omega, by simp only; omega⟩, by simp⟩

theorem hexRing_nodup (k : Nat) : (hexRing k).Nodup := by
  rw [hexRing_eq]
  have inj : ∀ (f : Nat → HexCell), (∀ a b : Nat, f a = f b → a = b) → ((List.range k).map f).Nodup :=
    fun f hf => List.Pairwise.map f (fun a b hab h => hab (hf a b h)) List.nodup_range
  simp only [List.nodup_append, List.mem_append, List.mem_map, List.mem_range]
  refine ⟨⟨⟨⟨⟨inj _ ?_, inj _ ?_, ?_⟩, inj _ ?_, ?_⟩, inj _ ?_, ?_⟩, inj _ ?_, ?_⟩, inj _ ?_, ?_⟩
  · intro a b h; simp only [Prod.mk.injEq] at h; omega
  · intro a b h; simp only [Prod.mk.injEq] at h; omega
  · intro a ha b ⟨t', ht', e'⟩ hab
    rcases ha with ⟨t, ht, e⟩
    all_goals (subst e; subst e'; simp only [Prod.mk.injEq] at hab; omega)
  · intro a b h; simp only [Prod.mk.injEq] at h; omega
  · intro a ha b ⟨t', ht', e'⟩ hab
    rcases ha with ⟨t, ht, e⟩ | ⟨t, ht, e⟩
    all_goals (subst e; subst e'; simp only [Prod.mk.injEq] at hab; omega)
  · intro a b h; simp only [Prod.mk.injEq] at h; omega
  · intro a ha b ⟨t', ht', e'⟩ hab
    rcases ha with (⟨t, ht, e⟩ | ⟨t, ht, e⟩) | ⟨t, ht, e⟩
    all_goals (subst e; subst e'; simp only [Prod.mk.injEq] at hab; omega)
  · intro a b h; simp only [Prod.mk.injEq] at h; omega
  · intro a ha b ⟨t', ht', e'⟩ hab
    rcases ha with ((⟨t, ht, e⟩ | ⟨t, ht, e⟩) | ⟨t, ht, e⟩) | ⟨t, ht, e⟩
    all_goals (subst e; subst e'; simp only [Prod.mk.injEq] at hab; omega)
  · intro a b h; simp only [Prod.mk.injEq] at h; omega
  · intro a ha b ⟨t', ht', e'⟩ hab
    rcases ha with (((⟨t, ht, e⟩ | ⟨t, ht, e⟩) | ⟨t, ht, e⟩) | ⟨t, ht, e⟩) | ⟨t, ht, e⟩
    all_goals (subst e; subst e'; simp only [Prod.mk.injEq] at hab; omega)

theorem hexRing_length (k : Nat) : (hexRing k).length = 6 * k := by
  rw [hexRing_eq]
  simp only [List.length_append, List.length_map, List.length_range]
  omega

theorem segCells_length (k : Nat) : (segCells k).length = 1 + 3 * k * (k + 1) := by
  induction k with
  | zero => simp [segCells]
  | succ k ih =>
    simp only [segCells, List.length_append, ih, hexRing_length]
    have : 3 * (k + 1) * (k + 1 + 1) = 3 * k * (k + 1) + 6 * (k + 1) := by
      simp only [Nat.mul_add, Nat.add_mul, Nat.mul_one]; omega
    omega

theorem segCells_cube (k : Nat) (c : HexCell) (hc : c ∈ segCells k) :
    c.1 + c.2.1 + c.2.2 = 0 ∧ (-(k : Int) ≤ c.1 ∧ c.1 ≤ k) ∧ (-(k : Int) ≤ c.2.1 ∧ c.2.1 ≤ k) ∧ (-(k : Int) ≤ c.2.2 ∧ c.2.2 ≤ k) := by
  induction k with
  | zero =>
    simp only [segCells, List.mem_singleton] at hc
    subst hc; simp
  | succ k ih =>
    simp only [segCells, List.mem_append] at hc
    rcases hc with h | h
    · have := ih h
      refine ⟨this.1, ⟨by omega, by omega⟩, ⟨by omega, by omega⟩, ⟨by omega, by omega⟩⟩
    · have := hexRing_cube (k + 1) c h
      exact ⟨this.1, this.2.1, this.2.2.1, this.2.2.2.1⟩

theorem segCells_nodup (k : Nat) : (segCells k).Nodup := by
  induction k with
  | zero => simp [segCells]
  | succ k ih =>
    simp only [segCells]
    rw [List.nodup_append]
    refine ⟨ih, hexRing_nodup (k + 1), ?_⟩
    intro a ha b hb hab
    subst hab
    have h1 := (segCells_cube k a ha).2
    have h2 := (hexRing_cube (k + 1) a hb).2.2.2.2
    push_cast at h2
    omega

/-! ### the numbering loop of `hex_segments` (translated: `Gen.keptCells`) -/

/-- the (number, cell) pairs of a numbered cell list that survive the drop list -/
def keptOf (drop : List Nat) (cells : List HexCell) (start : Nat) : List (Nat × HexCell) :=
  ((cells.zipIdx start).filter (fun p => !drop.contains p.2)).map (fun p => (p.2, p.1))

theorem keptOf_append (drop : List Nat) (l1 l2 : List HexCell) (a : Nat) :
    keptOf drop (l1 ++ l2) a = keptOf drop l1 a ++ keptOf drop l2 (a + l1.length) := by
  unfold keptOf
  rw [List.zipIdx_append, List.filter_append, List.map_append]

theorem seg_inner (drop : List Nat) (L : List HexCell) : ∀ (acc : List (Nat × HexCell)) (a : Nat),
    L.foldl (fun (st : List (Nat × HexCell) × Nat) h =>
        ((if drop.contains st.2 then st.1 else st.1 ++ [(st.2, h)]), st.2 + 1)) (acc, a)
      = (acc ++ keptOf drop L a, a + L.length) := by
  induction L with
  | nil => intro acc a; simp [keptOf]
  | cons h t ih =>
    intro acc a
    rw [List.foldl_cons, ih]
    unfold keptOf
    rw [List.zipIdx_cons, List.filter_cons]
    by_cases hd : a ∈ drop <;> simp [hd, Nat.add_assoc, Nat.add_comm 1]

theorem keptCells_eq (rings : Nat) (drop : List Nat) :
    keptCells rings drop = keptOf drop (segCells rings) 0 := by
  have outer : ∀ k : Nat, (List.range' 1 k).foldl (fun (st : List (Nat × HexCell) × Nat) ring =>
      (Gen.hexRing ring).foldl (fun (st : List (Nat × HexCell) × Nat) h =>
        ((if drop.contains st.2 then st.1 else st.1 ++ [(st.2, h)]), st.2 + 1)) st)
      ((if drop.contains 0 then [] else [(0, ((0, 0, 0) : HexCell))]), 1)
      = (keptOf drop (segCells k) 0, (segCells k).length) := by
    intro k
    induction k with
    | zero =>
      by_cases hd : 0 ∈ drop <;> simp [keptOf, segCells, hd]
    | succ k ih =>
      rw [List.range'_1_concat, List.foldl_append, ih]
      simp only [List.foldl_cons, List.foldl_nil]
      rw [seg_inner]
      have e : segCells (k + 1) = segCells k ++ hexRing (k + 1) := rfl
      rw [e, keptOf_append, List.length_append, Nat.zero_add, Nat.add_comm 1 k]
      rfl
  unfold keptCells Gen.keptCells
  simp only [Nat.add_sub_cancel]
  exact congrArg Prod.fst (outer rings)

theorem keptCells_spec (rings : Nat) (drop : List Nat) :
    (keptCells rings drop).map Prod.fst = keptSegments rings drop ∧
    ∀ p ∈ keptCells rings drop, (segCells rings)[p.1]? = some p.2 := by
  rw [keptCells_eq]
  constructor
  · unfold keptOf keptSegments
    rw [List.map_map]
    have h1 : (Prod.fst ∘ fun p : HexCell × Nat => (p.2, p.1)) = Prod.snd := rfl
    rw [h1]
    have h2 : (fun p : HexCell × Nat => !drop.contains p.2) = (fun s : Nat => !drop.contains s) ∘ Prod.snd := rfl
    rw [h2, ← List.filter_map, List.zipIdx_map_snd, List.range_eq_range']
  · intro p hp
    unfold keptOf at hp
    simp only [List.mem_map, List.mem_filter] at hp
    obtain ⟨q, ⟨hq, _⟩, rfl⟩ := hp
    exact List.mem_zipIdx_iff_getElem?.mp hq

end Lentil
