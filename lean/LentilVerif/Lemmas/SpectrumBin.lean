import LentilVerif.Lemmas.Spectrum
/-! C15 — `Spectrum.bin`: the chained trapezoid and Simpson rules, their sample grids (bin edges; centres interleaved with
mid-points, closed by the end points of `ends='symmetric'` or the quarter points of `ends='inside'`) and what an accepted
call returns. A grid is sorted when it is `List.IsChain (· ≤ ·)`. On uniform centres every centre is the mid-point of its two
bin edges, so each Simpson term (x₂−x₀)/6·(f₀+4f₁+f₂) is the exact integral of a line over the bin. -/
namespace Lentil.Spec

theorem sumL_eq_sum (l : List ℚ) : sumL l = l.sum := by
  simp [sumL, List.sum_eq_foldl]

theorem sumL_nonneg (l : List ℚ) (h : ∀ x ∈ l, 0 ≤ x) : 0 ≤ sumL l := by
  rw [sumL_eq_sum]
  induction l with
  | nil => simp
  | cons a l ih =>
    rw [List.sum_cons]
    exact add_nonneg (h a List.mem_cons_self) (ih fun x hx => h x (List.mem_cons_of_mem _ hx))

/-! ### the chained rules on samples `x.map F` of a function -/

theorem trapzBins_map_length (F : ℚ → ℚ) : ∀ x : List ℚ, (trapzBins x (x.map F)).length = x.length - 1
  | [] | [_] => rfl
  | _ :: x1 :: xs => congrArg (· + 1) (trapzBins_map_length F (x1 :: xs))

theorem trapzBins_map_getElem (F : ℚ → ℚ) : ∀ (x : List ℚ) (k : ℕ) (e0 e1 : ℚ), x[k]? = some e0 → x[k + 1]? = some e1 →
    (trapzBins x (x.map F))[k]? = some (Gen.trapzTerm e0 e1 (F e0) (F e1))
  | [], _, _, _, h, _ => by cases h
  | [_], _, _, _, _, h => by cases h
  | x0 :: x1 :: xs, 0, _, _, h0, h1 => by cases h0; cases h1; rfl
  | x0 :: x1 :: xs, k + 1, e0, e1, h0, h1 => trapzBins_map_getElem F (x1 :: xs) k e0 e1 h0 h1

theorem trapzBins_nonneg_of_sorted (x f : List ℚ) : x.IsChain (· ≤ ·) → (∀ v ∈ f, 0 ≤ v) → ∀ b ∈ trapzBins x f, 0 ≤ b := by
  fun_induction trapzBins x f with
  | case1 x0 x1 xs f0 f1 fs ih =>
    intro hx hf b hb
    rcases List.mem_cons.1 hb with rfl | hb
    · exact mul_nonneg (mul_nonneg (by norm_num) (add_nonneg (hf f0 (by simp)) (hf f1 (by simp))))
        (sub_nonneg.2 (List.isChain_cons_cons.1 hx).1)
    · exact ih (List.isChain_cons_cons.1 hx).2 (fun v hv => hf v (List.mem_cons_of_mem _ hv)) b hb
  | case2 => nofun

theorem trapzBins_nonneg : ∀ x f : List ℚ, StrictInc x → (∀ v ∈ f, 0 ≤ v) → ∀ b ∈ trapzBins x f, 0 ≤ b :=
  fun x f hx => trapzBins_nonneg_of_sorted x f (hx.isChain.imp fun _ _ => le_of_lt)

/-- exact integrals of the line a·λ + b over consecutive edges -/
def exactBins (a b : ℚ) : List ℚ → List ℚ
  | x0 :: x1 :: xs => (a * (x1 ^ 2 - x0 ^ 2) / 2 + b * (x1 - x0)) :: exactBins a b (x1 :: xs)
  | _ => []

theorem trapzBins_linear (a b : ℚ) : ∀ x : List ℚ, trapzBins x (x.map fun t => a * t + b) = exactBins a b x
  | [] | [_] => rfl
  | x0 :: x1 :: xs => by
    have := trapzBins_linear a b (x1 :: xs)
    simp only [List.map_cons, trapzBins, exactBins, Gen.trapzTerm] at this ⊢
    rw [this]; congr 1; ring

theorem simpsBins_map_length (F : ℚ → ℚ) : ∀ x : List ℚ, (simpsBins x (x.map F)).length = (x.length - 1) / 2
  | [] => rfl
  | [_] | [_, _] => by simp [simpsBins]
  | _ :: _ :: x2 :: xs => by
    have := simpsBins_map_length F (x2 :: xs)
    simp only [List.map_cons, simpsBins, List.length_cons] at this ⊢
    omega

theorem simpsBins_nonneg_of_sorted (x f : List ℚ) : x.IsChain (· ≤ ·) → (∀ v ∈ f, 0 ≤ v) → ∀ b ∈ simpsBins x f, 0 ≤ b := by
  fun_induction simpsBins x f with
  | case1 x0 x1 x2 xs f0 f1 f2 fs ih =>
    intro hx hf b hb
    obtain ⟨h01, hx⟩ := List.isChain_cons_cons.1 hx
    obtain ⟨h12, hx⟩ := List.isChain_cons_cons.1 hx
    have hf' : ∀ v ∈ f2 :: fs, 0 ≤ v := fun v hv => hf v (List.mem_cons_of_mem _ (List.mem_cons_of_mem _ hv))
    rcases List.mem_cons.1 hb with rfl | hb
    · have := hf f0 (by simp); have := hf f1 (by simp); have := hf' f2 (by simp)
      exact mul_nonneg (div_nonneg (by linarith) (by norm_num)) (by linarith)
    · exact ih hx hf' b hb
  | case2 => nofun

/-- every second point, starting with the first: the bin edges among the Simpson sample points -/
def everyOther : List ℚ → List ℚ
  | x0 :: _ :: xs => x0 :: everyOther xs
  | l => l

theorem everyOther_cons (x : ℚ) (xs : List ℚ) : everyOther (x :: xs) = x :: everyOther xs.tail := by
  cases xs <;> rfl

theorem everyOther_sublist : ∀ x : List ℚ, (everyOther x).Sublist x
  | [] | [_] => .refl _
  | _ :: _ :: xs => ((everyOther_sublist xs).cons _).cons_cons _

/-- in every triple of the chained rule the middle point is the mid-point of the outer two -/
def MidTriples : List ℚ → Prop
  | x0 :: x1 :: x2 :: xs => x1 = (x0 + x2) / 2 ∧ MidTriples (x2 :: xs)
  | _ => True

theorem simpsBins_linear (a b : ℚ) : ∀ x : List ℚ, MidTriples x →
    simpsBins x (x.map fun t => a * t + b) = exactBins a b (everyOther x)
  | [], _ | [_], _ | [_, _], _ => rfl
  | x0 :: x1 :: x2 :: xs, hm => by
    rw [everyOther, everyOther_cons, exactBins, ← everyOther_cons, ← simpsBins_linear a b (x2 :: xs) hm.2, hm.1]
    simp only [List.map_cons, simpsBins, Gen.simpsTerm]
    congr 1; ring

/-! ### chains: uniform centres, the last two entries -/

/-- centres with the constant step `h` -/
def UniformStep (h : ℚ) : List ℚ → Prop
  | c0 :: c1 :: cs => c1 = c0 + h ∧ UniformStep h (c1 :: cs)
  | _ => True

theorem uniformStep_iff (h : ℚ) : ∀ c : List ℚ, UniformStep h c ↔ c.IsChain fun a b => b = a + h
  | [] | [_] => by simp [UniformStep]
  | c0 :: c1 :: cs => by rw [UniformStep, uniformStep_iff h (c1 :: cs), List.isChain_cons_cons]

theorem rel_last_two {R : ℚ → ℚ → Prop} {l : List ℚ} (h : l.IsChain R) {p q : ℚ} (hp : l.dropLast.getLast? = some p)
    (hq : l.getLast? = some q) : R p q := by
  have hne : l.dropLast ≠ [] := fun e => by simp [e] at hp
  have := h.rel_getLast_dropLast hne
  rwa [Option.some_inj.1 ((List.getLast?_eq_some_getLast hne).symm.trans hp),
    Option.some_inj.1 ((List.getLast?_eq_some_getLast _).symm.trans hq)] at this

theorem exists_last_two (c0 c1 : ℚ) (cs : List ℚ) :
    ∃ p q, (c0 :: c1 :: cs).dropLast.getLast? = some p ∧ (c0 :: c1 :: cs).getLast? = some q :=
  ⟨_, _, List.getLast?_eq_some_getLast (by simp), List.getLast?_eq_some_getLast (by simp)⟩

/-! ### the sample grids -/

theorem midpoints_length : ∀ c : List ℚ, (midpoints c).length = c.length - 1
  | [] | [_] => rfl
  | _ :: c1 :: cs => congrArg (· + 1) (midpoints_length (c1 :: cs))

theorem interleave_midpoints_length (tr : ℚ → ℚ) : ∀ (c0 : ℚ) (cs : List ℚ),
    (interleave (c0 :: cs) ((midpoints (c0 :: cs)).map tr)).length = 2 * cs.length + 1
  | _, [] => rfl
  | _, c1 :: cs => by
    have := interleave_midpoints_length tr c1 cs
    simp only [midpoints, List.map_cons, interleave, List.length_cons, this]; omega

/-- `prev, c₀, m₀₁, c₁, …, c_last, last`: the centres interleaved with their mid-points, between two end points -/
def simpsChain (prev last : ℚ) (c : List ℚ) : List ℚ := prev :: interleave c (midpoints c) ++ [last]

theorem everyOther_simpsChain (last : ℚ) : ∀ (c : List ℚ) (prev : ℚ), c ≠ [] →
    everyOther (simpsChain prev last c) = prev :: midpoints c ++ [last]
  | [_], _, _ => rfl
  | c0 :: c1 :: cs, prev, _ => congrArg (prev :: ·) (everyOther_simpsChain last (c1 :: cs) (Gen.binMid c0 c1) (by simp))

theorem isChain_simpsChain {last q : ℚ} (hl : q ≤ last) : ∀ (c0 : ℚ) (cs : List ℚ) (prev : ℚ), StrictInc (c0 :: cs) →
    prev ≤ c0 → (c0 :: cs).getLast? = some q → (simpsChain prev last (c0 :: cs)).IsChain (· ≤ ·)
  | c0, [], prev, _, hp, hq => .cons_cons hp (.cons_cons ((Option.some.inj hq).trans_le hl) (.singleton _))
  | c0, c1 :: cs, prev, hs, hp, hq => by
    have h01 : c0 < c1 := List.rel_of_pairwise_cons hs List.mem_cons_self
    have hm : c0 ≤ Gen.binMid c0 c1 ∧ Gen.binMid c0 c1 ≤ c1 := by simp only [Gen.binMid]; constructor <;> linarith
    exact .cons_cons hp (.cons_cons hm.1 (isChain_simpsChain hl c1 cs _ hs.of_cons hm.2
      (by rwa [List.getLast?_cons_cons] at hq)))

theorem midTriples_simpsChain {h last q : ℚ} (hl : last = q + h / 2) : ∀ (c0 : ℚ) (cs : List ℚ) (prev : ℚ),
    UniformStep h (c0 :: cs) → c0 = prev + h / 2 → (c0 :: cs).getLast? = some q → MidTriples (simpsChain prev last (c0 :: cs))
  | c0, [], prev, _, h0, hq => by
    obtain rfl : c0 = q := Option.some.inj hq
    refine ⟨?_, trivial⟩
    rw [hl, h0]; ring
  | c0, c1 :: cs, prev, hu, h0, hq => by
    have h1 : c1 = c0 + h := hu.1
    refine ⟨?_, midTriples_simpsChain hl c1 cs (Gen.binMid c0 c1) hu.2 ?_ (by rwa [List.getLast?_cons_cons] at hq)⟩
    · rw [Gen.binMid, h1, h0]; ring
    · rw [Gen.binMid, h1]; ring

theorem trapzEdges_eq (sym : Bool) {c0 c1 : ℚ} {cs : List ℚ} {p q : ℚ} (hp : (c0 :: c1 :: cs).dropLast.getLast? = some p)
    (hq : (c0 :: c1 :: cs).getLast? = some q) :
    trapzEdges sym (c0 :: c1 :: cs)
      = (if sym then Gen.binEndLo c0 c1 else c0) :: midpoints (c0 :: c1 :: cs) ++ [if sym then Gen.binEndHi p q else q] := by
  simp only [trapzEdges, hp, hq]

/-- the cast on storing a computed point into the grid: truncation when the centres came as an integer array -/
def storeQ (intC : Bool) (q : ℚ) : ℚ := if intC then truncQ q else q

theorem storeQ_false : storeQ false = id := rfl

/-- `np.insert(x, -1, x[-1] + (x[-2] - x[-1]) / 2)` as `simpsPoints` does it -/
def insertBeforeLast (intC : Bool) (x : List ℚ) : List ℚ :=
  match x.getLast?, x.dropLast.getLast? with
  | some l, some p => x.dropLast ++ [storeQ intC (l + (p - l) / 2), l]
  | _, _ => []

theorem simpsPoints_symmetric_eq (intC : Bool) {c0 c1 : ℚ} {cs : List ℚ} {p q : ℚ}
    (hp : (c0 :: c1 :: cs).dropLast.getLast? = some p) (hq : (c0 :: c1 :: cs).getLast? = some q) :
    simpsPoints true (c0 :: c1 :: cs) intC = Gen.binEndLo c0 c1 ::
      interleave (c0 :: c1 :: cs) ((midpoints (c0 :: c1 :: cs)).map (storeQ intC)) ++ [Gen.binEndHi p q] := by
  simp only [simpsPoints, hp, hq, if_true]; rfl

theorem simpsPoints_inside_eq (intC : Bool) (c0 c1 : ℚ) (cs : List ℚ) :
    simpsPoints false (c0 :: c1 :: cs) intC = insertBeforeLast intC
      (c0 :: storeQ intC (c0 + (storeQ intC (Gen.binMid c0 c1) - c0) / 2) :: storeQ intC (Gen.binMid c0 c1) ::
        interleave (c1 :: cs) ((midpoints (c1 :: cs)).map (storeQ intC))) := by
  obtain ⟨p, q, hp, hq⟩ := exists_last_two c0 c1 cs
  simp only [simpsPoints, hp, hq, Bool.false_eq_true, if_false, midpoints, List.map_cons, interleave]
  rfl

theorem insertBeforeLast_length (intC : Bool) {x : List ℚ} (h : 2 ≤ x.length) : (insertBeforeLast intC x).length = x.length + 1 := by
  match x, h with
  | x0 :: x1 :: xs, _ =>
    obtain ⟨p, q, hp, hq⟩ := exists_last_two x0 x1 xs
    simp only [insertBeforeLast, hp, hq, List.length_append, List.length_dropLast, List.length_cons, List.length_nil]
    omega

theorem isChain_insertBeforeLast {x : List ℚ} (hx : x.IsChain (· ≤ ·)) : (insertBeforeLast false x).IsChain (· ≤ ·) := by
  unfold insertBeforeLast
  split
  · rename_i l p hl hp
    have hpl : p ≤ l := rel_last_two hx hp hl
    rw [← List.dropLast_append_getLast? p hp, List.append_assoc, List.singleton_append, List.isChain_split]
    refine ⟨?_, .cons_cons (by simp only [storeQ, Bool.false_eq_true, if_false]; linarith)
      (.cons_cons (by simp only [storeQ, Bool.false_eq_true, if_false]; linarith) (.singleton _))⟩
    rw [List.dropLast_append_getLast? p hp]
    exact hx.dropLast
  · exact .nil

theorem trapzEdges_length (sym : Bool) : ∀ c : List ℚ, 2 ≤ c.length → (trapzEdges sym c).length = c.length + 1
  | c0 :: c1 :: cs, _ => by
    obtain ⟨p, q, hp, hq⟩ := exists_last_two c0 c1 cs
    rw [trapzEdges_eq sym hp hq, List.length_append, List.length_cons, midpoints_length]; rfl

theorem simpsPoints_length (sym intC : Bool) : ∀ c : List ℚ, 2 ≤ c.length → (simpsPoints sym c intC).length = 2 * c.length + 1
  | c0 :: c1 :: cs, _ => by
    have hi := interleave_midpoints_length (storeQ intC) c1 cs
    cases sym
    · rw [simpsPoints_inside_eq, insertBeforeLast_length _ (by simp)]
      simp only [List.length_cons, hi]; omega
    · obtain ⟨p, q, hp, hq⟩ := exists_last_two c0 c1 cs
      rw [simpsPoints_symmetric_eq intC hp hq]
      simp only [midpoints, List.map_cons, interleave, List.length_cons, List.length_append, hi, List.length_nil]; omega

theorem ends_outside (sym : Bool) {c0 c1 : ℚ} {cs : List ℚ} {p q : ℚ} (hs : StrictInc (c0 :: c1 :: cs))
    (hp : (c0 :: c1 :: cs).dropLast.getLast? = some p) (hq : (c0 :: c1 :: cs).getLast? = some q) :
    (if sym then Gen.binEndLo c0 c1 else c0) ≤ c0 ∧ q ≤ if sym then Gen.binEndHi p q else q := by
  have h01 : c0 < c1 := List.rel_of_pairwise_cons hs List.mem_cons_self
  have hpq : p < q := rel_last_two hs.isChain hp hq
  cases sym
  · exact ⟨le_rfl, le_rfl⟩
  · simp only [if_true, Gen.binEndLo, Gen.binEndHi]; constructor <;> linarith

theorem isChain_trapzEdges (sym : Bool) : ∀ c : List ℚ, StrictInc c → (trapzEdges sym c).IsChain (· ≤ ·)
  | [], _ | [_], _ => .nil
  | c0 :: c1 :: cs, hs => by
    obtain ⟨p, q, hp, hq⟩ := exists_last_two c0 c1 cs
    obtain ⟨hlo, hhi⟩ := ends_outside sym hs hp hq
    -- the trapezoid edges are every other point of the Simpson chain, so they are sorted as a sublist of a sorted list
    rw [trapzEdges_eq sym hp hq, ← everyOther_simpsChain _ _ _ (List.cons_ne_nil _ _)]
    exact (isChain_simpsChain hhi _ _ _ hs hlo hq).sublist (everyOther_sublist _)

theorem isChain_simpsPoints (sym : Bool) : ∀ c : List ℚ, StrictInc c → (simpsPoints sym c false).IsChain (· ≤ ·)
  | [], _ | [_], _ => by cases sym <;> exact .nil
  | c0 :: c1 :: cs, hs => by
    obtain ⟨p, q, hp, hq⟩ := exists_last_two c0 c1 cs
    obtain ⟨hlo, hhi⟩ := ends_outside sym hs hp hq
    have hch := isChain_simpsChain hhi _ _ _ hs hlo hq
    cases sym
    · rw [simpsPoints_inside_eq, storeQ_false, List.map_id]
      -- the grid without its end points, the first quarter point put in, then the last
      have h0 := (List.isChain_cons_cons.1 hch.tail.left_of_append)
      exact isChain_insertBeforeLast (.cons_cons (by simp only [id]; linarith [h0.1])
        (.cons_cons (by simp only [id]; linarith [h0.1]) h0.2))
    · rwa [simpsPoints_symmetric_eq false hp hq, storeQ_false, List.map_id]

theorem simpsPoints_uniform (h : ℚ) : ∀ c : List ℚ, UniformStep h c →
    MidTriples (simpsPoints true c) ∧ everyOther (simpsPoints true c) = trapzEdges true c
  | [], _ | [_], _ => ⟨trivial, rfl⟩
  | c0 :: c1 :: cs, hu => by
    obtain ⟨p, q, hp, hq⟩ := exists_last_two c0 c1 cs
    have hpq : q = p + h := rel_last_two ((uniformStep_iff h _).1 hu) hp hq
    rw [simpsPoints_symmetric_eq false hp hq, storeQ_false, List.map_id, trapzEdges_eq true hp hq]
    exact ⟨midTriples_simpsChain (by rw [Gen.binEndHi, hpq]; ring) c0 _ _ hu (by rw [Gen.binEndLo, hu.1]; ring) hq,
      everyOther_simpsChain _ _ _ (List.cons_ne_nil _ _)⟩

/-! ### what an accepted `bin` returns -/

theorem binRaw_eq_ok {s : Spectrum} {simps sym intC : Bool} {fl fr : ℚ} {c bins : List ℚ}
    (h : binRaw s simps sym fl fr c intC = .ok bins) : 2 ≤ c.length ∧ 1 ≤ s.wave.length ∧
      bins = if simps then simpsBins (simpsPoints sym c intC) ((simpsPoints sym c intC).map (interpAt s.wave s.value fl fr))
        else trapzBins (trapzEdges sym c) ((trapzEdges sym c).map (interpAt s.wave s.value fl fr)) := by
  unfold binRaw at h
  split at h
  · cases h
  · dsimp only at h
    split at h
    · cases h
    · rename_i f hf
      obtain ⟨hs, rfl⟩ := sample_eq_ok hf
      cases h
      exact ⟨by omega, hs, by cases simps <;> rfl⟩

theorem bin_eq_ok {s : Spectrum} {simps sym intC : Bool} {fl fr : ℚ} {pp : Option (Option ℚ)} {c bins : List ℚ}
    (h : bin s simps sym fl fr pp c intC = .ok bins) : ∃ raw, binRaw s simps sym fl fr c intC = .ok raw ∧
      (bins = raw ∨ ∃ given, pp = some given ∧ sumL raw ≠ 0 ∧ bins = raw.map (· * (binNorm s c given / sumL raw))) := by
  unfold bin at h
  split at h
  · cases h
  · rename_i raw hraw
    refine ⟨raw, hraw, ?_⟩
    split at h
    · exact .inl (by cases h; rfl)
    · split at h
      · rename_i given hg
        exact .inr ⟨given, rfl, by simpa [Gen.binRescaleGuard] using hg, by cases h; rfl⟩
      · exact .inl (by cases h; rfl)

theorem bin_none {s : Spectrum} {simps sym intC : Bool} {fl fr : ℚ} {c bins : List ℚ}
    (h : bin s simps sym fl fr none c intC = .ok bins) : binRaw s simps sym fl fr c intC = .ok bins := by
  obtain ⟨raw, hraw, rfl | ⟨_, hpp, _⟩⟩ := bin_eq_ok h
  · exact hraw
  · cases hpp

theorem bin_preserve_power {s : Spectrum} {simps sym intC : Bool} {fl fr : ℚ} {c raw : List ℚ}
    (hraw : binRaw s simps sym fl fr c intC = .ok raw) (given : Option ℚ) :
    ∃ bins, bin s simps sym fl fr (some given) c intC = .ok bins ∧
      (sumL raw ≠ 0 → sumL bins = binNorm s c given) ∧ (sumL raw = 0 → bins = raw) := by
  by_cases h : sumL raw = 0
  · exact ⟨raw, by simp [bin, hraw, Gen.binRescaleGuard, h], fun h' => absurd h h', fun _ => rfl⟩
  · refine ⟨raw.map (· * (binNorm s c given / sumL raw)), ?_, fun _ => ?_, fun h' => absurd h' h⟩
    · simp [bin, hraw, Gen.binRescaleGuard, Gen.binRescaleFactor, h]
    · rw [sumL_eq_sum, List.sum_map_mul_right raw fun x => x, List.map_id', ← sumL_eq_sum, mul_div_cancel₀ _ h]

theorem binRaw_length {s : Spectrum} {simps sym intC : Bool} {fl fr : ℚ} {c bins : List ℚ}
    (h : binRaw s simps sym fl fr c intC = .ok bins) : bins.length = c.length := by
  obtain ⟨hc, -, rfl⟩ := binRaw_eq_ok h
  cases simps
  · rw [if_neg Bool.false_ne_true, trapzBins_map_length, trapzEdges_length sym c hc]; rfl
  · rw [if_pos rfl, simpsBins_map_length, simpsPoints_length sym intC c hc]; omega

/-- the sample grid is non-decreasing, so every weight of the chained rule is non-negative -/
theorem binRaw_nonneg {s : Spectrum} (hwf : WF s) (hv : ∀ v ∈ s.value, 0 ≤ v) {simps sym : Bool} {fl fr : ℚ}
    (hfl : 0 ≤ fl) (hfr : 0 ≤ fr) {c : List ℚ} (hc : StrictInc c) {bins : List ℚ}
    (h : binRaw s simps sym fl fr c = .ok bins) : ∀ b ∈ bins, 0 ≤ b := by
  obtain ⟨-, -, rfl⟩ := binRaw_eq_ok h
  have hf : ∀ x : List ℚ, ∀ v ∈ x.map (interpAt s.wave s.value fl fr), 0 ≤ v := fun x =>
    List.forall_mem_map.2 fun e _ => interpAt_nonneg hwf.1 hwf.2 hv hfl hfr e
  cases simps
  · exact trapzBins_nonneg_of_sorted _ _ (isChain_trapzEdges sym c hc) (hf _)
  · exact simpsBins_nonneg_of_sorted _ _ (isChain_simpsPoints sym c hc) (hf _)

end Lentil.Spec
