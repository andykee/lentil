import LentilVerif.Model.ZernikeRadial
import Mathlib.Analysis.SpecialFunctions.Sqrt
import Mathlib.Algebra.Order.Floor.Ring
/-! Noll's index `j ≥ 1` ↔ `(n, m)`: row and position of an index, the order at a position, the explicit inverse, the closed form of the
row list that `zernike_index` builds, and its row search `⌈(−1 + √(1 + 8j))/2⌉` in exact real arithmetic. -/
namespace Lentil

theorem tri_succ (n : Nat) : tri (n + 1) = tri n + (n + 1) := by
  simpa only [tri, Nat.add_sub_cancel, Nat.mul_comm] using Nat.triangle_succ (n + 1)

theorem rowPos_spec (fuel n q : Nat) (hf : q ≤ fuel + n) :
    (rowPos n q fuel).2 ≤ (rowPos n q fuel).1 ∧ tri (rowPos n q fuel).1 + (rowPos n q fuel).2 = tri n + q := by
  induction fuel generalizing n q with
  | zero => simp only [rowPos]; exact ⟨by omega, trivial⟩
  | succ f ih =>
    simp only [rowPos]
    split
    · simp_all
    · have := ih (n + 1) (q - (n + 1)) (by omega)
      rw [tri_succ] at this
      omega

theorem nollRow_spec (j : Nat) (hj : 1 ≤ j) :
    (nollRow j).2 ≤ (nollRow j).1 ∧ j = tri (nollRow j).1 + (nollRow j).2 + 1 := by
  have := rowPos_spec j 0 (j - 1) (by omega)
  unfold nollRow
  have t0 : tri 0 = 0 := by decide
  rw [t0] at this
  omega

theorem tri_mono {a b : Nat} (h : a ≤ b) : tri a ≤ tri b :=
  Nat.div_le_div_right (Nat.mul_le_mul h (Nat.succ_le_succ h))

theorem row_unique (n p n' p' : Nat) (hp : p ≤ n) (hp' : p' ≤ n') (h : tri n + p = tri n' + p') :
    n = n' ∧ p = p' := by
  rcases Nat.lt_trichotomy n n' with hlt | heq | hgt
  · have := tri_mono (show n + 1 ≤ n' from hlt); rw [tri_succ] at this; omega
  · subst heq; omega
  · have := tri_mono (show n' + 1 ≤ n from hgt); rw [tri_succ] at this; omega

theorem nollRow_of (n p : Nat) (hp : p ≤ n) : nollRow (tri n + p + 1) = (n, p) := by
  obtain ⟨h1, h2⟩ := nollRow_spec (tri n + p + 1) (by omega)
  have := row_unique (nollRow (tri n + p + 1)).1 (nollRow (tri n + p + 1)).2 n p h1 hp (by omega)
  exact Prod.ext this.1 this.2

/-! ### the azimuthal order at a position, the signed order, the inverse

A Noll index is row `n`, position `p ≤ n` (`nollRow_spec`, `nollRow_of`). The order `absM n p` at that position is `p` or `p + 1`,
whichever has the parity of `n`; the sign goes with the parity of `j`. -/

theorem absM_near (n p : Nat) : p ≤ absM n p ∧ absM n p ≤ p + 1 := by
  unfold absM; split <;> omega

theorem absM_parity (n p : Nat) : absM n p % 2 = n % 2 := by
  unfold absM; split <;> omega

theorem absM_eq_of {n p a : Nat} (h : a % 2 = n % 2) (h1 : p ≤ a) (h2 : a ≤ p + 1) : absM n p = a := by
  have := absM_near n p; have := absM_parity n p; omega

theorem absM_valid (n p : Nat) (hp : p ≤ n) : absM n p ≤ n ∧ (n - absM n p) % 2 = 0 := by
  have := absM_near n p; have := absM_parity n p; omega

theorem nollM_spec (j : Nat) :
    (nollM j).natAbs = absM (nollRow j).1 (nollRow j).2 ∧ (j % 2 = 0 → 0 ≤ nollM j) ∧ (j % 2 = 1 → nollM j ≤ 0) := by
  unfold nollM; split <;> omega

theorem nollM_valid (j : Nat) (hj : 1 ≤ j) : (nollM j).natAbs ≤ nollN j ∧ (nollN j - (nollM j).natAbs) % 2 = 0 := by
  rw [(nollM_spec j).1]
  exact absM_valid _ _ (nollRow_spec j hj).1

theorem nollInv_spec (n : Nat) (m : Int) :
    (∃ q, nollInv n m = tri n + q + 1 ∧ q ≤ m.natAbs ∧ m.natAbs ≤ q + 1) ∧
    (0 < m → nollInv n m % 2 = 0) ∧ (m < 0 → nollInv n m % 2 = 1) := by
  refine ⟨⟨nollInv n m - tri n - 1, ?_⟩, ?_⟩
  all_goals
    unfold nollInv
    repeat' split
    all_goals omega

theorem nollInv_noll (j : Nat) (hj : 1 ≤ j) : nollInv (nollN j) (nollM j) = j := by
  obtain ⟨hp, e⟩ := nollRow_spec j hj
  obtain ⟨ha, s⟩ := nollM_spec j
  have hpa := absM_near (nollRow j).1 (nollRow j).2
  obtain ⟨⟨q, e', hq⟩, t⟩ := nollInv_spec (nollN j) (nollM j)
  unfold nollN at *
  -- `omega` compares its atoms up to unfolding, and `nollRow j` unfolds to the search
  generalize nollRow j = r at *
  omega

theorem noll_nollInv (n : Nat) (m : Int) (h1 : m.natAbs ≤ n) (h2 : (n - m.natAbs) % 2 = 0) :
    1 ≤ nollInv n m ∧ nollN (nollInv n m) = n ∧ nollM (nollInv n m) = m := by
  have hpar : m.natAbs % 2 = n % 2 := by omega
  obtain ⟨⟨q, e, hq⟩, t⟩ := nollInv_spec n m
  have hr := nollRow_of n q (Nat.le_trans hq.1 h1)
  obtain ⟨ha, s⟩ := nollM_spec (tri n + q + 1)
  rw [hr, absM_eq_of hpar hq.1 hq.2] at ha
  rw [e] at t ⊢
  refine ⟨Nat.le_add_left 1 _, congrArg Prod.fst hr, ?_⟩
  -- same absolute value (`ha`), signs tied to the parity of the same index (`s`, `t`); the rest only slows `omega` down
  clear h1 h2 hpar hq hr e
  omega

theorem noll_injective {j j' : Nat} (hj : 1 ≤ j) (hj' : 1 ≤ j') (hn : nollN j = nollN j') (hm : nollM j = nollM j') : j = j' := by
  rw [← nollInv_noll j hj, ← nollInv_noll j' hj', hn, hm]

/-! ### the literal list construction of `zernike_index` -/

theorem rowMLoop_map (n t k : Nat) (hk : k % 2 = n % 2) :
    rowMLoop t ((List.range (k + 1)).map (absM n)) = (List.range (k + 2 * t + 1)).map (absM n) := by
  induction t generalizing k with
  | zero => rfl
  | succ t ih =>
    have e : (List.range (k + 1)).map (absM n) ++ Gen.rowStep (((List.range (k + 1)).map (absM n)).getLastD 0)
        = (List.range (k + 2 + 1)).map (absM n) := by
      simp only [List.range_succ, List.map_append, List.map_cons, List.map_nil, List.getLastD_concat, Gen.rowStep,
        List.append_assoc, List.cons_append, List.nil_append]
      rw [absM_eq_of hk (Nat.le_refl k) (Nat.le_succ k), absM_eq_of (a := k + 2) (by omega) (Nat.le_succ _) (Nat.le_refl _),
        absM_eq_of (a := k + 2) (by omega) (Nat.le_refl _) (Nat.le_succ _)]
    rw [rowMLoop, e, ih (k + 2) (by omega), show k + 2 + 2 * t + 1 = k + 2 * (t + 1) + 1 by omega]

theorem rowMList_eq (n : Nat) : rowMList n = (List.range (n + 1)).map (absM n) := by
  have e := rowMLoop_map n (n / 2) (n % 2) (by omega)
  rw [show n % 2 + 2 * (n / 2) + 1 = n + 1 by omega] at e
  rw [← e]
  unfold rowMList Gen.rowSeed Gen.rowLoops
  split
  · next h =>
    rw [h]
    simp only [List.range_succ, List.range_zero, List.nil_append, List.cons_append, List.map_cons, List.map_nil]
    rw [absM_eq_of (a := 1) (by omega) (Nat.zero_le _) (Nat.le_refl _), absM_eq_of (a := 1) (by omega) (Nat.le_refl _) (Nat.le_succ _)]
  · next h =>
    rw [show n % 2 = 0 by omega]
    simp only [List.range_succ, List.range_zero, List.nil_append, List.map_cons, List.map_nil]
    rw [absM_eq_of (a := 0) (by omega) (Nat.le_refl _) (Nat.zero_le _)]

/-! ### the row search -/

theorem two_tri (n : ℕ) : 2 * tri n = n * (n + 1) :=
  Nat.mul_div_cancel' (Nat.even_mul_succ_self n).two_dvd

/-- `1 + 8·tri n = (2n + 1)²`, so for `tri n < j ≤ tri (n + 1)` the root `√(1 + 8j)` lies in `(2n + 1, 2n + 3]` -/
theorem ceil_rowSearch (n j : ℕ) (h1 : tri n < j) (h2 : j ≤ tri (n + 1)) :
    ⌈(-1 + Real.sqrt (1 + 8 * (j : ℝ))) / 2⌉ = (n : ℤ) + 1 := by
  have t : (2 : ℝ) * tri n = n * (n + 1) := by exact_mod_cast two_tri n
  have t' : ((tri (n + 1) : ℕ) : ℝ) = tri n + (n + 1) := by exact_mod_cast tri_succ n
  have h1' : (tri n : ℝ) + 1 ≤ j := by exact_mod_cast h1
  have h2' : (j : ℝ) ≤ tri (n + 1) := by exact_mod_cast h2
  have lo : 2 * (n : ℝ) + 1 < Real.sqrt (1 + 8 * (j : ℝ)) := by
    rw [Real.lt_sqrt (by positivity)]; linarith
  have hi : Real.sqrt (1 + 8 * (j : ℝ)) ≤ 2 * (n : ℝ) + 3 := by
    rw [Real.sqrt_le_left (by positivity)]; linarith
  rw [Int.ceil_eq_iff]
  push_cast
  constructor <;> linarith

end Lentil
