import LentilVerif.Model.PlaneType
/-! The plane-type machines of Model/PlaneType.lean (C08). The code's tables and the documented tables are the same functions
(`codeMul_eq_doc`, `codePropagate_eq_doc`), so the machines built on them are the same terms, for programs of any length. Besides:
what the Boolean table checks `classTableDriven` and `classConforms` say, and three facts about programs (refused steps leave the
state where it is; operations that leave every state where it is can be dropped; planes that keep the type are accepted one by one). -/
namespace Lentil.C08
open Gen Lentil.PT

theorem codeMul_eq_doc : codeMul = docMul := by
  funext w p; cases w <;> cases p <;> rfl
theorem codePropagate_eq_doc : codePropagate = docPropagate := by
  funext w; cases w <;> rfl

theorem mem_WType_all : ∀ w : WType, w ∈ WType.all := by
  intro w; cases w <;> simp [WType.all]

theorem classTableDriven_spec (c : PlaneClass) (h : classTableDriven c = true) (w : WType) :
    classMul c w = docMul w (classPtype c) := by
  simp only [classTableDriven, List.all_eq_true, beq_iff_eq] at h
  exact h w (mem_WType_all w)

theorem classConforms_spec (c : PlaneClass) (h : classConforms c = true) :
    ∀ p, docClassPtype c = some p →
      classPtype c = p ∧ (∀ w, classMul c w = docMul w p) ∧ (∃ w w', classMul c w = .ok w') := by
  intro p hp
  simp only [classConforms, hp, Bool.and_eq_true, beq_iff_eq, List.all_eq_true, List.any_eq_true] at h
  obtain ⟨⟨h1, h2⟩, w, _, hw⟩ := h
  refine ⟨h1, fun w => h2 w (mem_WType_all w), w, ?_⟩
  cases hr : classMul c w with
  | ok w' => exact ⟨w', rfl⟩
  | refused e => rw [hr] at hw; cases hw

/-- true by construction of the model (`next` threads the state through a program): NOT evidence about the code, where "a refused
operation leaves both operands unchanged" is carried by `no_write_before_guard` (structure) and the correspondence snapshots
(values: both operands' arrays untouched) -/
theorem refusal_preserves_state :
    (∀ w op e, codeStep w op = .refused e → next w (codeStep w op) = w)
    ∧ (∀ (prog : List Op) (w : WType), (∀ r ∈ codeRun w prog, ∃ e, r = .refused e) →
        finalWith codeMul codePropagate w prog = w) := by
  refine ⟨fun w op e h => by rw [h]; rfl, fun prog => ?_⟩
  induction prog with
  | nil => intro w _; rfl
  | cons op rest ih =>
    intro w h
    obtain ⟨e, he⟩ := h _ List.mem_cons_self
    have hn : next w (stepWith codeMul codePropagate w op) = w := by rw [he]; rfl
    rw [finalWith, hn]
    exact ih w fun r hr => h r (by rw [codeRun, runWith, hn]; exact List.mem_cons_of_mem _ hr)

theorem finalWith_filter (mul : WType → PType → Res) (prop : WType → Res) (keep : Op → Bool)
    (h : ∀ w op, keep op = false → next w (stepWith mul prop w op) = w) :
    ∀ (prog : List Op) (w : WType), finalWith mul prop w prog = finalWith mul prop w (prog.filter keep)
  | [], _ => rfl
  | op :: rest, w => by
    cases hk : keep op
    · rw [List.filter_cons_of_neg (by simp [hk]), finalWith, h w op hk]
      exact finalWith_filter mul prop keep h rest w
    · rw [List.filter_cons_of_pos hk, finalWith, finalWith]
      exact finalWith_filter mul prop keep h rest _

theorem classRun_neutral (w : WType) (t : List PlaneClass) (rest : List COp) (h : ∀ c ∈ t, classMul c w = .ok w) :
    classRun w (t.map .mul ++ rest) = t.map (fun _ => .ok w) ++ classRun w rest := by
  induction t with
  | nil => rfl
  | cons c t ih =>
    rw [List.map_cons, List.cons_append, classRun, classStep, h c List.mem_cons_self, next,
      ih fun c' hc' => h c' (List.mem_cons_of_mem _ hc')]
    rfl

end Lentil.C08
