import LentilVerif.Model.Tilt
import LentilVerif.Lemmas.Sums
import LentilVerif.Lemmas.Fourier
import Mathlib.Tactic.Ring
/-! For C04: the fold of tilt shifts is a sum of displacements; what `fit_tilt` subtracts are the tip and tilt rows of the basis, for a
segment as for one mask; the phasor field sees the OPD only where the amplitude does not vanish; and, at `K = ℂ`, `R = ℝ` (instances in
Lemmas/Fourier.lean), `exp(i·)` is additive, the one analytic hypothesis of C04's generic theorems. -/
namespace Lentil

section sums
variable {K : Type} [CommRing K]

theorem sumListB_nil {α : Type} (f : α → K) : sumList ([] : List α) f = 0 := rfl
end sums

section shift
variable {R : Type} [Field R] [RealLike R]

/-- displacement contributed by one element on its own (incoming shift zero) -/
def TiltEl.disp (e : TiltEl R) (z wl : R) : R × R := e.shift 0 0 z wl

theorem TiltEl.disp_angular (a b z wl : R) : (TiltEl.angular a b).disp z wl = (-(z * b), -(z * a)) := by
  simp only [TiltEl.disp, TiltEl.shift, Gen.tiltShift, zero_sub]

theorem TiltEl.shift_eq_add (e : TiltEl R) (xs ys z wl : R) :
    e.shift xs ys z wl = (xs + (e.disp z wl).1, ys + (e.disp z wl).2) := by
  cases e <;> simp only [TiltEl.shift, TiltEl.disp, Gen.tiltShift, Gen.dispersiveShift1, Gen.dispersiveTail] <;> refine Prod.ext ?_ ?_ <;> simp only <;> ring

theorem foldl_shift (ts : List (TiltEl R)) (z wl : R) (p : R × R) :
    ts.foldl (fun p e => e.shift p.1 p.2 z wl) p =
      (p.1 + (ts.map fun e => (e.disp z wl).1).sum, p.2 + (ts.map fun e => (e.disp z wl).2).sum) := by
  induction ts generalizing p with
  | nil => simp
  | cons e es ih =>
    rw [List.foldl_cons, ih, TiltEl.shift_eq_add, List.map_cons, List.map_cons, List.sum_cons, List.sum_cons, add_assoc, add_assoc]

theorem foldShift_angular_list (ab : List (R × R)) (z wl : R) :
    foldShift (ab.map fun p => TiltEl.angular p.1 p.2) z wl =
      foldShift [TiltEl.angular (ab.map Prod.fst).sum (ab.map Prod.snd).sum] z wl := by
  unfold foldShift
  rw [foldl_shift, foldl_shift, List.map_map, List.map_map]
  simp only [Function.comp_def, TiltEl.disp_angular, List.map_cons, List.map_nil, List.sum_cons, List.sum_nil, add_zero,
    ← neg_mul, List.sum_map_mul_left]
end shift

section fit
variable {R : Type} [Field R] [RealLike R]

theorem pttBasis_one (s0 s1 : Int) (px0 px1 : R) (mask : Int → Int → R) (i j : Int) :
    pttBasis s0 s1 px0 px1 mask 1 i j = RealLike.ofInt (cc s0 i) * px0 * mask i j := rfl

theorem pttBasis_two (s0 s1 : Int) (px0 px1 : R) (mask : Int → Int → R) (i j : Int) :
    pttBasis s0 s1 px0 px1 mask 2 i j = -RealLike.ofInt (cc s1 j) * px1 * mask i j := rfl

/-- `fit_tilt` subtracts the tip and tilt rows of the basis (generated slices), not the piston row -/
theorem fitSubtract_rows (s0 s1 : Int) (px0 px1 : R) (mask : Int → Int → R) (t : Int → R) (i j : Int) :
    fitSubtract s0 s1 px0 px1 mask t i j =
      pttBasis s0 s1 px0 px1 mask 1 i j * t 1 + pttBasis s0 s1 px0 px1 mask 2 i j * t 2 := by
  unfold fitSubtract
  rw [show (Gen.fitSubRows.2 - Gen.fitSubRows.1).toNat = 0 + 1 + 1 from rfl, sumRange_succ, sumRange_succ]
  exact congrArg (· + _) (zero_add _)

theorem fitSegSubtract_eq_fitSubtract (s0 s1 : Int) (px0 px1 : R) (seg : Int) (mask : Int → Int → R) (t : Int → R) (i j : Int) :
    fitSegSubtract s0 s1 px0 px1 seg mask t i j = fitSubtract s0 s1 px0 px1 mask t i j := by
  unfold fitSegSubtract fitSubtract
  have e : ((Gen.fitSegSubRows seg).2 - (Gen.fitSegSubRows seg).1).toNat = (Gen.fitSubRows.2 - Gen.fitSubRows.1).toNat := by
    simp only [Gen.fitSegSubRows, Gen.fitSubRows]; omega
  rw [e]
  refine sumRange_congr _ _ _ fun m _ => ?_
  have r : (Gen.fitSegSubRows seg).1 + (m : Int) - (Gen.pttSegRows seg).1 = Gen.fitSubRows.1 + m := by
    simp only [Gen.fitSegSubRows, Gen.pttSegRows, Gen.fitSubRows]; omega
  rw [r]; rfl

/-- the right-hand side is the ramp as `C04.tilt_absorbed_sample` has it; `+ 0` is the slice offset -/
theorem tiltRamp_on_mask (s0 s1 : Int) (px0 px1 : R) (mask : Int → Int → R) (thx thy : R) (i j : Int) (h : mask i j = 1) :
    tiltRamp s0 s1 px0 px1 mask thx thy i j =
      thx * RealLike.ofInt (cc s0 i + 0) * px0 - thy * RealLike.ofInt (cc s1 j + 0) * px1 := by
  rw [tiltRamp, h, mul_one, add_zero, add_zero]
end fit

section ramp
variable {K R : Type} [Field R] [RealLike R] [CommRing K] [CxLike K R]

theorem phasorField_congr (amp : Int → Int → K) (opd opd' : Int → Int → R) (wl : R) (s0 s1 o0 o1 : Int)
    (h : ∀ x y, amp x y = 0 ∨ opd x y = opd' x y) :
    phasorField amp opd wl s0 s1 o0 o1 = phasorField amp opd' wl s0 s1 o0 o1 := by
  unfold phasorField
  congr 2
  funext x y
  rcases h x y with h | h
  · rw [h, zero_mul, zero_mul]
  · rw [h]
end ramp

theorem expI_add_complex (a b : ℝ) : (CxLike.expI (a + b) : ℂ) = CxLike.expI a * CxLike.expI b := by
  show Complex.exp (((a + b : ℝ) : ℂ) * Complex.I) = Complex.exp ((a : ℂ) * Complex.I) * Complex.exp ((b : ℂ) * Complex.I)
  rw [← Complex.exp_add]; congr 1; push_cast; ring

end Lentil
