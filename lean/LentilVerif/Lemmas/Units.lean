import Mathlib.Tactic.Ring
import Mathlib.Tactic.FieldSimp
import Mathlib.Tactic.NormNum
import Mathlib.Algebra.Order.Field.Rat
import LentilVerif.Model.Units
/-! For C14 and C13: the two conversion tables as ratios of per-unit sizes, Planck's law through them, closed
forms of `Spectrum.to`, trapezoid sums and `zipWith` passes under rescaling -/
-- in C14's namespace: `C14.wave_factor_absolute` states the absolute scale of the generated table with it
namespace Lentil.C14
open Gen

/-- metres per unit, written here by hand (the SI prefixes), independently of the generated table -/
def metresPer : WUnit → ℚ
  | .m => 1
  | .um => 1 / 1000000
  | .nm => 1 / 1000000000
  | .angstrom => 1 / 10000000000

end Lentil.C14

namespace Lentil.Units
open Gen Lentil.Spec Lentil.C14

section
variable {K : Type} [Field K] [CharZero K]

/-- the generated table checked against the hand-written sizes; everything else about `waveTo` follows from this -/
theorem waveTo_eq (a b : WUnit) : (waveTo a b : K) = (metresPer a : K) / (metresPer b : K) := by
  cases a <;> cases b <;> simp only [waveTo, metresPer] <;> norm_num

theorem metresPer_pos (a : WUnit) : 0 < metresPer a := by
  cases a <;> norm_num [metresPer]

theorem metresPer_ne_zero (a : WUnit) : (metresPer a : K) ≠ 0 :=
  Rat.cast_ne_zero.mpr (metresPer_pos a).ne'

theorem waveTo_cocycle (a b c : WUnit) : (waveTo a b : K) * waveTo b c = waveTo a c := by
  simp only [waveTo_eq]
  exact div_mul_div_cancel₀ (metresPer_ne_zero b)

theorem waveTo_self (a : WUnit) : (waveTo a a : K) = 1 :=
  (waveTo_eq a a).trans (div_self (metresPer_ne_zero a))

theorem waveTo_ne_zero (a b : WUnit) : (waveTo a b : K) ≠ 0 :=
  (waveTo_eq a b).trans_ne (div_ne_zero (metresPer_ne_zero a) (metresPer_ne_zero b))

end

theorem waveTo_pos {K : Type} [Field K] [LinearOrder K] [IsStrictOrderedRing K] (a b : WUnit) : (0 : K) < waveTo a b := by
  rw [waveTo_eq]
  exact div_pos (Rat.cast_pos.mpr (metresPer_pos a)) (Rat.cast_pos.mpr (metresPer_pos b))

/-- W m⁻² m⁻¹ carried by one unit of flux at wavelength `w` metres: a photon carries h·c/w joules,
1 erg s⁻¹ cm⁻² = 10⁻³ W m⁻² -/
def wlamPer {K : Type} [Field K] (w H C : K) : FUnit → K
  | .photlam => H * C / w
  | .flam => 1 / 1000
  | .wlam => 1

theorem wlamPer_ne_zero {K : Type} [Field K] [CharZero K] {w H C : K} (hw : w ≠ 0) (hH : H ≠ 0) (hC : C ≠ 0) (a : FUnit) :
    wlamPer w H C a ≠ 0 := by
  cases a <;> simp [wlamPer, hw, hH, hC]

theorem fluxTo_eq {K : Type} [Field K] [CharZero K] {w H C : K} (hw : w ≠ 0) (hH : H ≠ 0) (hC : C ≠ 0) (f : K) (a b : FUnit) :
    fluxTo a b f w H C = f * wlamPer w H C a / wlamPer w H C b := by
  cases a <;> cases b <;> simp only [fluxTo, wlamPer, Nat.cast_ofNat, Nat.cast_one] <;> field_simp <;> ring

/-- Planck's law in SI units: the spectral radiance 2hc² / (x⁵ (exp(hc/(x k T)) − 1)) at the wavelength `x` metres -/
def planckSI {K : Type} [Field K] (expf : K → K) (H C kB x T : K) : K :=
  2 * H * (C * C) / (x * x * x * x * x * (expf (H * C / (x * kB * T)) - 1))

theorem planckRadiance_eq {K : Type} [Field K] (expf : K → K) (pi H C kB w T : K) (wu : WUnit) (vu : FUnit) :
    planckRadiance expf pi H C kB w T wu vu =
      fluxTo .wlam vu (planckSI expf H C kB (w * waveTo wu .m) T) (w * waveTo wu .m) H C / waveTo .m wu := by
  cases vu <;> simp only [planckRadiance, planckSI, fluxTo, Nat.cast_ofNat, Nat.cast_one]

/-- `toWave`/`toFlux` are defined through the generated per-sample steps `Gen.toStep*`: their two closed forms stop checking
when `Spectrum.to` changes which quantity is multiplied or divided by which factor -/
theorem toWave_eq (u : WUnit) (s : USpec) : toWave u s =
    (match s.vu with
     | some f => { wave := s.wave.map (· * (waveTo s.wu u : ℚ)), value := s.value.map (· / (waveTo s.wu u : ℚ)), wu := u, vu := some f }
     | none => { wave := s.wave.map (· * (waveTo s.wu u : ℚ)), value := s.value, wu := u, vu := none }) := by
  have hid : (Gen.toStepValueUnitless : ℚ → ℚ) = id := by funext v; rfl
  unfold toWave
  cases s.vu <;> simp [Gen.toStepWaveDensity, Gen.toStepValueDensity, Gen.toStepWaveUnitless, hid]

theorem toFlux_eq (g : FUnit) (H C : ℚ) (s : USpec) : toFlux g H C s =
    (match s.vu with
     | none => none
     | some f => some { wave := s.wave,
                        value := List.zipWith (fun v w => fluxTo f g (v / (waveTo s.wu .m : ℚ)) (w * (waveTo s.wu .m : ℚ)) H C / (waveTo .m s.wu : ℚ)) s.value s.wave,
                        wu := s.wu, vu := some g }) := by
  unfold toFlux
  cases s.vu <;> simp [Gen.toStepFlux]

/-- what `Spectrum.to(wave unit)` divides the values by when it multiplies the wavelengths by `k`: `k` for a per-wavelength
density, 1 (nothing) for a unitless spectrum -/
def vdiv : Option FUnit → ℚ → ℚ
  | some _, k => k
  | none, _ => 1

theorem toWave_eq' (u : WUnit) (s : USpec) : toWave u s =
    ⟨s.wave.map (· * waveTo s.wu u), s.value.map (· / vdiv s.vu (waveTo s.wu u)), u, s.vu⟩ := by
  rw [toWave_eq]; cases s.vu <;> simp [vdiv]

theorem toWave_wave (u : WUnit) (s : USpec) : (toWave u s).wave = s.wave.map (· * (waveTo s.wu u : ℚ)) := by
  rw [toWave_eq']

theorem toWave_wu (u : WUnit) (s : USpec) : (toWave u s).wu = u := by
  rw [toWave_eq']

theorem toWave_vu (u : WUnit) (s : USpec) : (toWave u s).vu = s.vu := by
  rw [toWave_eq']

theorem toWave_toWave (s : USpec) (b c : WUnit) : toWave c (toWave b s) = toWave c s := by
  cases hv : s.vu <;>
    simp only [toWave_eq, hv, List.map_map, Function.comp_def, mul_assoc, div_div, waveTo_cocycle]

theorem toWave_self (s : USpec) : toWave s.wu s = s := by
  cases s with
  | mk wave value wu vu => cases vu <;> simp [toWave_eq, waveTo_self]

theorem wave_ofName?_name (a : WUnit) : WUnit.ofName? a.name = some a := by cases a <;> rfl
theorem flux_ofName?_name (g : FUnit) : FUnit.ofName? g.name = some g := by cases g <;> rfl
theorem wave_ofName?_fluxName (g : FUnit) : WUnit.ofName? g.name = none := by cases g <;> rfl

theorem applyTo_wave (H C : ℚ) (s : USpec) (a : WUnit) (l : List String) :
    applyTo H C s (a.name :: l) = applyTo H C (toWave a s) l := by
  simp only [applyTo, wave_ofName?_name]

theorem applyTo_flux (H C : ℚ) (s : USpec) (g : FUnit) (l : List String) : applyTo H C s (g.name :: l) =
    match toFlux g H C s with
    | some s' => applyTo H C s' l
    | none => (s, some "TypeError") := by
  simp only [applyTo, wave_ofName?_fluxName, flux_ofName?_name]
  rfl

/-! ### what `toWave` and `toFlux` do to the two arrays: the trapezoid sum under a rescaling, `zipWith` passes -/

theorem trapz_nil_left (v : List ℚ) : trapz [] v = 0 := by simp [trapz]
theorem trapz_single_left (x : ℚ) (v : List ℚ) : trapz [x] v = 0 := by simp [trapz]

theorem trapz_scale (k : ℚ) (hk : k ≠ 0) : ∀ w v : List ℚ, trapz (w.map (· * k)) (v.map (· / k)) = trapz w v
  | x0 :: x1 :: xs, y0 :: y1 :: ys => by
    have ih := trapz_scale k hk (x1 :: xs) (y1 :: ys)
    simp only [List.map_cons, trapz] at ih ⊢
    rw [ih, ← sub_mul, ← add_div, mul_assoc, mul_div_cancel₀ _ hk]
  | [], _ | [_], _ | _ :: _ :: _, [] | _ :: _ :: _, [_] => by simp [trapz]

theorem map_mul_one (l : List ℚ) : l.map (· * (1 : ℚ)) = l := by simp
theorem map_div_one (l : List ℚ) : l.map (· / (1 : ℚ)) = l := by simp

theorem zipWith_comp {α β : Type} (F G F' : α → β → α) (P : β → Prop) (h : ∀ v w, P w → G (F v w) w = F' v w) :
    ∀ (vs : List α) (ws : List β), (∀ w ∈ ws, P w) → List.zipWith G (List.zipWith F vs ws) ws = List.zipWith F' vs ws
  | [], _, _ => by simp
  | _ :: _, [], _ => by simp
  | v :: vs, w :: ws, hp => by
    rw [List.forall_mem_cons] at hp
    simp only [List.zipWith_cons_cons, h v w hp.1, zipWith_comp F G F' P h vs ws hp.2]

theorem zipWith_fst {α β : Type} (vs : List α) (ws : List β) (h : vs.length ≤ ws.length) :
    List.zipWith (fun v _ => v) vs ws = vs := by
  rw [← List.map_uncurry_zip_eq_zipWith]
  exact List.map_fst_zip h

theorem length_zipWith_eq (F : ℚ → ℚ → ℚ) (vs ws : List ℚ) (h : vs.length = ws.length) :
    (List.zipWith F vs ws).length = vs.length := by simp [h]

end Lentil.Units
