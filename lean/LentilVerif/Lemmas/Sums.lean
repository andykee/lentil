import LentilVerif.Model.Basic
import Mathlib.Algebra.BigOperators.Intervals
import Mathlib.Data.Int.Interval
/-! The model's executable folds `sumList` and `sumRange` (Model/Basic.lean) are Mathlib's `List.sum` and `Finset.sum`; the
facts about sums over integer ranges (windows, circular shifts and reflections modulo `n`) that the array lemmas share; and what a fold
of `min`, `max` or another selecting operation returns.

Which of the two a statement uses: the algebra of fields on the plane keeps the model's `sumList` (its lemmas are in
Lemmas/Field.lean, with `sumList_filterMap_emb` in Canvas.lean; used in Merge, PlaneAlg, SplitPlane, PropLinear, Props C03, C04, C06, C07;
Field, PlaneAlg, ChainExtents and SplitPlane cannot import this file, see the header of PlaneAlg.lean), the modules that compute with
sums (Fourier, Canvas, Reduce, the energy and Zernike modules, Props C01, C02, C05, C09) state in `List.sum`/`Finset.sum`. A proof that
needs the other side starts with `sumList_eq_sum`/`sumRange_eq`, in either direction. -/
namespace Lentil
open Finset

theorem sumList_eq_sum {K : Type*} [AddMonoid K] {α} (l : List α) (f : α → K) : sumList l f = (l.map f).sum := by
  unfold sumList; rw [List.sum_eq_foldl, List.foldl_map]

theorem sumRange_eq {K} [AddCommMonoid K] (n : ℕ) (f : ℕ → K) : sumRange n f = ∑ i ∈ range n, f i :=
  sumList_eq_sum (List.range n) f

/-- the shape in which the radial tables of `Model/ZernikeRadial.lean` are written -/
theorem foldl_map_range {M : Type*} [AddCommMonoid M] (n : ℕ) (f : ℕ → M) :
    ((List.range n).map f).foldl (· + ·) 0 = ∑ i ∈ range n, f i := by
  rw [← List.sum_eq_foldl]; rfl

/-! The model's definitions are generic in `[Add K] [Zero K]`, where there is no big operator to go to. -/

theorem sumRange_succ {K : Type*} [Add K] [Zero K] (n : Nat) (f : Nat → K) : sumRange (n + 1) f = sumRange n f + f n := by
  unfold sumRange; rw [List.range_succ, List.foldl_append]; rfl

theorem sumRange_congr {K : Type*} [Add K] [Zero K] (n : Nat) (f g : Nat → K) (h : ∀ i, i < n → f i = g i) :
    sumRange n f = sumRange n g :=
  List.foldl_ext _ _ _ fun a i hi => congrArg (a + ·) (h i (List.mem_range.mp hi))

theorem sum4_comm {ι A : Type*} [AddCommMonoid A] (U V P Q : Finset ι) (T : ι → ι → ι → ι → A) :
    ∑ u ∈ U, ∑ v ∈ V, ∑ a ∈ P, ∑ b ∈ Q, T u v a b = ∑ a ∈ P, ∑ b ∈ Q, ∑ u ∈ U, ∑ v ∈ V, T u v a b := by
  rw [sum_congr rfl fun u _ => sum_comm, sum_comm]
  refine sum_congr rfl fun a _ => ?_
  rw [sum_congr rfl fun u _ => sum_comm, sum_comm]

/-- a fold of a selecting operation (`op a b` is `a` or `b`, and below both for `R`): the result is below the start and every
member, and is the start or a member. `min`/`≤` and `max`/`≥` are the instances. -/
theorem foldl_select {α β : Type} (op : α → α → α) (R : α → α → Prop) (hrefl : ∀ a, R a a)
    (htrans : ∀ a b c, R a b → R b c → R a c) (hR : ∀ a b, R (op a b) a ∧ R (op a b) b)
    (hsel : ∀ a b, op a b = a ∨ op a b = b) (π : β → α) (l : List β) (a m : α)
    (hm : l.foldl (fun a y => op a (π y)) a = m) :
    R m a ∧ (∀ y ∈ l, R m (π y)) ∧ (m = a ∨ ∃ y ∈ l, π y = m) := by
  subst hm
  induction l generalizing a with
  | nil => exact ⟨hrefl a, (fun _ h => nomatch h), Or.inl rfl⟩
  | cons x xs ih =>
    obtain ⟨h1, h2, h3⟩ := ih (op a (π x))
    refine ⟨htrans _ _ _ h1 (hR a (π x)).1, List.forall_mem_cons.mpr ⟨htrans _ _ _ h1 (hR a (π x)).2, h2⟩, ?_⟩
    rcases h3 with h | ⟨y, hy, h⟩
    · rcases hsel a (π x) with e | e
      · exact Or.inl (h.trans e)
      · exact Or.inr ⟨x, List.mem_cons_self, (h.trans e).symm⟩
    · exact Or.inr ⟨y, List.mem_cons_of_mem _ hy, h⟩

theorem sum_range_add_eq_Ico {A : Type*} [AddCommMonoid A] (g : ℤ → A) (M : ℕ) (U0 : ℤ) :
    ∑ u ∈ range M, g (U0 + u) = ∑ U ∈ Finset.Ico U0 (U0 + M), g U := by
  rw [Int.Ico_eq_finset_map, sum_map, add_sub_cancel_left, Int.toNat_natCast]
  rfl

theorem sum_window {A : Type*} [AddCommMonoid A] (g : ℤ → A) (lo : ℤ) (m : ℕ) (R0 : ℤ) (H : ℕ)
    (h0 : R0 ≤ lo) (h1 : lo + m ≤ R0 + H) (hz : ∀ r, ¬ (lo ≤ r ∧ r < lo + m) → g r = 0) :
    ∑ k ∈ range H, g (R0 + k) = ∑ x ∈ range m, g (lo + x) := by
  rw [sum_range_add_eq_Ico, sum_range_add_eq_Ico]
  exact (sum_subset (Ico_subset_Ico h0 h1) fun z _ h => hz z (mt mem_Ico.mpr h)).symm

/-- `sum_window` on both axes of a double sum with a factor on each side -/
theorem sum_window2 {A : Type*} [NonUnitalNonAssocSemiring A] (a b : ℤ → A) (E : ℤ → ℤ → A) (lo0 lo1 : ℤ) (m n : ℕ)
    (R0 C0 : ℤ) (H W : ℕ) (h0 : R0 ≤ lo0 ∧ lo0 + m ≤ R0 + H) (h1 : C0 ≤ lo1 ∧ lo1 + n ≤ C0 + W)
    (hr : ∀ r c, ¬ (lo0 ≤ r ∧ r < lo0 + m) → E r c = 0) (hc : ∀ r c, ¬ (lo1 ≤ c ∧ c < lo1 + n) → E r c = 0) :
    ∑ l ∈ range W, (∑ k ∈ range H, a (R0 + k) * E (R0 + k) (C0 + l)) * b (C0 + l)
      = ∑ y ∈ range n, (∑ x ∈ range m, a (lo0 + x) * E (lo0 + x) (lo1 + y)) * b (lo1 + y) := by
  rw [sum_window (fun c => (∑ k ∈ range H, a (R0 + k) * E (R0 + k) c) * b c) lo1 n C0 W h1.1 h1.2
    fun c hc' => by rw [sum_eq_zero fun k _ => by rw [hc _ c hc', mul_zero], zero_mul]]
  exact sum_congr rfl fun y _ => congrArg (· * _)
    (sum_window (fun r => a r * E r (lo1 + y)) lo0 m R0 H h0.1 h0.2 fun r hr' => by rw [hr r _ hr', mul_zero])

theorem sum_roll1 {A : Type*} [AddCommMonoid A] (n : ℕ) (g : ℤ → A) (b : ℤ) :
    ∑ j ∈ range n, g (((j : ℤ) - b) % n) = ∑ j ∈ range n, g j := by
  have himg : (Ico (-b) (-b + n)).image (· % (n : ℤ)) = Ico 0 (0 + (n : ℤ)) := by
    rw [Int.image_Ico_emod _ _ (Int.natCast_nonneg n), zero_add]
  have hinj : Set.InjOn (· % (n : ℤ)) (Ico (-b) (-b + n) : Finset ℤ) :=
    card_image_iff.mp (by rw [himg, Int.card_Ico, Int.card_Ico, add_sub_cancel_left, add_sub_cancel_left])
  calc ∑ j ∈ range n, g (((j : ℤ) - b) % n) = ∑ U ∈ Ico (-b) (-b + n), g (U % n) := by
        rw [← sum_range_add_eq_Ico]; exact sum_congr rfl fun j _ => by rw [neg_add_eq_sub]
    _ = ∑ V ∈ Ico 0 (0 + (n : ℤ)), g V := by rw [← himg, sum_image hinj]
    _ = ∑ j ∈ range n, g j := by rw [← sum_range_add_eq_Ico]; exact sum_congr rfl fun j _ => by rw [zero_add]

theorem sum_neg1 {A : Type*} [AddCommMonoid A] (n : ℕ) (g : ℤ → A) :
    ∑ j ∈ range n, g ((-(j : ℤ)) % n) = ∑ j ∈ range n, g j := by
  -- reflect the range (`j ↦ n − 1 − j`), then roll by `n − 1`: `−j = (n − 1 − j) − (n − 1)`
  rw [← sum_roll1 n g ((n : ℤ) - 1), ← sum_range_reflect]
  refine sum_congr rfl fun j hj => ?_
  have hj' := mem_range.mp hj
  rw [Nat.cast_sub (by omega), Nat.cast_sub (by omega)]
  congr 2; omega

theorem sum_roll2 {A : Type*} [AddCommMonoid A] (m n : ℕ) (g : ℤ → ℤ → A) (p q : ℤ) :
    ∑ a ∈ range m, ∑ b ∈ range n, g (((a : ℤ) - p) % m) (((b : ℤ) - q) % n) = ∑ a ∈ range m, ∑ b ∈ range n, g a b := by
  rw [sum_roll1 m (fun z => ∑ b ∈ range n, g z (((b : ℤ) - q) % n)) p]
  exact sum_congr rfl fun a _ => sum_roll1 n (g a) q

theorem sum_neg2 {A : Type*} [AddCommMonoid A] (m n : ℕ) (g : ℤ → ℤ → A) :
    ∑ a ∈ range m, ∑ b ∈ range n, g ((-(a : ℤ)) % m) ((-(b : ℤ)) % n) = ∑ a ∈ range m, ∑ b ∈ range n, g a b := by
  rw [sum_neg1 m (fun z => ∑ b ∈ range n, g z ((-(b : ℤ)) % n))]
  exact sum_congr rfl fun a _ => sum_neg1 n (g a)

theorem emod_range_nat (n : ℕ) (i : ℕ) (hi : i ∈ range n) : ((i : ℤ)) % (n : ℤ) = i :=
  Int.emod_eq_of_lt (Int.natCast_nonneg i) (Int.ofNat_lt.mpr (mem_range.mp hi))

end Lentil
