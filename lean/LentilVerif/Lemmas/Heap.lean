import LentilVerif.Model.Heap
/-! The heap model one call at a time: which cells a call may write, what `step` does to the components `val`, `rng` and `cache`
of the state, and a history as the fold of its calls. Core Lean only; the property theorems are in Props/C10.lean. -/
namespace Lentil.Heap

theorem mem_writeCells (tbl : List Gen.EffRow) (s : State) (op : Op) (c : Cell) :
    c ∈ writeCells tbl s op ↔ ∃ b ∈ op.bind, b.1 ∈ writeSlots tbl op ∧
      (c = b.2 ∨ ∃ a, (a, c) ∈ s.refs b.2 ∧ (a = "*" ∨ (writeAttrs tbl op b.1).isEmpty = true ∨ a ∈ writeAttrs tbl op b.1)) := by
  simp only [writeCells, List.mem_flatMap, List.mem_filter, List.contains_eq_mem, decide_eq_true_eq, List.mem_cons, List.mem_map,
    Bool.or_eq_true, beq_iff_eq, or_assoc, and_assoc, Prod.exists, exists_eq_right_right]

theorem frame_step (tbl : List Gen.EffRow) (s : State) (op : Op) (c : Cell) (h1 : op.res ≠ some c)
    (h2 : c ∉ writeCells tbl s op) : (step tbl s op).val c = s.val c := by
  simp [step, h1, h2]

theorem run_cons (tbl : List Gen.EffRow) (s : State) (op : Op) (ops : List Op) :
    run tbl s (op :: ops) = run tbl (step tbl s op) ops := rfl

theorem run_append (tbl : List Gen.EffRow) (s : State) (a b : List Op) :
    run tbl s (a ++ b) = run tbl (run tbl s a) b := List.foldl_append

theorem run_invariant (tbl : List Gen.EffRow) (P : State → Prop) (ops : List Op)
    (hstep : ∀ op ∈ ops, ∀ s, P s → P (step tbl s op)) (s : State) (hs : P s) : P (run tbl s ops) :=
  List.foldlRecOn ops (step tbl) hs fun s hs op hop => hstep op hop s hs

theorem rng_step (tbl : List Gen.EffRow) (s : State) (op : Op) (h : usesGlobalRng tbl op.fn = false) :
    (step tbl s op).rng = s.rng := by simp [step, h]

theorem cache_step (tbl : List Gen.EffRow) (s : State) (op : Op) (h : writesCache tbl op.fn = false) (hs : CacheOK s) :
    CacheOK (step tbl s op) := by
  intro k v hv
  simp only [step, h, Bool.false_eq_true, if_false] at hv
  split at hv
  · cases hv
  · split at hv
    · cases hc : s.cache k with
      | none => simp [hc] at hv; exact hv.symm
      | some w => simp [hc] at hv; subst hv; exact hs k w hc
    · exact hs k v hv

theorem lookup_of_ok (s : State) (hs : CacheOK s) (k : Key) : lookup s k = freshCoords k := by
  unfold lookup
  cases hc : s.cache k with
  | none => rfl
  | some v => exact hs k v hc

theorem row?_mem (tbl : List Gen.EffRow) (fn : String) (r : Gen.EffRow) (h : row? tbl fn = some r) : r ∈ tbl ∧ r.fn = fn := by
  unfold row? at h
  exact ⟨List.mem_of_find?_eq_some h, by simpa using List.find?_some h⟩

theorem tableOK_iff (tbl : List Gen.EffRow) :
    tableOK tbl = true ↔ ∀ r ∈ tbl, r.pub = true → ∀ w ∈ r.writes, (r.fn, w.1) ∈ documentedInPlace := by
  simp only [tableOK, List.all_eq_true, Bool.or_eq_true, Bool.not_eq_true', List.contains_eq_mem, decide_eq_true_eq]
  exact forall₂_congr fun r _ => by cases r.pub <;> simp

theorem mem_writeSlots {tbl : List Gen.EffRow} {op : Op} {r : Gen.EffRow} (h : row? tbl op.fn = some r) {x : String}
    (hx : x ∈ writeSlots tbl op) : x ∈ r.writes.map (·.1) := by
  simp only [writeSlots, h] at hx
  split at hx
  · exact absurd hx List.not_mem_nil
  · exact hx

end Lentil.Heap
