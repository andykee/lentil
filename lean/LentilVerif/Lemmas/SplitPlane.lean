import LentilVerif.Lemmas.ChainExtents
import LentilVerif.Model.PlaneTilt
/-! One plane in two descriptions (`SplitPlane`: its mask split into segments, and the single union mask), the two
descriptions of a whole chain with Tilt planes in it (`descr`, `splits`), and the witness the non-vacuity examples use. What this
file may import is limited by the statement of `Witness.chain_ok`: see the head of Lemmas/PlaneAlg.lean. -/
namespace Lentil
variable {K R : Type}

/-- one plane in two descriptions: the segment list `l` and the single union mask `g0` -/
structure SplitPlane (K R : Type) where
  amp : Attr K
  opd : Attr R
  S0 : Int
  S1 : Int
  l : List Seg
  g0 : Seg

def SplitPlane.seg (s : SplitPlane K R) : PlaneM K R := ⟨s.amp, s.opd, .segs s.S0 s.S1 s.l⟩
def SplitPlane.mono (s : SplitPlane K R) : PlaneM K R := ⟨s.amp, s.opd, .segs s.S0 s.S1 [s.g0]⟩

/-- `l` is a partition of `g0`: pairwise disjoint supports whose union is `g0`'s mask; all slices cover and are not a pixel -/
def SplitPlane.WF (s : SplitPlane K R) : Prop :=
  SegsOK s.S0 s.S1 s.l ∧ SegsOK s.S0 s.S1 [s.g0] ∧
  (s.l.map Seg.m).Pairwise (fun a b => ∀ i j, ¬ (a i j = true ∧ b i j = true)) ∧
  ∀ i j, s.g0.m i j = (s.l.map Seg.m).any (fun m => m i j)

theorem SplitPlane.WF.seg_ok {s : SplitPlane K R} (h : s.WF) : s.seg.ok := h.1
theorem SplitPlane.WF.mono_ok {s : SplitPlane K R} (h : s.WF) : s.mono.ok := h.2.1

theorem SplitPlane.planeT_eq [NonUnitalNonAssocSemiring K] (ph : R → K) (s : SplitPlane K R) (hwf : s.WF) :
    planeT ph s.seg = planeT ph s.mono := by
  obtain ⟨h1, h2, hdis, hM⟩ := hwf
  have hg0 : s.g0.m = fun i j => (s.l.map Seg.m).any (fun m => m i j) := funext fun i => funext fun j => hM i j
  funext r c
  unfold SplitPlane.seg SplitPlane.mono
  rw [planeT_segs ph s.amp s.opd s.S0 s.S1 s.l h1, planeT_segs ph s.amp s.opd s.S0 s.S1 [s.g0] h2, sumList_singleton, hg0,
    ← sumList_map_comp s.l Seg.m (fun m => segFactor ph s.amp s.opd s.S0 s.S1 m r c), segFactor_sum_disjoint _ _ _ _ _ _ hdis]

/-- the chain elements of one description: every `SplitPlane` as its segmented or its monolithic plane, Tilt planes as they are -/
def descr (seg : Bool) : List (SplitPlane K R ⊕ TiltEl R) → List (ChainEl K R)
  | [] => []
  | .inl s :: r => .pl (if seg then s.seg else s.mono) :: descr seg r
  | .inr e :: r => .tl e :: descr seg r

def splits : List (SplitPlane K R ⊕ TiltEl R) → List (SplitPlane K R)
  | [] => []
  | .inl s :: r => s :: splits r
  | .inr _ :: r => splits r

theorem chainPlanes_descr (seg : Bool) (els : List (SplitPlane K R ⊕ TiltEl R)) :
    chainPlanes (descr seg els) = (splits els).map (fun s => if seg then s.seg else s.mono) := by
  induction els with
  | nil => rfl
  | cons el els ih => cases el <;> simp [descr, splits, chainPlanes, ih]

theorem chainTilts_descr (seg : Bool) (els : List (SplitPlane K R ⊕ TiltEl R)) :
    chainTilts (descr seg els) = chainTilts (descr true els) := by
  induction els with
  | nil => rfl
  | cons el els ih => cases el <;> simp [descr, chainTilts, ih]

end Lentil

namespace Lentil.Witness
open Lentil
def sp : SplitPlane Int Int := ⟨.scalar 2, .scalar 0, 5, 5, [g2, g3], g23⟩

theorem sp_wf : sp.WF := by
  refine ⟨List.forall_mem_cons.mpr ⟨g2_ok, List.forall_mem_singleton.mpr ?_⟩, List.forall_mem_singleton.mpr ?_, g23_disjoint, fun _ _ => rfl⟩
  · refine ⟨⟨by decide, by decide, by decide, by decide, ?_⟩, by decide⟩
    intro i j _ _ _ _ h
    simp only [g3, Bool.and_eq_true, decide_eq_true_eq] at h ⊢
    omega
  · refine ⟨⟨by decide, by decide, by decide, by decide, ?_⟩, by decide⟩
    intro i j _ _ _ _ h
    simp only [sp, g23, g2, g3, List.any_cons, List.any_nil, Bool.or_false, Bool.or_eq_true, Bool.and_eq_true, decide_eq_true_eq] at h ⊢
    omega

theorem chain_ok : ChainOK ph1 [(⟨.scalar 2, .scalar 0, .segs 5 5 [g2, g3]⟩ : PlaneM Int Int)] [w0] :=
  (chainOK_fresh ph1 w0 rfl sp.seg [] (List.forall_mem_singleton.mpr sp_wf.seg_ok) trivial).1

theorem sp_sp_wf : ∀ x ∈ [sp, sp], x.WF := List.forall_mem_cons.mpr ⟨sp_wf, List.forall_mem_singleton.mpr sp_wf⟩

theorem sp_ext : ExtOK ([sp].map fun x => x.seg.boxes) sp.seg.boxes ∧ ExtOK ([sp].map fun x => x.mono.boxes) sp.mono.boxes :=
  ⟨(extOKb_iff _ _).mp (by decide), (extOKb_iff _ _).mp (by decide)⟩

end Lentil.Witness
