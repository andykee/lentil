import LentilVerif.Model.Plane
import LentilVerif.Model.Propagate
import LentilVerif.Lemmas.Field
import LentilVerif.Lemmas.Geometry
import Mathlib.Algebra.Ring.Defs
/-! What one plane does to a list of fields, pixel by pixel: the per-segment phasor and its transmission `segFactor`, the
transmission `planeT` of a whole plane, and the views in terms of the generated wiring; sums are the model's `sumList`, whose
algebra is in Lemmas/Field.lean. The imports stay light: Lemmas/SplitPlane.lean, which builds on this file, states
`Witness.chain_ok` over `Int`, and with Mathlib's `Int.instSemiring` in scope (Lemmas/Sums.lean brings it in) the `Zero Int` of
that statement elaborates to `MulZeroClass.toZero` instead of `Zero.ofOfNat0`: definitionally the same, but another term, and the
statement is kept as it stands. So Lemmas/Sums.lean is not imported here, in what this file builds on (Field, Extent, Geometry), in
Lemmas/ChainExtents.lean or in Lemmas/SplitPlane.lean, and the `sumList` lemmas are inductions, not instances of `List.sum` lemmas. -/
namespace Lentil
variable {K : Type}

/-! ### fields: a slice as an embedding -/

/-- `arr[r0:r1, c0:c1]` carried at `slice_offset(s, shape)`: pixel `(i, j)` of `arr` sits at `(i - S0/2, j - S1/2)` whatever the slice -/
theorem emb_slice [Zero K] (g : Int → Int → K) (r0 r1 c0 c1 S0 S1 r c : Int) :
    (Fld.mk ⟨r1 - r0, c1 - c0, fun i j => g (i + r0) (j + c0)⟩
        (Gen.sliceOffset r0 r1 c0 c1 S0 S1).1 (Gen.sliceOffset r0 r1 c0 c1 S0 S1).2).emb r c
      = if r0 ≤ r + S0 / 2 ∧ r + S0 / 2 < r1 ∧ c0 ≤ c + S1 / 2 ∧ c + S1 / 2 < c1 then g (r + S0 / 2) (c + S1 / 2) else 0 := by
  rw [Fld.emb_apply, sliceOffset_eq]
  simp only
  exact if_ctx_congr (by omega) (fun _ => by congr 1 <;> omega) (fun _ => rfl)

/-! ### the transmission of a segment and of a plane -/
variable {R : Type}

/-- what one segment of a plane of shape `(S0, S1)` does at the global coordinate `(r, c)`: pixel `(i, j)` of the plane
sits at `(i - S0/2, j - S1/2)`; `amplitude * exp(2 pi i opd / wavelength)` where the segment's mask is set, `0`
elsewhere (also outside the plane) -/
def segFactor [Zero K] [Mul K] (ph : R → K) (amp : Attr K) (opd : Attr R) (S0 S1 : Int) (m : Int → Int → Bool) (r c : Int) : K :=
  if 0 ≤ r + S0 / 2 ∧ r + S0 / 2 < S0 ∧ 0 ≤ c + S1 / 2 ∧ c + S1 / 2 < S1 ∧ m (r + S0 / 2) (c + S1 / 2) = true
  then amp.at (r + S0 / 2) (c + S1 / 2) * ph (opd.at (r + S0 / 2) (c + S1 / 2)) else 0

/-- the bounding slice lies inside the plane and contains the support of the mask (what `boundary_slice` delivers) -/
def Seg.covers (S0 S1 : Int) (g : Seg) : Prop :=
  0 ≤ g.s.r0 ∧ g.s.r1 ≤ S0 ∧ 0 ≤ g.s.c0 ∧ g.s.c1 ≤ S1 ∧
  ∀ i j, 0 ≤ i → i < S0 → 0 ≤ j → j < S1 → g.m i j = true → g.s.r0 ≤ i ∧ i < g.s.r1 ∧ g.s.c0 ≤ j ∧ j < g.s.c1

/-- the mask factor zeroes the foreign pixels inside the box, so any bounding slice that covers the support will do -/
theorem segPhasor_emb [MulZeroClass K] (ph : R → K) (amp : Attr K) (opd : Attr R) (S0 S1 : Int) (g : Seg)
    (hc : g.covers S0 S1) (r c : Int) :
    (segPhasor ph amp opd S0 S1 g).emb r c = segFactor ph amp opd S0 S1 g.m r c := by
  obtain ⟨h1, h2, h3, h4, hcov⟩ := hc
  rw [show (segPhasor ph amp opd S0 S1 g).emb r c = _ from
    emb_slice (fun i j => maskMul (g.m i j) (amp.at i j) * ph (opd.at i j)) g.s.r0 g.s.r1 g.s.c0 g.s.c1 S0 S1 r c]
  unfold segFactor maskMul
  by_cases hm : g.m (r + S0 / 2) (c + S1 / 2) = true
  · -- on the mask, "inside the box" and "inside the plane" are the same
    rw [if_pos hm]
    apply if_congr _ rfl rfl
    exact ⟨fun hb => ⟨by omega, by omega, by omega, by omega, hm⟩,
      fun hi => hcov _ _ hi.1 hi.2.1 hi.2.2.1 hi.2.2.2.1 hm⟩
  · rw [if_neg hm, zero_mul, ite_self, if_neg (fun hi => hm hi.2.2.2.2)]

theorem segPhasor_size1 [Zero K] [Mul K] (ph : R → K) (amp : Attr K) (opd : Attr R) (S0 S1 : Int) (g : Seg)
    (hbig : ¬ (g.s.r1 - g.s.r0 = 1 ∧ g.s.c1 - g.s.c0 = 1)) : (segPhasor ph amp opd S0 S1 g).size1 = false := by
  rw [Bool.eq_false_iff]
  exact fun hh => hbig ((Fld.size1_iff _).mp hh)

theorem segPhasor_sem [MulZeroClass K] (ph : R → K) (amp : Attr K) (opd : Attr R) (S0 S1 : Int) (g : Seg)
    (hc : g.covers S0 S1) (hbig : ¬ (g.s.r1 - g.s.r0 = 1 ∧ g.s.c1 - g.s.c0 = 1)) (r c : Int) :
    (segPhasor ph amp opd S0 S1 g).sem r c = segFactor ph amp opd S0 S1 g.m r c := by
  rw [Fld.sem_of_size1_false _ (segPhasor_size1 ph amp opd S0 S1 g hbig), segPhasor_emb ph amp opd S0 S1 g hc]

/-- the transmission of a whole plane at a global coordinate: the sum of its phasors, one-element phasors read as
constants -/
def planeT [Add K] [Mul K] [Zero K] (ph : R → K) (p : PlaneM K R) (r c : Int) : K :=
  sumList (planePhasors ph p) (fun q => q.sem r c)

/-- every segment's slice covers its mask's support, is non-empty and is not a single pixel (a `(1, 1)` array would broadcast) -/
def SegsOK (S0 S1 : Int) (l : List Seg) : Prop :=
  ∀ g ∈ l, g.covers S0 S1 ∧ (g.s.r0 < g.s.r1 ∧ g.s.c0 < g.s.c1 ∧ ¬ (g.s.r1 - g.s.r0 = 1 ∧ g.s.c1 - g.s.c0 = 1))

/-- an array mask whose segments are `SegsOK`. False of a plane with a 0-d mask (`Plane()` too): those go through
`C07.scalar_mask_phasor` and `planeMultiply_default_id` -/
def PlaneM.ok (p : PlaneM K R) : Prop :=
  match p.mask with
  | .scalar _ => False
  | .segs S0 S1 l => SegsOK S0 S1 l

theorem planeT_segs [NonUnitalNonAssocSemiring K] (ph : R → K) (amp : Attr K) (opd : Attr R) (S0 S1 : Int) (l : List Seg)
    (hl : SegsOK S0 S1 l) (r c : Int) :
    planeT ph ⟨amp, opd, .segs S0 S1 l⟩ r c = sumList l (fun g => segFactor ph amp opd S0 S1 g.m r c) := by
  unfold planeT
  simp only [planePhasors]
  rw [sumList_map_comp]
  exact sumList_congr _ _ _ fun g hg => segPhasor_sem ph amp opd S0 S1 g (hl g hg).1 (hl g hg).2.2.2 r c

theorem segFactor_sum_disjoint [NonUnitalNonAssocSemiring K] (ph : R → K) (amp : Attr K) (opd : Attr R) (S0 S1 : Int)
    (ms : List (Int → Int → Bool)) (hdis : ms.Pairwise (fun a b => ∀ i j, ¬ (a i j = true ∧ b i j = true))) (r c : Int) :
    sumList ms (fun m => segFactor ph amp opd S0 S1 m r c)
      = segFactor ph amp opd S0 S1 (fun i j => ms.any (fun m => m i j)) r c := by
  induction ms with
  | nil => simp [segFactor]
  | cons m ms ih =>
    rw [sumList_cons, ih (List.Pairwise.of_cons hdis)]
    have hrest : ∀ b ∈ ms, ∀ i j, ¬ (m i j = true ∧ b i j = true) := (List.pairwise_cons.mp hdis).1
    unfold segFactor
    simp only [List.any_cons, Bool.or_eq_true]
    by_cases hm : m (r + S0 / 2) (c + S1 / 2) = true
    · have hnone : ¬ (ms.any (fun m => m (r + S0 / 2) (c + S1 / 2)) = true) := by
        intro hh
        obtain ⟨b, hb, hb'⟩ := List.any_eq_true.mp hh
        exact hrest b hb _ _ ⟨hm, hb'⟩
      simp [hm, hnone]
    · simp [hm]

/-- side conditions along a chain of planes: shapes are positive, no product pairs two one-element operands, and no
intermediate field has exactly one element (the scope exclusion of the known finding `one-pixel-segment`) -/
def ChainOK [Zero K] [Mul K] (ph : R → K) : List (PlaneM K R) → List (Fld K) → Prop
  | [], _ => True
  | p :: ps, data =>
    (∀ f ∈ data, 0 < f.arr.s0 ∧ 0 < f.arr.s1) ∧ (∀ q ∈ planePhasors ph p, 0 < q.arr.s0 ∧ 0 < q.arr.s1) ∧
    (∀ f ∈ data, ∀ q ∈ planePhasors ph p, (f.size1 && q.size1) = false) ∧
    (∀ g ∈ planeMultiply ph p data, g.size1 = false) ∧ ChainOK ph ps (planeMultiply ph p data)

/-! ### the views in terms of the generated wiring -/

theorem foldl_insertStep_some [Add K] [Mul K] (post : K → K) (w : K) (data : List (Fld K)) (out : Arr K) :
    (data.map some).foldl (insertStep post w) (some out) = some (data.foldl (fun o f => insertArr f o w post) out) := by
  rw [List.foldl_map]
  exact List.foldl_hom some fun _ _ => rfl

/-- `Wavefront.field` inserts every field of `self.data` (no `reduce`), complex samples, weight 1, into zeros: read off the
generated `Gen.fieldWiring`, so a change of that wiring in wavefront.py breaks this lemma -/
theorem wfField_eq [Add K] [Mul K] [Zero K] (one : K) (s0 s1 : Int) (data : List (Fld K)) :
    wfField one s0 s1 data = data.foldl (fun out f => insertArr f out one) (zerosArr s0 s1) := by
  unfold wfField viewRun
  simp only [Gen.fieldWiring, Bool.false_eq_true, if_false, if_true]
  rw [foldl_insertStep_some]
  rfl

/-- the two models of `Wavefront.field`: C02's fold and the generated wiring -/
theorem wavefrontField_eq_wfField [Add K] [Mul K] [Zero K] (one : K) (fs : List (Fld K)) (S0 S1 : Int) :
    wavefrontField one fs S0 S1 = wfField one S0 S1 fs := (wfField_eq one S0 S1 fs).symm

/-- `Wavefront.insert` iterates `reduce(self.data)` and inserts `|.|^2` times the caller's weight (`Gen.insertWiring`) -/
theorem wfInsert_eq [Add K] [Mul K] [Zero K] (one : K) (nsq : K → K) (data : List (Fld K)) (out : Arr K) (w : K) :
    wfInsert one nsq data out w = (reduce data).foldl (insertStep nsq w) (some out) := by
  unfold wfInsert viewRun
  simp only [Gen.insertWiring, if_true, Bool.false_eq_true, if_false]

/-- `Wavefront.intensity` is `insert` into zeros with weight 1 (`Gen.intensityWiring`: through `reduce`, `intensity=True`) -/
theorem wfIntensity_eq [Add K] [Mul K] [Zero K] (one : K) (nsq : K → K) (s0 s1 : Int) (data : List (Fld K)) :
    wfIntensity one nsq s0 s1 data = wfInsert one nsq data (zerosArr s0 s1) one := by
  rw [wfInsert_eq]
  unfold wfIntensity viewRun
  simp only [Gen.intensityWiring, if_true, Bool.false_eq_true, if_false]
  rfl

end Lentil

/-! ### concrete witnesses for the non-vacuity examples and the known-finding lemmas of Props/C07, Props/C03 -/
namespace Lentil.Witness
open Lentil

/-- a one-pixel segment at pixel (1, 1) of a 5×5 plane -/
def g1 : Seg := ⟨fun i j => decide (i = 1) && decide (j = 1), ⟨1, 2, 1, 2⟩⟩
/-- a 2×3 block, rows 2..3, columns 2..4 -/
def g2 : Seg := ⟨fun i j => decide (2 ≤ i) && decide (i ≤ 3) && decide (2 ≤ j) && decide (j ≤ 4), ⟨2, 4, 2, 5⟩⟩
/-- a 1×4 strip in row 0 -/
def g3 : Seg := ⟨fun i j => decide (i = 0) && decide (j ≤ 3) && decide (0 ≤ j), ⟨0, 1, 0, 4⟩⟩
def g23 : Seg := ⟨fun i j => [g2.m, g3.m].any (fun m => m i j), ⟨0, 4, 0, 5⟩⟩
def g12 : Seg := ⟨fun i j => [g1.m, g2.m].any (fun m => m i j), ⟨1, 4, 1, 5⟩⟩
/-- the fresh wavefront's field -/
def w0 : Fld Int := ⟨⟨1, 1, fun _ _ => 1⟩, 0, 0⟩
def a55 : Fld Int := ⟨⟨5, 5, fun i j => i + 2 * j + 1⟩, 0, 0⟩
def ones55 : Fld Int := ⟨⟨5, 5, fun _ _ => 1⟩, 0, 0⟩
def ph1 : Int → Int := fun _ => 1

theorem g2_ok : g2.covers 5 5 ∧ (g2.s.r0 < g2.s.r1 ∧ g2.s.c0 < g2.s.c1 ∧ ¬ (g2.s.r1 - g2.s.r0 = 1 ∧ g2.s.c1 - g2.s.c0 = 1)) := by
  refine ⟨⟨by decide, by decide, by decide, by decide, ?_⟩, by decide⟩
  intro i j _ _ _ _ h
  simp only [g2, Bool.and_eq_true, decide_eq_true_eq] at h ⊢
  omega

theorem g1_covers : g1.covers 5 5 := by
  refine ⟨by decide, by decide, by decide, by decide, ?_⟩
  intro i j _ _ _ _ h
  simp only [g1, Bool.and_eq_true, decide_eq_true_eq] at h ⊢
  omega

theorem g23_disjoint : ([g2, g3].map Seg.m).Pairwise (fun a b => ∀ i j, ¬ (a i j = true ∧ b i j = true)) := by
  refine List.pairwise_pair.mpr fun i j h => ?_
  simp only [g2, g3, Bool.and_eq_true, decide_eq_true_eq] at h
  omega

theorem g12_disjoint : ([g1, g2].map Seg.m).Pairwise (fun a b => ∀ i j, ¬ (a i j = true ∧ b i j = true)) := by
  refine List.pairwise_pair.mpr fun i j h => ?_
  simp only [g1, g2, Bool.and_eq_true, decide_eq_true_eq] at h
  omega

end Lentil.Witness
