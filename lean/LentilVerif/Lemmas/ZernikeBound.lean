import LentilVerif.Lemmas.ZernikeRadial
import LentilVerif.Lemmas.ZernikeBoundTable
import LentilVerif.Model.ZernikeBound
import Mathlib.Analysis.SpecialFunctions.Trigonometric.Inverse
import Mathlib.Algebra.Polynomial.Inductions
import Mathlib.Algebra.Polynomial.AlgebraMap
import Mathlib.Algebra.Polynomial.BigOperators
import Mathlib.Tactic.ComputeDegree
/-! `|R_n^m(x)| ≤ R_n^m(1) = 1` on [−1, 1]. The certificate of `Lemmas/ZernikeBoundTable.lean` is sound for any coefficients (see there for
the idea); its table covers n ≤ 40, and so does the bound. At the end: soundness of the Chebyshev certificate `radialCheb` of
`Model/ZernikeBound.lean`, an independent second route to the same bound that no table instantiates. -/
namespace Lentil
open Finset

/-! ## the certificate `cosCert` is sound -/
section Cert
open Polynomial

/-- `Σ_{k ≤ s} a_k (4X)^k (1+X)^(n−2k)` -/
noncomputable def cosPoly (a : ℕ → ℕ) (n s : ℕ) : ℕ[X] := ∑ k ∈ range (s + 1), C (a k) * (4 * X) ^ k * (1 + X) ^ (n - 2 * k)

theorem eval_cosPoly (a : ℕ → ℕ) (n s B : ℕ) : (cosPoly a n s).eval B = cosPolyAt a n s B := by
  simp [cosPoly, cosPolyAt, eval_finsetSum, foldl_map_range]

theorem natDegree_cosPoly_le (a : ℕ → ℕ) (n s : ℕ) (hs : 2 * s ≤ n) : (cosPoly a n s).natDegree ≤ n := by
  refine natDegree_sum_le_of_forall_le _ _ fun k hk => ?_
  have := mem_range.1 hk
  compute_degree
  omega

/-- with `y = z²` and `1 + z² = 2 z x` (as for `z = e^{iθ}`, `x = cos θ`, and for `z = x = 1`) the positive part minus the negative part is
`(2z)^n Σ_k c_k x^(n−2k)` -/
theorem aeval_cosPoly_sub {K : Type} [CommRing K] (c : ℕ → ℤ) (n s : ℕ) (hs : 2 * s ≤ n) (z x : K) (hz : 1 + z ^ 2 = 2 * z * x) :
    aeval (z ^ 2) (cosPoly (fun k => (c k).toNat) n s) - aeval (z ^ 2) (cosPoly (fun k => (-c k).toNat) n s)
      = (2 * z) ^ n * ∑ k ∈ range (s + 1), (c k : K) * x ^ (n - 2 * k) := by
  simp only [cosPoly, map_sum, map_mul, map_pow, map_add, map_one, aeval_X, map_ofNat, eq_natCast, map_natCast, ← sum_sub_distrib,
    mul_sum]
  refine sum_congr rfl fun k hk => ?_
  have := mem_range.1 hk
  have hc : ((c k).toNat : K) - ((-c k).toNat : K) = (c k : K) := by
    exact_mod_cast congrArg (Int.cast (R := K)) (Int.toNat_sub_toNat_neg (c k))
  rw [hz, mul_pow (2 * z) x, show 4 * z ^ 2 = (2 * z) ^ 2 by ring, ← pow_mul, ← sub_mul, ← sub_mul, hc]
  rw [mul_assoc, ← mul_assoc (((2 * z) ^ (2 * k))), ← pow_add, show 2 * k + (n - 2 * k) = n by omega]
  ring

theorem eval_eq_divX (P : ℕ[X]) (b : ℕ) : P.eval b = P.coeff 0 + b * (divX P).eval b := by
  conv_lhs => rw [← X_mul_divX_add P]
  simp [add_comm]

/-- Kronecker substitution: a polynomial over ℕ whose value at 1 is below `B` has the base-`B` digits of its value at `B` as
coefficients -/
theorem coeff_eq_digit (B : ℕ) (P : ℕ[X]) (h : P.eval 1 < B) (i : ℕ) : P.coeff i = P.eval B / B ^ i % B := by
  rw [eval_eq_divX] at h
  induction i generalizing P with
  | zero => rw [eval_eq_divX P B, pow_zero, Nat.div_one, Nat.add_mul_mod_self_left, Nat.mod_eq_of_lt (by omega)]
  | succ i ih =>
    rw [← coeff_divX, ih _ (by rw [← eval_eq_divX]; omega), eval_eq_divX P B, pow_succ', ← Nat.div_div_eq_div_mul,
      Nat.add_mul_div_left _ _ (by omega), Nat.div_eq_of_lt (show P.coeff 0 < B by omega), zero_add]

theorem norm_aeval_sub_le (P Q : ℕ[X]) (n : ℕ) (hP : P.natDegree ≤ n) (hQ : Q.natDegree ≤ n)
    (h : ∀ i ≤ n, Q.coeff i ≤ P.coeff i) (y : ℂ) (hy : ‖y‖ = 1) :
    ‖aeval y P - aeval y Q‖ ≤ aeval (1 : ℝ) P - aeval (1 : ℝ) Q := by
  simp only [aeval_eq_sum_range' (Nat.lt_succ_of_le hP), aeval_eq_sum_range' (Nat.lt_succ_of_le hQ), ← sum_sub_distrib]
  refine (norm_sum_le _ _).trans (sum_le_sum fun i hi => ?_)
  have := h i (by have := mem_range.1 hi; omega)
  simp only [nsmul_eq_mul, ← sub_mul, norm_mul, norm_pow, hy, one_pow, mul_one]
  rw [← Nat.cast_sub this, ← Nat.cast_sub this, Complex.norm_natCast]

theorem abs_sum_le_of_cosCert (c : ℕ → ℤ) (n s B : ℕ) (hs : 2 * s ≤ n) (hc : cosCert c n s B = true) (x : ℝ) (h0 : -1 ≤ x)
    (h1 : x ≤ 1) : |∑ k ∈ range (s + 1), (c k : ℝ) * x ^ (n - 2 * k)| ≤ ∑ k ∈ range (s + 1), (c k : ℝ) := by
  obtain ⟨θ, rfl⟩ : ∃ θ, x = Real.cos θ := ⟨Real.arccos x, (Real.cos_arccos h0 h1).symm⟩
  simp only [cosCert, Bool.and_eq_true, decide_eq_true_eq, List.all_eq_true, List.mem_range, ← eval_cosPoly] at hc
  obtain ⟨⟨hp, hq⟩, hd⟩ := hc
  set P := cosPoly (fun k => (c k).toNat) n s
  set Q := cosPoly (fun k => (-c k).toNat) n s
  have hz : 1 + Complex.exp (θ * Complex.I) ^ 2 = 2 * Complex.exp (θ * Complex.I) * (Real.cos θ : ℂ) := by
    rw [Complex.ofReal_cos, mul_comm 2, mul_assoc, Complex.two_cos, mul_add, ← sq, ← Complex.exp_add, neg_mul, add_neg_cancel,
      Complex.exp_zero, add_comm]
  have N := norm_aeval_sub_le P Q n (natDegree_cosPoly_le _ n s hs) (natDegree_cosPoly_le _ n s hs)
    (fun i hi => by rw [coeff_eq_digit B P hp, coeff_eq_digit B Q hq]; exact hd i (by omega))
    (Complex.exp (θ * Complex.I) ^ 2) (by rw [norm_pow, Complex.norm_exp_ofReal_mul_I, one_pow])
  have e1 := aeval_cosPoly_sub (K := ℝ) c n s hs 1 1 (by norm_num)
  rw [one_pow] at e1
  have e : ∑ k ∈ range (s + 1), (c k : ℂ) * (Real.cos θ : ℂ) ^ (n - 2 * k)
      = ((∑ k ∈ range (s + 1), (c k : ℝ) * Real.cos θ ^ (n - 2 * k) : ℝ) : ℂ) := by push_cast; rfl
  rw [aeval_cosPoly_sub c n s hs _ _ hz, e1, e, norm_mul, norm_pow, norm_mul, Complex.norm_exp_ofReal_mul_I, Complex.norm_real,
    Real.norm_eq_abs, Complex.norm_ofNat] at N
  simp only [mul_one, one_pow] at N
  exact le_of_mul_le_mul_left N (by positivity)

end Cert

/-! ## the bound: the table instantiates the certificate, and `Σ_k c_k = R_n^m(1) = 1` -/

theorem abs_radialEval_le_one (n m : ℕ) (hn : n ≤ 40) (hm : m ≤ n) (h : (n - m) % 2 = 0) (x : ℝ) (h0 : -1 ≤ x) (h1 : x ≤ 1) :
    |radialEval n m x| ≤ 1 := by
  have B := abs_sum_le_of_cosCert (radialCoeff n m) n ((n - m) / 2) _ (by omega) (cosCert_radial_40 n hn m hm h) x h0 h1
  rwa [← radialEval_eq_sum n m h, ← Int.cast_sum, sum_radialCoeff n m hm h, Int.cast_one] at B

/-! ## soundness of the Chebyshev certificate `radialCheb` -/

/-- value of a coefficient list (lowest degree first) -/
def evalL : List Int → ℝ → ℝ
  | [], _ => 0
  | c :: l, x => (c : ℝ) + x * evalL l x

theorem evalL_addL (a b : List Int) (x : ℝ) : evalL (addL a b) x = evalL a x + evalL b x := by
  induction a generalizing b with
  | nil => simp [addL, evalL]
  | cons c l ih =>
    cases b with
    | nil => simp [addL, evalL]
    | cons d r => simp only [addL, evalL, ih, Int.cast_add]; ring

theorem evalL_scaleL (c : Int) (l : List Int) (x : ℝ) : evalL (scaleL c l) x = (c : ℝ) * evalL l x := by
  induction l with
  | nil => simp [scaleL, evalL]
  | cons a l ih =>
    have : scaleL c (a :: l) = (c * a) :: scaleL c l := rfl
    rw [this]; simp only [evalL, ih, Int.cast_mul]; ring

theorem evalL_monoL (c : Int) (e : ℕ) (x : ℝ) : evalL (monoL c e) x = (c : ℝ) * x ^ e := by
  induction e with
  | zero => simp [monoL, evalL]
  | succ e ih => simp only [monoL, evalL, ih, Int.cast_zero]; ring

theorem evalL_nextT (a b : List Int) (x : ℝ) : evalL (nextT a b) x = 2 * x * evalL b x - evalL a x := by
  unfold nextT
  rw [evalL_addL, evalL_scaleL]
  simp only [evalL, evalL_scaleL, Int.cast_zero, Int.cast_neg, Int.cast_one, Int.cast_ofNat]; ring

theorem cos_add_two_mul (t : ℕ) (θ : ℝ) :
    Real.cos (((t + 2 : ℕ) : ℝ) * θ) = 2 * Real.cos θ * Real.cos (((t + 1 : ℕ) : ℝ) * θ) - Real.cos ((t : ℝ) * θ) := by
  have h1 : ((t + 2 : ℕ) : ℝ) * θ = ((t + 1 : ℕ) : ℝ) * θ + θ := by push_cast; ring
  have h2 : (t : ℝ) * θ = ((t + 1 : ℕ) : ℝ) * θ - θ := by push_cast; ring
  rw [h1, h2, Real.cos_add, Real.cos_sub]; ring

theorem sumL_cons (w : Int) (ws : List Int) : sumL (w :: ws) = w + sumL ws := rfl

theorem chebAcc_bound (θ : ℝ) (ws : List Int) : ∀ (a b : List Int) (t : ℕ), (∀ w ∈ ws, (0 : Int) ≤ w) →
    evalL a (Real.cos θ) = Real.cos ((t : ℝ) * θ) → evalL b (Real.cos θ) = Real.cos (((t + 1 : ℕ) : ℝ) * θ) →
    |evalL (chebAcc ws a b) (Real.cos θ)| ≤ ((sumL ws : Int) : ℝ) := by
  induction ws with
  | nil => intro a b t _ _ _; simp [chebAcc, evalL, sumL]
  | cons w ws ih =>
    intro a b t hw ha hb
    have hw0 : (0 : ℝ) ≤ (w : ℝ) := by exact_mod_cast hw w (List.mem_cons_self ..)
    have hn : evalL (nextT a b) (Real.cos θ) = Real.cos (((t + 1 + 1 : ℕ) : ℝ) * θ) := by
      rw [evalL_nextT, ha, hb, cos_add_two_mul]
    have IH := ih b (nextT a b) (t + 1) (fun v hv => hw v (List.mem_cons_of_mem _ hv)) hb hn
    simp only [chebAcc, evalL_addL, evalL_scaleL, sumL_cons, Int.cast_add, ha]
    calc |(w : ℝ) * Real.cos ((t : ℝ) * θ) + evalL (chebAcc ws b (nextT a b)) (Real.cos θ)|
        ≤ |(w : ℝ) * Real.cos ((t : ℝ) * θ)| + |evalL (chebAcc ws b (nextT a b)) (Real.cos θ)| := abs_add_le _ _
      _ ≤ (w : ℝ) + ((sumL ws : Int) : ℝ) := by
          apply add_le_add _ IH
          rw [abs_mul, abs_of_nonneg hw0]
          exact mul_le_of_le_one_right hw0 (Real.abs_cos_le_one _)

theorem evalL_foldr_addL (ks : List ℕ) (g : ℕ → List Int) (x : ℝ) :
    evalL (ks.foldr (fun k acc => addL (g k) acc) []) x = (ks.map fun k => evalL (g k) x).sum := by
  induction ks with
  | nil => simp [evalL]
  | cons k ks ih => simp only [List.foldr_cons, evalL_addL, ih, List.map_cons, List.sum_cons]

theorem evalL_denseRadial (n m : ℕ) (h : (n - m) % 2 = 0) (x : ℝ) : evalL (denseRadial n m) x = radialEval n m x := by
  unfold denseRadial
  rw [evalL_foldr_addL, radialEval_eq_sum n m h]
  -- the sum of a list mapped over `List.range` is the `Finset.range` sum by definition
  refine sum_congr (s₁ := range _) rfl fun k _ => ?_
  rw [evalL_monoL]

theorem radialCheb_sound (n m : ℕ) (h : (n - m) % 2 = 0) (hc : radialCheb n m = true) (x : ℝ) (h0 : -1 ≤ x) (h1 : x ≤ 1) :
    |radialEval n m x| ≤ 1 := by
  unfold radialCheb at hc
  simp only [Bool.and_eq_true, List.all_eq_true, decide_eq_true_eq, beq_iff_eq] at hc
  obtain ⟨⟨hpos, hsum⟩, heq⟩ := hc
  obtain ⟨θ, rfl⟩ : ∃ θ, x = Real.cos θ := ⟨Real.arccos x, (Real.cos_arccos h0 h1).symm⟩
  have B := chebAcc_bound θ (chebW n m) [1] [0, 1] 0 hpos (by simp [evalL]) (by simp [evalL])
  rw [heq, evalL_scaleL, evalL_denseRadial n m h, hsum] at B
  have h2 : (0 : ℝ) < 2 ^ n := by positivity
  have e : (((2 : Int) ^ n : Int) : ℝ) = (2 : ℝ) ^ n := by push_cast; rfl
  rw [e, abs_mul, abs_of_pos h2] at B
  exact le_of_mul_le_mul_left (by linarith) h2

end Lentil
