import LentilVerif.Model.PropagateFft
import LentilVerif.Lemmas.Sums
import LentilVerif.Lemmas.CanvasEmb
import Mathlib.Algebra.Order.Field.Basic
import Mathlib.Data.Int.ModEq
import Mathlib.Tactic.Ring
/-! The model `propagateFft`, generic in the scalar types. The grid and `_fft2` read their inputs only at the indices of the grid,
which is what makes a scratch buffer transparent. The three guards (tilt, shape, scratch) as inversion lemmas and as integer criteria:
the shape guard compares floats, `shape > fft_shape/oversample`; over an ordered field it is `shape*oversample > fft_shape`.
The padded grid holds the sum of the fields' embeddings (an instance of Lemmas/CanvasEmb.lean). The centred FFT
(`fftshift ∘ fft2(ortho) ∘ ifftshift`, NumPy contracts) is the unitary `dft2` with `alpha = 1/S` and both origins at `floor(S/2)`,
for even and odd `S`; stated for one axis (`fft1_eq_dft1`). -/
namespace Lentil

section model
variable {K : Type}

/-- `_fft2` read from the source is `fftshift ∘ fft2(norm='ortho') ∘ ifftshift`. A swap of the two shifts (wrong on odd grids) or
another norm changes the generated definitions and this stops checking. -/
theorem fft2_composition (n i : Int) :
    Gen.fft2InnerIdx n i = npIfftshiftIdx n i ∧ Gen.fft2OuterIdx n i = npFftshiftIdx n i ∧ Gen.fft2Norm = 1 := ⟨rfl, rfl, rfl⟩

theorem inRegion_iff (r : (Int × Int) × (Int × Int)) (i j : Int) :
    inRegion r i j = true ↔ r.1.1 ≤ i ∧ i < r.1.2 ∧ r.2.1 ≤ j ∧ j < r.2.2 := by
  unfold inRegion; simp only [Bool.and_eq_true, decide_eq_true_eq]; omega

theorem zeroedCorner_get [Zero K] (scr : Arr K) (S0 S1 i j : Int) (hi : 0 ≤ i ∧ i < S0) (hj : 0 ≤ j ∧ j < S1) :
    (zeroedCorner scr S0 S1).get i j = 0 :=
  if_pos ((inRegion_iff _ i j).mpr ⟨hi.1, hi.2, hj.1, hj.2⟩)

theorem fftGrid_shape [Add K] [Mul K] [Zero K] (one : K) (fs : List (Fld K)) (W0 W1 S0 S1 : Int) (s : Option (Arr K)) :
    (fftGrid one fs W0 W1 S0 S1 s).s0 = S0 ∧ (fftGrid one fs W0 W1 S0 S1 s).s1 = S1 := by
  cases s with
  | none => exact ⟨rfl, rfl⟩
  | some scr => exact foldInsert_shape fs (zeroedCorner scr S0 S1) one

theorem fft2c_get_congr {R : Type} [Add R] [Sub R] [Mul R] [Neg R] [Div R] [RealLike R] [Add K] [Mul K] [Zero K] [CxLike K R]
    (x y : Arr K) (S0 S1 : Int) (hx : x.s0 = S0 ∧ x.s1 = S1) (hy : y.s0 = S0 ∧ y.s1 = S1)
    (h : ∀ i j, 0 ≤ i ∧ i < S0 → 0 ≤ j ∧ j < S1 → x.get i j = y.get i j) (u v : Int) :
    (fft2c (R := R) x).get u v = (fft2c (R := R) y).get u v := by
  simp only [fft2c, fft2Ortho, hx.1, hx.2, hy.1, hy.2]
  congr 1
  apply sumRange_congr; intro b hb
  congr 1
  apply sumRange_congr; intro a ha
  congr 1
  -- a summation index below `S.toNat` makes `S` positive, so the index read, `… % S`, lies on the grid
  have hm : ∀ x S : Int, 0 < S → 0 ≤ x % S ∧ x % S < S := fun x S hS => ⟨Int.emod_nonneg x hS.ne', Int.emod_lt_of_pos x hS⟩
  exact h _ _ (hm _ _ (by omega)) (hm _ _ (by omega))

/-! ## The guards of `propagate_fft` -/

theorem hasTilt_iff (ntilt : List Int) : Gen.hasTilt ntilt = true ↔ ∃ n ∈ ntilt, n ≠ 0 := by
  induction ntilt with
  | nil => simp [Gen.hasTilt]
  | cons a l ih =>
    rw [show Gen.hasTilt (a :: l) = (if (decide (a ≠ (0 : Int))) then true else Gen.hasTilt l) from rfl]
    by_cases ha : a = 0 <;> simp [ha, ih]

theorem scratchTooSmall_false_iff (scr : Arr K) (S : Int × Int) :
    scratchTooSmall (some scr) S = false ↔ scr.s0 ≥ S.1 ∧ scr.s1 ≥ S.2 := by
  simp only [scratchTooSmall, Gen.fftScratchTooSmall, Bool.not_eq_false', Bool.and_eq_true, decide_eq_true_eq]

theorem scratchTooSmall_true_iff (scr : Arr K) (S : Int × Int) :
    scratchTooSmall (some scr) S = true ↔ scr.s0 < S.1 ∨ scr.s1 < S.2 := by
  rw [← Bool.not_eq_false, scratchTooSmall_false_iff]; omega

theorem fftShapeOut_some (sh S : Int × Int) (os : Int) : fftShapeOut (some sh) S os = (sh.1 * os, sh.2 * os) := rfl
theorem fftShapeOut_none (S : Int × Int) (os : Int) : fftShapeOut none S os = S := rfl

theorem fftShape_eq {R : Type} [Add R] [Sub R] [Mul R] [Div R] [RealLike R] [FftLike R] (dx0 dx1 du0 du1 z wl : R) (os : Int) :
    fftShape dx0 dx1 du0 du1 z wl os =
      (FftLike.roundEven (RealLike.ofInt 1 / (dx0 * du0 / (z * wl * RealLike.ofInt os))),
       FftLike.roundEven (RealLike.ofInt 1 / (dx1 * du1 / (z * wl * RealLike.ofInt os)))) := rfl

theorem propWavelength_eq {R : Type} [Add R] [Sub R] [Mul R] [Div R] [RealLike R] [FftLike R] (S0 S1 : Int)
    (dx0 dx1 du0 du1 z wl : R) (os : Int) :
    propWavelength S0 S1 dx0 dx1 du0 du1 z wl os =
      FftLike.min (RealLike.ofInt S0 / RealLike.ofInt os * dx0 * du0 / z) (RealLike.ofInt S1 / RealLike.ofInt os * dx1 * du1 / z) := rfl

/-- focal length and wavelength sit in each other's slot of `dftAlpha` -/
theorem fftShape_eq_dftAlpha {R : Type} [Add R] [Sub R] [Mul R] [Div R] [RealLike R] [FftLike R] (dx0 dx1 du0 du1 z wl : R) (os : Int) :
    fftShape dx0 dx1 du0 du1 z wl os =
      (FftLike.roundEven (RealLike.ofInt 1 / (dftAlpha dx0 dx1 du0 du1 z wl os).1),
       FftLike.roundEven (RealLike.ofInt 1 / (dftAlpha dx0 dx1 du0 du1 z wl os).2)) := rfl

theorem fftShape_square {R : Type} [Add R] [Sub R] [Mul R] [Div R] [RealLike R] [FftLike R] {dx0 dx1 du0 du1 : R} (z wl : R) (os : Int)
    (h : dx0 * du0 = dx1 * du1) : (fftShape dx0 dx1 du0 du1 z wl os).1 = (fftShape dx0 dx1 du0 du1 z wl os).2 := by
  rw [fftShape_eq, h]

section call
variable {R : Type} [Add R] [Sub R] [Mul R] [Neg R] [Div R] [RealLike R] [FftLike R] [Add K] [Mul K] [Zero K] [CxLike K R]
variable {one : K} {fs : List (Fld K)} {ht : Bool} {W0 W1 : Int} {dx0 dx1 du0 du1 wl z : R} {os : Int}
  {shape : Option (Int × Int)} {scratch : Option (Arr K)} {S : Int × Int}

/-- `hS` lets a caller who knows the grid in closed form put it in -/
theorem propagateFft_eq_ok_iff (hS : fftShape dx0 dx1 du0 du1 z wl os = S) {lam : R} {S0 S1 : Int} {so : Int × Int} {g : Fld K} :
    propagateFft one fs ht W0 W1 dx0 dx1 du0 du1 wl z os shape scratch = FftOut.ok lam S0 S1 so g ↔
      ht = false ∧ shapeTooBig (R := R) shape S os = false ∧ scratchTooSmall scratch S = false ∧
      propWavelength S.1 S.2 dx0 dx1 du0 du1 z wl os = lam ∧ S.1 = S0 ∧ S.2 = S1 ∧ fftShapeOut shape S os = so ∧
      (⟨fft2c (R := R) (fftGrid one fs W0 W1 S.1 S.2 scratch), 0, 0⟩ : Fld K) = g := by
  subst hS
  unfold propagateFft
  cases ht <;> cases hb : shapeTooBig (R := R) shape (fftShape dx0 dx1 du0 du1 z wl os) os <;>
    cases hs : scratchTooSmall scratch (fftShape dx0 dx1 du0 du1 z wl os) <;> simp [hb, hs]

theorem propagateFft_eq_valueError_iff (hS : fftShape dx0 dx1 du0 du1 z wl os = S) :
    propagateFft one fs ht W0 W1 dx0 dx1 du0 du1 wl z os shape scratch = FftOut.valueError ↔
      ht = false ∧ (shapeTooBig (R := R) shape S os = true ∨ scratchTooSmall scratch S = true) := by
  subst hS
  unfold propagateFft
  cases ht <;> cases hb : shapeTooBig (R := R) shape (fftShape dx0 dx1 du0 du1 z wl os) os <;>
    cases hs : scratchTooSmall scratch (fftShape dx0 dx1 du0 du1 z wl os) <;> simp [hb, hs]

theorem propagateFft_eq_notImplemented_iff :
    propagateFft one fs ht W0 W1 dx0 dx1 du0 du1 wl z os shape scratch = FftOut.notImplemented ↔ ht = true := by
  unfold propagateFft
  cases ht <;> cases hb : shapeTooBig (R := R) shape (fftShape dx0 dx1 du0 du1 z wl os) os <;>
    cases hs : scratchTooSmall scratch (fftShape dx0 dx1 du0 du1 z wl os) <;> simp [hb, hs]

theorem propagateFft_ok_field {lam : R} {S0 S1 : Int} {so : Int × Int} {g : Fld K}
    (h : propagateFft one fs ht W0 W1 dx0 dx1 du0 du1 wl z os shape scratch = FftOut.ok lam S0 S1 so g) :
    g = ⟨fft2c (R := R) (fftGrid one fs W0 W1 S0 S1 scratch), 0, 0⟩ := by
  obtain ⟨_, _, _, _, rfl, rfl, _, rfl⟩ := (propagateFft_eq_ok_iff rfl).mp h
  rfl
end call

section ordered
variable {R : Type} [Field R] [LinearOrder R] [IsStrictOrderedRing R] [RealLike R] [FftLike R]

theorem shapeTooBig_iff (hcast : ∀ n : Int, (RealLike.ofInt n : R) = (n : R)) (hgt : ∀ a b : R, FftLike.gt a b = true ↔ b < a)
    (sh S : Int × Int) (os : Int) (hos : 0 < os) :
    shapeTooBig (R := R) (some sh) S os = true ↔ sh.1 * os > S.1 ∨ sh.2 * os > S.2 := by
  have hosR : (0 : R) < (os : R) := by exact_mod_cast hos
  have key : ∀ a b : Int, ((b : R) / (os : R) < (a : R)) ↔ b < a * os := fun a b => by
    rw [div_lt_iff₀ hosR, ← Int.cast_mul, Int.cast_lt]
  simp only [shapeTooBig, Gen.fftShapeTooBig, Bool.or_eq_true, hgt, hcast, key, gt_iff_lt]

theorem shapeTooBig_none (S : Int × Int) (os : Int) : shapeTooBig (R := R) none S os = false := rfl

theorem propagateFft_ok_shape_le {K : Type} [Add K] [Mul K] [Zero K] [CxLike K R]
    (hcast : ∀ n : Int, (RealLike.ofInt n : R) = (n : R)) (hgt : ∀ a b : R, FftLike.gt a b = true ↔ b < a)
    {one : K} {fs : List (Fld K)} {ht : Bool} {W0 W1 : Int} {dx0 dx1 du0 du1 wl z : R} {os : Int} (hos : 0 < os)
    {shape : Option (Int × Int)} {scratch : Option (Arr K)} {lam : R} {S0 S1 : Int} {so : Int × Int} {g : Fld K}
    (h : propagateFft one fs ht W0 W1 dx0 dx1 du0 du1 wl z os shape scratch = FftOut.ok lam S0 S1 so g) :
    so.1 ≤ S0 ∧ so.2 ≤ S1 := by
  obtain ⟨_, hb, _, _, rfl, rfl, rfl, _⟩ := (propagateFft_eq_ok_iff rfl).mp h
  cases shape with
  | none => exact ⟨Int.le_refl _, Int.le_refl _⟩
  | some sh =>
    rw [← Bool.not_eq_true, shapeTooBig_iff hcast hgt sh _ os hos] at hb
    rw [fftShapeOut_some]; simp only; omega
end ordered
end model

/-! ## The padded grid holds the sum of the fields' embeddings -/
section grid
variable {K : Type}

/-- `lentil.util.pad` as `propagate_fft` uses it is C20's `pad2`, which keeps the origin: the array's sample `⌊n/2⌋` lands on the
target's sample `⌊S/2⌋` -/
theorem padTo_get_emb [Zero K] (a : Arr K) (S0 S1 i j : Int) (hi : 0 ≤ i ∧ i < S0) (hj : 0 ≤ j ∧ j < S1) :
    (padTo a S0 S1).get i j = (Fld.mk a 0 0).emb (i - S0 / 2) (j - S1 / 2) := by
  have hpad : padTo a S0 S1 = pad2 a S0 S1 := by
    unfold padTo pad2; simp only [inRegion, inWin, Bool.and_assoc]
  rw [hpad, pad2_get a S0 S1 i j hi hj, Arr.centred_eq_emb]

theorem fftGrid_get [Semiring K] (fs : List (Fld K)) (W0 W1 S0 S1 : Int) (s : Option (Arr K)) (hfit : ∀ f ∈ fs, f.within W0 W1)
    (i j : Int) (hi : 0 ≤ i ∧ i < S0) (hj : 0 ≤ j ∧ j < S1) :
    (fftGrid 1 fs W0 W1 S0 S1 s).get i j = (fs.map fun f => f.emb (i - S0 / 2) (j - S1 / 2)).sum := by
  cases s with
  | some scr =>
    unfold fftGrid
    rw [foldInsert_get fs (zeroedCorner scr S0 S1) i j hi hj, zeroedCorner_get scr S0 S1 i j hi hj, zero_add]
    rfl
  | none =>
    show (padTo (wavefrontField 1 fs W0 W1) S0 S1).get i j = _
    rw [padTo_get_emb _ S0 S1 i j hi hj, canvas_emb fs W0 W1 hfit, sumList_eq_sum]

theorem dft2_fftGrid {R : Type} [Add R] [Sub R] [Mul R] [Neg R] [RealLike R] [CommRing K] [CxLike K R]
    (fs : List (Fld K)) (W0 W1 S0 S1 : Int) (s : Option (Arr K)) (hS : 0 < S0 ∧ 0 < S1)
    (hW : W0 ≤ S0 ∧ W1 ≤ S1) (hfit : ∀ f ∈ fs, f.within W0 W1)
    (hpos : ∀ f ∈ fs, 0 < f.arr.s0 ∧ 0 < f.arr.s1)
    (αr αc : R) (M N : Int) (shr shc : R) (un : Bool) (u v : Int) :
    (dft2 (fftGrid 1 fs W0 W1 S0 S1 s) αr αc M N shr shc 0 0 un).get u v =
      (fs.map fun f => (dft2 f.arr αr αc M N shr shc f.o0 f.o1 un).get u v).sum :=
  have hs := fftGrid_shape 1 fs W0 W1 S0 S1 s
  dft2_eq_sum_of_emb _ (by rw [hs.1, hs.2]; exact hS.imp le_of_lt le_of_lt) fs (shape_nonneg_of_pos hpos)
    (emb_eq_sum_of_get _ S0 S1 hs fs (fun f hf => Fld.within_mono (hfit f hf) hW.1 hW.2)
      (fftGrid_get fs W0 W1 S0 S1 s hfit)) αr αc M N shr shc un u v
end grid

/-! ## One axis of the centred FFT is one axis of `dft2` -/
open Finset

section sums
variable {K : Type} [CommRing K]

theorem sumRange_rot (S : Int) (hS : 0 < S) (g : Int → K) :
    sumRange S.toNat (fun a => g (npIfftshiftIdx S a)) = sumRange S.toNat (fun a => g a) := by
  obtain ⟨n, rfl⟩ := Int.eq_ofNat_of_zero_le hS.le
  rw [sumRange_eq, sumRange_eq, Int.toNat_natCast]
  rw [← sum_roll1 n g (-((n : ℤ) / 2))]
  exact Finset.sum_congr rfl fun a _ => by rw [sub_neg_eq_add]; rfl
end sums

section kernel
variable {K R : Type} [Field R] [RealLike R] [CommRing K] [CxLike K R]

/-- `exp(-2 pi i t/n)` is `n`-periodic in the integer `t` (true of the complex exponential; hypothesis of the generic
statement) -/
def RootPeriodic (K R : Type) [Field R] [RealLike R] [CommRing K] [CxLike K R] : Prop :=
  ∀ n a b : Int, a % n = b % n → (rootPow (R := R) n a : K) = rootPow (R := R) n b

theorem rootPow_rot (hper : RootPeriodic K R) (n a u : Int) :
    (rootPow (R := R) n (a * npFftshiftIdx n u) : K) =
      rootPow (R := R) n ((npIfftshiftIdx n a - n / 2) * (u - n / 2)) := by
  apply hper
  unfold npFftshiftIdx npIfftshiftIdx
  have h1 : (a + n / 2) % n - n / 2 ≡ a [ZMOD n] := by
    have := (Int.mod_modEq (a + n / 2) n).sub_right (n / 2)
    simpa using this
  have h2 : (u - n / 2) % n ≡ u - n / 2 [ZMOD n] := Int.mod_modEq _ _
  exact (h1.symm.mul h2)

omit [CommRing K] in
theorem dftKernel_one_div (hcast : ∀ n : Int, (RealLike.ofInt n : R) = (n : R)) (n x u : Int) :
    (dftKernel (1 / (n : R)) n n 0 0 x u : K) = rootPow (R := R) n ((x - n / 2) * (u - n / 2)) := by
  unfold dftKernel rootPow cc
  congr 1
  simp only [hcast]; push_cast; ring

/-- `F` is whatever is done with the kernel entry and the sample index -/
theorem fft1_eq_dft1 (hcast : ∀ n : Int, (RealLike.ofInt n : R) = (n : R)) (hper : RootPeriodic K R) (n : Int) (hn : 0 < n)
    (F : K → Int → K) (u : Int) :
    sumRange n.toNat (fun a => F (rootPow (R := R) n (a * npFftshiftIdx n u)) (npIfftshiftIdx n a)) =
    sumRange n.toNat (fun x => F (dftKernel (1 / (n : R)) n n 0 0 x u) x) := by
  rw [← sumRange_rot n hn (fun x : Int => F (dftKernel (1 / (n : R)) n n 0 0 x u) x)]
  apply sumRange_congr; intro a _
  rw [dftKernel_one_div hcast, ← rootPow_rot hper]
end kernel

end Lentil
