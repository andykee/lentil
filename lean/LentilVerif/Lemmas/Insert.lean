import LentilVerif.Lemmas.Field
import Mathlib.Algebra.Ring.Defs
/-! `lentil.field.insert` on the generated index kernel: what `insertArr` writes where.
The row and the column computation of `Gen.insertIdx` are the same 1-D clipping (`insertAxis`), so every fact is proved
for one axis and used twice. -/
namespace Lentil

/-- one axis of `insert`, for a field of `s` samples at offset `o` and a target of `S` samples: the first field sample lands on
target index `u = S/2 - s/2 + o`; (out slice, field slice) are `[u, u + s)` clipped to the target, in target and in field
indices, each as (start, stop) -/
def insertAxis (s o S : Int) : (Int × Int) × (Int × Int) :=
  let u := S / 2 - s / 2 + o
  ((max u 0, min (u + s) S), (max u 0 - u, min (u + s) S - u))

/-- the right-hand side: the coordinate `i - S/2` of target index `i` lies in the field's extent (`arrayExtent_eq`) -/
theorem insertAxis_mem (s o S i : Int) (hi : 0 ≤ i ∧ i < S) :
    (insertAxis s o S).1.1 ≤ i ∧ i < (insertAxis s o S).1.2 ↔
      -(s / 2) + o ≤ i - S / 2 ∧ i - S / 2 ≤ -(s / 2) + o + s - 1 := by
  simp only [insertAxis]; omega

/-- the field sample that lands on target index `i` -/
theorem insertAxis_read (s o S i : Int) :
    i - (insertAxis s o S).1.1 + (insertAxis s o S).2.1 = i - S / 2 - (-(s / 2) + o) := by
  simp only [insertAxis]; omega

theorem insertAxis_wellformed (s o S : Int) (h : (insertAxis s o S).1.1 < (insertAxis s o S).1.2) :
    (0 ≤ (insertAxis s o S).1.1 ∧ (insertAxis s o S).1.2 ≤ S) ∧
    (0 ≤ (insertAxis s o S).2.1 ∧ (insertAxis s o S).2.2 ≤ s) ∧
    (insertAxis s o S).2.2 - (insertAxis s o S).2.1 = (insertAxis s o S).1.2 - (insertAxis s o S).1.1 := by
  revert h; simp only [insertAxis]; omega

theorem insertAxis_full (S : Int) : insertAxis S 0 S = ((0, S), (0, S)) := by
  simp only [insertAxis, Prod.mk.injEq]; omega

private theorem clip_lo (u : Int) :
    (if decide (u < 0) then ((-1) * u, (0 : Int)) else (0, u)) = (max u 0 - u, max u 0) := by
  split <;> simp only [decide_eq_true_eq] at * <;> simp only [Prod.mk.injEq] <;> omega

private theorem clip_hi (u s S : Int) :
    (if decide (u + s > S) then (s - (u + s - S), S) else (s, u + s)) = (min (u + s) S - u, min (u + s) S) := by
  split <;> simp only [decide_eq_true_eq] at * <;> simp only [Prod.mk.injEq] <;> omega

theorem insertIdx_eq (s0 s1 o0 o1 S0 S1 : Int) :
    Gen.insertIdx s0 s1 o0 o1 S0 S1 =
      (let r := insertAxis s0 o0 S0
       let c := insertAxis s1 o1 S1
       if decide (r.1.1 ≥ r.1.2) || decide (c.1.1 ≥ c.1.2) then none else some ((r.1, c.1), (r.2, c.2))) := by
  unfold Gen.insertIdx
  simp only [clip_lo, clip_hi]
  rfl

variable {K : Type}

/-- what `insert(field, out, weight=w)` writes: target index `(i, j)` has the global coordinate `(i - S0/2, j - S1/2)` -/
theorem insertArr_get [Add K] [Mul K] (f : Fld K) (out : Arr K) (w : K) (post : K → K) (i j : Int)
    (hi : 0 ≤ i ∧ i < out.s0) (hj : 0 ≤ j ∧ j < out.s1) :
    (insertArr f out w post).get i j =
      if f.extent.inb (i - out.s0 / 2) (j - out.s1 / 2)
      then out.get i j + post (f.arr.get (i - out.s0 / 2 - f.extent.rmin) (j - out.s1 / 2 - f.extent.cmin)) * w
      else out.get i j := by
  have hr := insertAxis_mem f.arr.s0 f.o0 out.s0 i hi
  have hc := insertAxis_mem f.arr.s1 f.o1 out.s1 j hj
  have hin := Extent.inb_iff f.extent (i - out.s0 / 2) (j - out.s1 / 2)
  generalize f.extent.inb (i - out.s0 / 2) (j - out.s1 / 2) = b at hin ⊢
  rw [Fld.extent, arrayExtent_eq] at hin ⊢
  rw [and_assoc.symm, ← hr, ← hc] at hin  -- in the extent iff row and column index lie in their out slices
  unfold insertArr
  rw [insertIdx_eq]
  simp only [insertTerm_eq, ← insertAxis_read f.arr.s0 f.o0 out.s0 i, ← insertAxis_read f.arr.s1 f.o1 out.s1 j]
  generalize insertAxis f.arr.s0 f.o0 out.s0 = r at hin ⊢
  generalize insertAxis f.arr.s1 f.o1 out.s1 = c at hin ⊢
  have hg : (decide (r.1.1 ≤ i) && decide (i < r.1.2) && decide (c.1.1 ≤ j) && decide (j < c.1.2)) = b := by
    rw [Bool.eq_iff_iff, hin]; simp only [Bool.and_eq_true, decide_eq_true_eq, and_assoc]
  by_cases he : (decide (r.1.1 ≥ r.1.2) || decide (c.1.1 ≥ c.1.2)) = true
  · -- an out slice is empty: no index lies in it
    have : b = false := by
      rw [Bool.eq_false_iff]; intro hb
      simp only [Bool.or_eq_true, decide_eq_true_eq] at he
      rw [hin] at hb; omega
    simp only [he, this, if_true, Bool.false_eq_true, if_false]
  · simp only [he, Bool.false_eq_true, if_false, hg]

theorem insertArr_s0 [Add K] [Mul K] (f : Fld K) (out : Arr K) (w : K) {post : K → K} :
    (insertArr f out w post).s0 = out.s0 := by
  unfold insertArr; split <;> rfl

theorem insertArr_s1 [Add K] [Mul K] (f : Fld K) (out : Arr K) (w : K) {post : K → K} :
    (insertArr f out w post).s1 = out.s1 := by
  unfold insertArr; split <;> rfl

theorem foldInsert_shape [Add K] [Mul K] (fs : List (Fld K)) (out : Arr K) (w : K) {post : K → K} :
    (fs.foldl (fun o f => insertArr f o w post) out).s0 = out.s0 ∧
    (fs.foldl (fun o f => insertArr f o w post) out).s1 = out.s1 :=
  List.foldlRecOn (motive := fun o => o.s0 = out.s0 ∧ o.s1 = out.s1) fs _ ⟨rfl, rfl⟩
    fun o ho f _ => ⟨(insertArr_s0 f o w).trans ho.1, (insertArr_s1 f o w).trans ho.2⟩

theorem foldInsert_get_congr [Add K] [Mul K] (fs : List (Fld K)) (out out' : Arr K) (w : K) (i j : Int)
    (h0 : out.s0 = out'.s0) (h1 : out.s1 = out'.s1) (h : out.get i j = out'.get i j) :
    (fs.foldl (fun o f => insertArr f o w) out).get i j = (fs.foldl (fun o f => insertArr f o w) out').get i j := by
  induction fs generalizing out out' with
  | nil => exact h
  | cons f fs ih =>
    rw [List.foldl_cons, List.foldl_cons]
    refine ih _ _ (by rw [insertArr_s0, insertArr_s0, h0]) (by rw [insertArr_s1, insertArr_s1, h1]) ?_
    unfold insertArr
    rw [h0, h1]
    split
    · exact h
    · simp only [h]

/-- `post 0 = 0` is true of `id` and of `|·|²` -/
theorem insertArr_get_emb [NonUnitalNonAssocSemiring K] (f : Fld K) (out : Arr K) (w : K) (post : K → K)
    (hpost : post 0 = 0) (i j : Int) (hi : 0 ≤ i ∧ i < out.s0) (hj : 0 ≤ j ∧ j < out.s1) :
    (insertArr f out w post).get i j = out.get i j + post (f.emb (i - out.s0 / 2) (j - out.s1 / 2)) * w := by
  rw [insertArr_get f out w post i j hi hj, Fld.emb, embAt]
  cases f.extent.inb (i - out.s0 / 2) (j - out.s1 / 2)
  · rw [if_neg Bool.false_ne_true, if_neg Bool.false_ne_true, hpost, zero_mul, add_zero]
  · rfl

end Lentil
