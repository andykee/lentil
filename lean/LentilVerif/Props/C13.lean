import LentilVerif.Lemmas.SpecArith
/-! C13 — spectrum arithmetic is pointwise, commutative, unit-agnostic. Statements about `Model/SpecArith.lean`
(tied to `Spectrum._ufunc` / `_interp_common` by the correspondence), for every binary operator `op`. -/
namespace Lentil.C13
open Lentil.Spec Lentil.Units Gen

/-- (structural, close to the model's definition) the result's values are `op(S₁(g), S₂(g))` at every point `g` of the common
grid, where `Sᵢ = operandAt sᵢ …`; what `Sᵢ` *is* — the mathematical linear interpolant inside the operand's range, the fill
value outside — is `operand_is_interpolant` below. For every operator. -/
theorem ufunc_pointwise (op : ℚ → ℚ → ℚ) (s1 s2 : Spectrum) (m : Sampling) (fill : ℚ) (r : Spectrum)
    (h : ufunc op s1 s2 m fill = .ok r) :
    ∃ lo1 hi1 lo2 hi2 dw, minL s1.wave = some lo1 ∧ maxL s1.wave = some hi1 ∧ minL s2.wave = some lo2 ∧
      maxL s2.wave = some hi2 ∧ samplingOf m s1.wave s2.wave = some dw ∧
      r.wave = commonGrid (min lo1 lo2) (max hi1 hi2) dw ∧
      r.value = r.wave.map (fun g => op (operandAt s1 lo1 hi1 (gridTol dw) fill g) (operandAt s2 lo2 hi2 (gridTol dw) fill g)) := by
  simp only [ufunc, interpCommon] at h
  split at h
  · cases h
  · rename_i g v1 v2 hg
    split at hg
    · rename_i lo1 hi1 lo2 hi2 h1 h2 h3 h4
      split at hg
      · cases hg
      · rename_i dw hdw
        simp only [Except.ok.injEq, Prod.mk.injEq] at hg h
        obtain ⟨rfl, rfl, rfl⟩ := hg
        subst h
        refine ⟨lo1, hi1, lo2, hi2, dw, h1, h2, h3, h4, hdw, rfl, ?_⟩
        simp [List.zipWith_map_left, List.zipWith_map_right, List.zipWith_self]
    · cases hg

/-- which grid points belong to an operand: the model's range test (with the guard band `tol`) is the test regenerated from
`_intersect` (`Gen.intersectKeeps`: `(superset >= subset.min() - tol) & (superset <= subset.max() + tol)`), and the value there
is the interpolant at the grid point clipped into the operand's range (`np.clip(commonwave[index], min, max)`, checked
structurally by the generator), the fill value everywhere else — for every operand, range, tolerance and grid point -/
theorem operand_membership_is_code (s : Spectrum) (lo hi tol fill g : ℚ) :
    operandAt s lo hi tol fill g =
      if Gen.intersectKeeps lo hi tol g then interpAt s.wave s.value fill fill (clip lo hi g) else fill := rfl

/-- the regenerated `_intersect` test keeps exactly the closed range widened by the guard band on both sides -/
theorem intersect_keeps_iff (lo hi tol w : ℚ) :
    Gen.intersectKeeps lo hi tol w = true ↔ lo - tol ≤ w ∧ w ≤ hi + tol := by
  simp [Gen.intersectKeeps]

/-- … so both end points of an operand's own range are always kept (tol ≥ 0) and, with no guard band, nothing outside is -/
theorem intersect_keeps_ends (lo hi tol : ℚ) (h : lo ≤ hi) (ht : 0 ≤ tol) :
    Gen.intersectKeeps lo hi tol lo = true ∧ Gen.intersectKeeps lo hi tol hi = true ∧
    ∀ w, Gen.intersectKeeps lo hi 0 w = true → lo ≤ w ∧ w ≤ hi := by
  have hlo : lo - tol ≤ lo := sub_le_self lo ht
  have hhi : hi ≤ hi + tol := le_add_of_nonneg_right ht
  refine ⟨(intersect_keeps_iff ..).mpr ⟨hlo, h.trans hhi⟩, (intersect_keeps_iff ..).mpr ⟨hlo.trans h, hhi⟩, fun w hw => ?_⟩
  simpa only [sub_zero, add_zero] using (intersect_keeps_iff lo hi 0 w).mp hw

/-- inside the operand's own range `Sᵢ(g)` is its linear interpolant at `g` … -/
theorem operand_inside (s : Spectrum) (lo hi tol fill g : ℚ) (ht : 0 ≤ tol) (h1 : lo ≤ g) (h2 : g ≤ hi) :
    operandAt s lo hi tol fill g = interpAt s.wave s.value fill fill g := by
  have hk := (intersect_keeps_iff lo hi tol g).mpr ⟨(sub_le_self lo ht).trans h1, h2.trans (le_add_of_nonneg_right ht)⟩
  rw [operand_membership_is_code, if_pos hk, clip, if_neg (not_lt.mpr h1), if_neg (not_lt.mpr h2)]

/-- … and outside it (beyond the `1e-9·Δ` guard) the fill value -/
theorem operand_outside (s : Spectrum) (lo hi tol fill g : ℚ) (h : g < lo - tol ∨ hi + tol < g) :
    operandAt s lo hi tol fill g = fill := by
  have hk : ¬ Gen.intersectKeeps lo hi tol g = true := by
    rw [intersect_keeps_iff, not_and_or, not_le, not_le]; exact h
  rw [operand_membership_is_code, if_neg hk]

/-- the guard band of `_interp_common`: a grid point within `tol` below (above) an operand's range is treated as its first
(last) wavelength — the interpolant evaluated at the clipped abscissa, neither the fill value nor an extrapolation -/
theorem operand_guard_band (s : Spectrum) (lo hi tol fill g : ℚ) (ht : 0 ≤ tol) (hlh : lo ≤ hi) :
    (lo - tol ≤ g → g < lo → operandAt s lo hi tol fill g = interpAt s.wave s.value fill fill lo) ∧
    (hi < g → g ≤ hi + tol → operandAt s lo hi tol fill g = interpAt s.wave s.value fill fill hi) := by
  constructor
  · intro h1 h2
    have hk := (intersect_keeps_iff lo hi tol g).mpr ⟨h1, (h2.le.trans hlh).trans (le_add_of_nonneg_right ht)⟩
    rw [operand_membership_is_code, if_pos hk, clip, if_pos h2]
  · intro h1 h2
    have hlg : lo ≤ g := hlh.trans h1.le
    have hk := (intersect_keeps_iff lo hi tol g).mpr ⟨(sub_le_self lo ht).trans hlg, h2⟩
    rw [operand_membership_is_code, if_pos hk, clip, if_neg (not_lt.mpr hlg), if_pos h1]

/-- the operands seen from a grid point, against the *mathematical* interpolant (`IsLinInterp`, defined in
Lemmas/SpecArith.lean by the segment formula, without reference to the model's `seg`/`interpAt`/`operandAt`): inside the
operand's own range `Sᵢ(g)` is the value at `g` of the piecewise-linear function through its samples; beyond the
`1e-9·Δ` guard it is the fill value. With `ufunc_pointwise` (result = op(S₁(g), S₂(g)) on the grid) this is the
property's "operation applied to each operand's interpolated value, fill where an operand is not defined" -/
theorem operand_is_interpolant (s : Spectrum) (hwf : WF s) (h2 : 2 ≤ s.wave.length) (lo hi tol fill g : ℚ)
    (hlo : minL s.wave = some lo) (hhi : maxL s.wave = some hi) (ht : 0 ≤ tol) :
    (lo ≤ g → g ≤ hi → IsLinInterp s.wave s.value g (operandAt s lo hi tol fill g)) ∧
    (g < lo - tol ∨ hi + tol < g → operandAt s lo hi tol fill g = fill) := by
  refine ⟨fun h1 h3 => ?_, operand_outside s lo hi tol fill g⟩
  rw [minL_eq_head _ hwf.1] at hlo
  rw [maxL_eq_getLast _ hwf.1] at hhi
  obtain ⟨i, a, b, ya, yb, ha, hb, hya, hyb, -, hax, hxb, e⟩ := interpAt_spec hwf.1 hwf.2 h2 hlo hhi h1 h3 fill fill
  exact ⟨i, a, b, ya, yb, ha, hb, hya, hyb, hax, hxb,
    by rw [operand_inside s lo hi tol fill g ht h1 h3, e, lineThrough, div_mul_eq_mul_div]⟩

/-- "the result is a new *spectrum*": the common grid is a valid wavelength grid (positive, strictly increasing — the
`Spectrum` constructor cannot refuse it) and carries one value per wavelength -/
theorem ufunc_result_valid (op : ℚ → ℚ → ℚ) (s1 s2 : Spectrum) (m : Sampling) (fill : ℚ) (r : Spectrum)
    (h : ufunc op s1 s2 m fill = .ok r) (lo1 hi1 lo2 hi2 dw : ℚ)
    (h1 : minL s1.wave = some lo1) (h2 : maxL s1.wave = some hi1) (h3 : minL s2.wave = some lo2) (h4 : maxL s2.wave = some hi2)
    (hs : samplingOf m s1.wave s2.wave = some dw) (hdw : 0 < dw) (hpos : 0 < min lo1 lo2)
    (hspan : gridTol dw < max hi1 hi2 - min lo1 lo2) :
    validWave r.wave = true ∧ r.wave.length = r.value.length := by
  rw [ufunc_ok op s1 s2 m fill h1 h2 h3 h4 hs] at h
  cases h
  have hN := gridNum_pos _ _ _ hdw hspan
  refine ⟨?_, (List.length_map _).symm⟩
  rw [commonGrid_eq _ _ _ (by omega)]
  exact linspace_valid _ _ _ hpos (sub_pos.mp ((gridTol_pos hdw).trans hspan)) (by omega)

/-- the grid is uniform with step (max−min)/N, and the step does not exceed the requested sampling Δ (up to the guard's
1e-9·Δ/N): consecutive grid points are `mn + i·h`, `h = (mx−mn)/N ≤ Δ + tol/N` -/
theorem grid_step_le_requested (mn mx dw : ℚ) (hdw : 0 < dw) (hN : 1 ≤ (gridNum mn mx dw).toNat) :
    (∀ i, i < (gridNum mn mx dw).toNat →
        (commonGrid mn mx dw)[i]? = some (mn + (i : ℚ) * ((mx - mn) / ((gridNum mn mx dw).toNat : ℚ))) ∧
        (commonGrid mn mx dw)[i + 1]? = some (mn + ((i + 1 : ℕ) : ℚ) * ((mx - mn) / ((gridNum mn mx dw).toNat : ℚ)))) ∧
    (mx - mn) / ((gridNum mn mx dw).toNat : ℚ) ≤ dw + gridTol dw / ((gridNum mn mx dw).toNat : ℚ) := by
  set N := (gridNum mn mx dw).toNat with hNdef
  constructor
  · intro i hi
    rw [commonGrid_eq mn mx dw (by omega), ← hNdef]
    exact ⟨linspace_getElem? mn mx (by omega) (by omega), linspace_getElem? mn mx (by omega) (by omega)⟩
  · have hNpos : (0 : ℚ) < N := Nat.cast_pos.mpr hN
    have hceil : (mx - mn - gridTol dw) / dw ≤ (N : ℚ) := by
      rw [← Int.cast_natCast, hNdef, Int.toNat_of_nonneg (by omega), gridNum_eq]; exact Rat.le_ceil
    rw [div_le_iff₀ hdw] at hceil
    rw [div_le_iff₀ hNpos, add_mul, div_mul_cancel₀ _ hNpos.ne']
    linarith

/-- the size of the common grid does not depend on the unit the wavelengths are expressed in: scaling both ends and the
sampling by k > 0 leaves the number of intervals unchanged (so no absolute cap or tolerance can enter) -/
theorem grid_size_scale_invariant (mn mx dw k : ℚ) (hk : 0 < k) (hdw : dw ≠ 0) :
    gridNum (mn * k) (mx * k) (dw * k) = gridNum mn mx dw := gridNum_scale mn mx dw k hk

/-- the grid starts at the smaller of the two minima, has `ceil((max−min−tol)/Δ)+1` points … -/
theorem grid_spans_union_start (mn mx dw : ℚ) (h0 : 0 ≤ gridNum mn mx dw) :
    (commonGrid mn mx dw).head? = some mn ∧ (commonGrid mn mx dw).length = (gridNum mn mx dw).toNat + 1 := by
  rw [commonGrid_eq mn mx dw h0]
  exact ⟨linspace_head? mn mx (by omega), linspace_length mn mx _⟩

/-- … and ends at the larger of the two maxima -/
theorem grid_spans_union_end (mn mx dw : ℚ) (h : 1 ≤ (gridNum mn mx dw).toNat) :
    (commonGrid mn mx dw).getLast? = some mx := by
  rw [commonGrid_eq mn mx dw (by omega)]
  exact linspace_getLast? mn mx (by omega)

/-- END TO END, from valid operands: two well-formed spectra with valid (positive, strictly increasing) grids of at least two
samples, any of the named sampling options ⇒ the operation succeeds; its grid is a valid wavelength grid (so the result IS
a spectrum) with one value per wavelength, starts at the smaller minimum and ends at the larger maximum, has the positive
step of `grid_step_le_requested`, and its values are `op(S₁(g), S₂(g))` (what `Sᵢ` is: `operand_is_interpolant`,
`operand_guard_band`). All side conditions of the component theorems (0 < Δ, 0 < min, tol < span, 1 ≤ N) are derived here. -/
theorem ufunc_of_valid (op : ℚ → ℚ → ℚ) (s1 s2 : Spectrum) (h1 : WF s1) (h2 : WF s2)
    (v1 : validWave s1.wave = true) (v2 : validWave s2.wave = true) (l1 : 2 ≤ s1.wave.length) (l2 : 2 ≤ s2.wave.length)
    (m : Sampling) (hm : ∀ d, m ≠ .step d) (fill : ℚ) :
    ∃ r lo1 hi1 lo2 hi2 dw, ufunc op s1 s2 m fill = .ok r ∧
      minL s1.wave = some lo1 ∧ maxL s1.wave = some hi1 ∧ minL s2.wave = some lo2 ∧ maxL s2.wave = some hi2 ∧
      samplingOf m s1.wave s2.wave = some dw ∧ 0 < dw ∧ 1 ≤ (gridNum (min lo1 lo2) (max hi1 hi2) dw).toNat ∧
      validWave r.wave = true ∧ r.wave.length = r.value.length ∧
      r.wave.head? = some (min lo1 lo2) ∧ r.wave.getLast? = some (max hi1 hi2) ∧
      r.value = r.wave.map (fun g => op (operandAt s1 lo1 hi1 (gridTol dw) fill g) (operandAt s2 lo2 hi2 (gridTol dw) fill g)) := by
  obtain ⟨lo1, hi1, d1, hmin1, hmax1, hd1, hp1, hs1, hpos1⟩ := ends_of_valid s1 h1 v1 l1
  obtain ⟨lo2, hi2, d2, hmin2, hmax2, hd2, hp2, hs2, hpos2⟩ := ends_of_valid s2 h2 v2 l2
  -- the sampling, positive and not larger than the union span
  have hspan1 : hi1 - lo1 ≤ max hi1 hi2 - min lo1 lo2 := sub_le_sub (le_max_left hi1 hi2) (min_le_left lo1 lo2)
  have hspan2 : hi2 - lo2 ≤ max hi1 hi2 - min lo1 lo2 := sub_le_sub (le_max_right hi1 hi2) (min_le_right lo1 lo2)
  obtain ⟨dw, hdw, hdwpos, hdwle⟩ : ∃ dw, samplingOf m s1.wave s2.wave = some dw ∧ 0 < dw ∧ dw ≤ max hi1 hi2 - min lo1 lo2 := by
    cases m with
    | min => exact ⟨min d1 d2, by simp [samplingOf_eq, hd1, hd2], lt_min hp1 hp2, le_trans (min_le_left _ _) (le_trans hs1 hspan1)⟩
    | left => exact ⟨d1, by simp [samplingOf_eq, hd1], hp1, le_trans hs1 hspan1⟩
    | right => exact ⟨d2, by simp [samplingOf_eq, hd2], hp2, le_trans hs2 hspan2⟩
    | step d => exact absurd rfl (hm d)
  have htol : gridTol dw < max hi1 hi2 - min lo1 lo2 := (gridTol_lt hdwpos).trans_le hdwle
  have hN := gridNum_pos _ _ _ hdwpos htol
  have hr := ufunc_ok op s1 s2 m fill hmin1 hmax1 hmin2 hmax2 hdw
  have hvalid := ufunc_result_valid op s1 s2 m fill _ hr lo1 hi1 lo2 hi2 dw hmin1 hmax1 hmin2 hmax2 hdw hdwpos
    (lt_min hpos1 hpos2) htol
  exact ⟨_, lo1, hi1, lo2, hi2, dw, hr, hmin1, hmax1, hmin2, hmax2, hdw, hdwpos, by omega, hvalid.1, hvalid.2,
    (grid_spans_union_start _ _ _ (by omega)).1, grid_spans_union_end _ _ _ (by omega), rfl⟩

/-- commutativity: for every commutative operator (addition, multiplication) `a ∘ b = b ∘ a`, with `left`↔`right`
sampling swapped accordingly -/
theorem op_comm (op : ℚ → ℚ → ℚ) (hc : ∀ a b, op a b = op b a) (s1 s2 : Spectrum) (m : Sampling) (fill : ℚ) :
    ufunc op s2 s1 m.swap fill = ufunc op s1 s2 m fill := by
  simp only [ufunc, interpCommon_swap]
  cases interpCommon s1 s2 m fill with
  | error e => rfl
  | ok r => simp only [Except.map, List.zipWith_comm_of_comm hc]

theorem add_comm (s1 s2 : Spectrum) (m : Sampling) (fill : ℚ) :
    ufunc (· + ·) s2 s1 m.swap fill = ufunc (· + ·) s1 s2 m fill := op_comm _ (fun a b => _root_.add_comm a b) s1 s2 m fill

theorem mul_comm (s1 s2 : Spectrum) (m : Sampling) (fill : ℚ) :
    ufunc (· * ·) s2 s1 m.swap fill = ufunc (· * ·) s1 s2 m fill := op_comm _ (fun a b => _root_.mul_comm a b) s1 s2 m fill

/-- "addition and multiplication are commutative", from the operator symbol down: whatever arithmetic the source wires `+` and
`*` (and the reflected `*`, an alias) to, `b ∘ a = a ∘ b` on every pair of spectra, with left/right sampling swapped -/
theorem add_mul_operators_commute (d : String) (hd : d = "__add__" ∨ d = "__mul__") (f : ℚ → ℚ → ℚ)
    (hf : (Gen.operatorOp d).bind arithFn = some f) (s1 s2 : Spectrum) (m : Sampling) (fill : ℚ) :
    ufunc f s2 s1 m.swap fill = ufunc f s1 s2 m fill := by
  rcases hd with rfl | rfl
  · cases Option.some.inj hf
    exact add_comm s1 s2 m fill
  · cases Option.some.inj hf
    exact mul_comm s1 s2 m fill

/-- unit invariance of spectrum arithmetic, core statement: expressing both operands' wavelengths (and a numeric sampling)
in another unit — a factor k > 0 — rescales the result's grid by k and leaves its values unchanged, for every operator -/
theorem ufunc_scale_waves (op : ℚ → ℚ → ℚ) (k : ℚ) (hk : 0 < k) (s1 s2 : Spectrum) (m : Sampling) (fill : ℚ) :
    ufunc op (scaleS k s1) (scaleS k s2) (m.scale k) fill = (ufunc op s1 s2 m fill).map (scaleS k) := by
  simp only [ufunc, interpCommon_scale k hk s1 s2 m fill]
  cases interpCommon s1 s2 m fill with
  | error e => rfl
  | ok r => obtain ⟨g, v1, v2⟩ := r; rfl

/-- `ufunc_scale_waves` under the hypothesis `hdw`, which it does not need -/
theorem ufunc_scale (op : ℚ → ℚ → ℚ) (k : ℚ) (hk : 0 < k) (s1 s2 : Spectrum) (m : Sampling) (fill : ℚ)
    (hdw : ∀ dw, samplingOf m s1.wave s2.wave = some dw → dw ≠ 0) :
    ufunc op (scaleS k s1) (scaleS k s2) (m.scale k) fill = (ufunc op s1 s2 m fill).map (scaleS k) :=
  ufunc_scale_waves op k hk s1 s2 m fill

/-- value homogeneity: dividing BOTH operands' values (and the fill value) by the same number divides the result's values by it,
for every operator that is homogeneous of degree one — addition, subtraction, maximum … (not multiplication: a product of two
densities is not a density). The interpolation, the guard band and the fill are all linear in the values. -/
theorem ufunc_value_scale (op : ℚ → ℚ → ℚ) (k : ℚ) (hop : ∀ a b, op (a / k) (b / k) = op a b / k) (s1 s2 : Spectrum)
    (m : Sampling) (fill : ℚ) :
    ufunc op (vscaleS k s1) (vscaleS k s2) m (fill / k) = (ufunc op s1 s2 m fill).map (vscaleS k) := by
  simp only [ufunc, interpCommon_vscale]
  cases interpCommon s1 s2 m fill with
  | error e => rfl
  | ok r =>
    obtain ⟨g, v1, v2⟩ := r
    simp only [Except.map, vscaleS, List.zipWith_map, List.map_zipWith, hop]

/-- the statement behind unit invariance and cross-unit commutativity: re-expressing both operands in the unit `u` (sampling rescaled,
values and fill divided by `c`) re-expresses the result in `u`. `c` is 1 for two unitless operands (values kept) and the unit factor
`k` for two per-wavelength densities (values ÷ k). For operands of different kinds the statement fails: a numeric fill value cannot
be both a number and a density. -/
theorem ufuncU_toWave (op : ℚ → ℚ → ℚ) (s1 s2 : USpec) (u : WUnit) (m : Sampling) (fill c : ℚ)
    (h1 : vdiv s1.vu (waveTo s1.wu u) = c) (h2 : vdiv s2.vu (waveTo s1.wu u) = c)
    (hop : ∀ a b, op (a / c) (b / c) = op a b / c) :
    ufuncU op (toWave u s1) (toWave u s2) (m.scale (waveTo s1.wu u)) (fill / c) = (ufuncU op s1 s2 m fill).map (toWave u) := by
  -- both operands, seen in the left operand's unit, are rescaled by the same two factors
  have hr := toWave_arrays u (toWave s1.wu s2)
  rw [toWave_toWave, toWave_wu, toWave_vu, h2] at hr
  rw [ufuncU_eq, ufuncU_eq, toWave_wu, toWave_toWave, toWave_vu, toWave_arrays u s1, h1, hr,
    ufunc_scale_waves op _ (waveTo_pos _ _) _ _ m _, ufunc_value_scale op c hop]
  cases ufunc op ⟨s1.wave, s1.value⟩ ⟨(toWave s1.wu s2).wave, (toWave s1.wu s2).value⟩ m fill with
  | error e => rfl
  | ok r => simp [Except.map, toWave_eq', h1, scaleS, vscaleS]

/-- unit invariance for unitless spectra at the level the driver runs (`ufuncU`, each operand in its own wavelength unit):
re-expressing BOTH operands in any unit `u` (a numeric sampling re-expressed with them) gives the same result re-expressed
in `u` — same values, grid rescaled by the unit factor. (For density spectra a numeric fill value is a number per the left
operand's unit and is re-expressed with the values: `unit_invariance_density`.) -/
theorem unit_invariance_unitless (op : ℚ → ℚ → ℚ) (s1 s2 : USpec) (h1 : s1.vu = none) (h2 : s2.vu = none) (u : WUnit)
    (m : Sampling) (fill : ℚ)
    (hdw : ∀ dw, samplingOf m s1.wave (if s2.wu = s1.wu then s2 else toWave s1.wu s2).wave = some dw → dw ≠ 0) :
    ufuncU op (toWave u s1) (toWave u s2) (m.scale (waveTo s1.wu u)) fill = (ufuncU op s1 s2 m fill).map (toWave u) := by
  simpa only [div_one] using ufuncU_toWave op s1 s2 u m fill 1 (by rw [h1]; rfl) (by rw [h2]; rfl)
    (fun a b => by simp only [div_one])

/-- unit invariance for per-wavelength DENSITY spectra (`ufuncU`, each operand in its own wavelength unit), operators homogeneous
of degree one (addition, subtraction): re-expressing both operands in any unit `u` — wavelengths × k, densities ÷ k — with the
sampling and the fill value re-expressed alike (fill ÷ k: a fill value is a density in the left operand's unit; in particular
fill 0 stays 0) gives the same result re-expressed in `u`. -/
theorem unit_invariance_density (op : ℚ → ℚ → ℚ) (hop : ∀ k a b : ℚ, op (a / k) (b / k) = op a b / k) (s1 s2 : USpec) (f1 f2 : FUnit)
    (h1 : s1.vu = some f1) (h2 : s2.vu = some f2) (u : WUnit) (m : Sampling) (fill : ℚ)
    (hdw : ∀ dw, samplingOf m s1.wave (if s2.wu = s1.wu then s2 else toWave s1.wu s2).wave = some dw → dw ≠ 0) :
    ufuncU op (toWave u s1) (toWave u s2) (m.scale (waveTo s1.wu u)) (fill / waveTo s1.wu u)
      = (ufuncU op s1 s2 m fill).map (toWave u) := by
  exact ufuncU_toWave op s1 s2 u m fill _ (by rw [h1]; rfl) (by rw [h2]; rfl) (hop _)

/-- addition and subtraction are instances of `unit_invariance_density` (every fill value, re-expressed as a density) -/
theorem add_sub_unit_invariance_density (s1 s2 : USpec) (f1 f2 : FUnit) (h1 : s1.vu = some f1) (h2 : s2.vu = some f2) (u : WUnit)
    (m : Sampling) (fill : ℚ)
    (hdw : ∀ dw, samplingOf m s1.wave (if s2.wu = s1.wu then s2 else toWave s1.wu s2).wave = some dw → dw ≠ 0) :
    ufuncU (· + ·) (toWave u s1) (toWave u s2) (m.scale (waveTo s1.wu u)) (fill / waveTo s1.wu u)
        = (ufuncU (· + ·) s1 s2 m fill).map (toWave u) ∧
    ufuncU (· - ·) (toWave u s1) (toWave u s2) (m.scale (waveTo s1.wu u)) (fill / waveTo s1.wu u)
        = (ufuncU (· - ·) s1 s2 m fill).map (toWave u) :=
  ⟨unit_invariance_density _ (fun k a b => (add_div a b k).symm) s1 s2 f1 f2 h1 h2 u m fill hdw,
   unit_invariance_density _ (fun k a b => (sub_div a b k).symm) s1 s2 f1 f2 h1 h2 u m fill hdw⟩

/-- "both operands still describe the same physical spectrum afterwards", structural part (regenerated from `Spectrum._ufunc`):
the right operand is brought to the left operand's unit on a COPY, `_ufunc` assigns no attribute of `self`, and the result
carries the left operand's wavelength and value units. (That nothing else touches the operands is the snapshot oracle.) -/
theorem operands_unchanged_structural :
    Gen.ufuncConvertsCopy = true ∧ Gen.ufuncWritesSelf = false ∧
    Gen.ufuncResultWaveUnitFromSelf = true ∧ Gen.ufuncResultValueUnitFromSelf = true := ⟨rfl, rfl, rfl, rfl⟩

/-- which operand kinds `Spectrum._ufunc` combines element-wise on the unchanged grid (regenerated from its `isinstance` tuple):
Python numbers, NumPy scalars of every type (`np.generic`), lists/tuples and arrays -/
theorem scalar_kinds_include_numpy :
    "int" ∈ Gen.ufuncElementwiseTypes ∧ "float" ∈ Gen.ufuncElementwiseTypes ∧ "np.generic" ∈ Gen.ufuncElementwiseTypes ∧
    "np.ndarray" ∈ Gen.ufuncElementwiseTypes ∧ "list" ∈ Gen.ufuncElementwiseTypes := by decide

/-- scalar and equal-length vector operands act element-wise on the unchanged wavelength grid -/
theorem scalar_vector_elementwise (op : ℚ → ℚ → ℚ) (s : Spectrum) (c : ℚ) (v : List ℚ) (hv : v.length = s.value.length) :
    (ufuncScalar op s c).wave = s.wave ∧ (ufuncScalar op s c).value = s.value.map (op · c) ∧
    ufuncVector op s v = .ok ⟨s.wave, List.zipWith op s.value v⟩ := by
  refine ⟨rfl, rfl, ?_⟩
  simp [ufuncVector, hv]

/-- Tᵖ (unit hand-over): the operation sees the right operand in the left operand's unit — giving it in any unit is the
same as giving it already converted — and the result carries the left operand's units. (The full unit invariance — that
re-expressing *both* operands in another unit rescales the result's grid by the unit factor and leaves its values
unchanged — is `unit_invariance_unitless` / `unit_invariance_density`.) -/
theorem unit_handover_partial (op : ℚ → ℚ → ℚ) (s1 s2 : USpec) (m : Sampling) (fill : ℚ) :
    ufuncU op s1 s2 m fill = ufuncU op s1 (toWave s1.wu s2) m fill ∧
    ∀ r, ufuncU op s1 s2 m fill = .ok r → r.wu = s1.wu ∧ r.vu = s1.vu := by
  constructor
  · rw [ufuncU_eq, ufuncU_eq, toWave_toWave]
  · intro r hr
    rw [ufuncU_eq] at hr
    cases hu : ufunc op ⟨s1.wave, s1.value⟩ ⟨(toWave s1.wu s2).wave, (toWave s1.wu s2).value⟩ m fill with
    | error e => rw [hu] at hr; cases hr
    | ok r' => rw [hu] at hr; cases hr; exact ⟨rfl, rfl⟩

/-- commutativity at the level the driver runs, operands in the same units: a∘b = b∘a (with left↔right sampling swapped) -/
theorem ufuncU_comm_same_units (op : ℚ → ℚ → ℚ) (hc : ∀ a b, op a b = op b a) (s1 s2 : USpec) (hw : s1.wu = s2.wu) (hv : s1.vu = s2.vu)
    (m : Sampling) (fill : ℚ) : ufuncU op s2 s1 m.swap fill = ufuncU op s1 s2 m fill := by
  simp only [ufuncU, hw, hv, if_true, op_comm op hc ⟨s1.wave, s1.value⟩ ⟨s2.wave, s2.value⟩ m fill]

theorem ufuncU_comm_toWave (op : ℚ → ℚ → ℚ) (hc : ∀ a b, op a b = op b a) (s1 s2 : USpec) (hv : s1.vu = s2.vu)
    (m : Sampling) (fill c : ℚ) (h1 : vdiv s1.vu (waveTo s1.wu s2.wu) = c) (hop : ∀ a b, op (a / c) (b / c) = op a b / c) :
    ufuncU op s2 s1 ((m.scale (waveTo s1.wu s2.wu)).swap) (fill / c) = (ufuncU op s1 s2 m fill).map (toWave s2.wu) := by
  have hinv := ufuncU_toWave op s1 s2 s2.wu m fill c h1 (hv ▸ h1) hop
  rw [toWave_self s2] at hinv
  rw [← hinv, (unit_handover_partial op s2 s1 _ _).1]
  exact ufuncU_comm_same_units op hc (toWave s2.wu s1) s2 (toWave_wu _ _) ((toWave_vu _ _).trans hv) _ _

/-- commutativity ACROSS units (unitless spectra, any commutative operator): b∘a, computed in b's unit with the sampling
re-expressed in that unit and left↔right swapped, is a∘b re-expressed in b's unit -/
theorem ufuncU_comm_across_units (op : ℚ → ℚ → ℚ) (hc : ∀ a b, op a b = op b a) (s1 s2 : USpec)
    (h1 : s1.vu = none) (h2 : s2.vu = none) (m : Sampling) (fill : ℚ)
    (hdw : ∀ dw, samplingOf m s1.wave (if s2.wu = s1.wu then s2 else toWave s1.wu s2).wave = some dw → dw ≠ 0) :
    ufuncU op s2 s1 ((m.scale (waveTo s1.wu s2.wu)).swap) fill = (ufuncU op s1 s2 m fill).map (toWave s2.wu) := by
  simpa only [div_one] using ufuncU_comm_toWave op hc s1 s2 (h1.trans h2.symm) m fill 1 (by rw [h1]; rfl)
    (fun a b => by simp only [div_one])

/-- commutativity ACROSS units for per-wavelength density spectra of the same flux unit, fill 0, any commutative operator that is
homogeneous of degree one (addition): b∘a, computed in b's wavelength unit with the sampling re-expressed in that unit and
left↔right swapped, is a∘b re-expressed in b's unit (wavelengths × k, densities ÷ k) -/
theorem ufuncU_comm_across_units_density (op : ℚ → ℚ → ℚ) (hc : ∀ a b, op a b = op b a)
    (hop : ∀ k a b : ℚ, op (a / k) (b / k) = op a b / k) (s1 s2 : USpec) (f : FUnit)
    (h1 : s1.vu = some f) (h2 : s2.vu = some f) (m : Sampling)
    (hdw : ∀ dw, samplingOf m s1.wave (if s2.wu = s1.wu then s2 else toWave s1.wu s2).wave = some dw → dw ≠ 0) :
    ufuncU op s2 s1 ((m.scale (waveTo s1.wu s2.wu)).swap) 0 = (ufuncU op s1 s2 m 0).map (toWave s2.wu) := by
  simpa only [zero_div] using ufuncU_comm_toWave op hc s1 s2 (h1.trans h2.symm) m 0 _ (by rw [h1]) (hop _)

/-- addition is an instance of both hypotheses -/
theorem add_comm_across_units_density (s1 s2 : USpec) (f : FUnit) (h1 : s1.vu = some f) (h2 : s2.vu = some f) (m : Sampling)
    (hdw : ∀ dw, samplingOf m s1.wave (if s2.wu = s1.wu then s2 else toWave s1.wu s2).wave = some dw → dw ≠ 0) :
    ufuncU (· + ·) s2 s1 ((m.scale (waveTo s1.wu s2.wu)).swap) 0 = (ufuncU (· + ·) s1 s2 m 0).map (toWave s2.wu) :=
  ufuncU_comm_across_units_density _ (fun a b => _root_.add_comm a b) (fun k a b => (add_div a b k).symm) s1 s2 f h1 h2 m hdw

/-- the five operators of the property are wired as the source spells them: `a + b`, `a - b`, `a * b`, `a / b`, `a ** b` end —
through `Spectrum.add/subtract/multiply/divide/power`, whose bodies hand `other, sampling, method, fill_value` on unchanged
(checked by the generator) — in the NumPy ufunc of that arithmetic (`Gen.operatorOp`, `Gen.methodOp`, regenerated from
`__add__ … __pow__` and the five methods), the operator form and the method form of each agree, and the only reflected
operator is `__rmul__`, an alias of `__mul__` -/
theorem operators_dispatch :
    (Gen.operatorOp "__add__").bind arithFn = some (· + ·) ∧ (Gen.operatorOp "__sub__").bind arithFn = some (· - ·) ∧
    (Gen.operatorOp "__mul__").bind arithFn = some (· * ·) ∧ (Gen.operatorOp "__truediv__").bind arithFn = some (· / ·) ∧
    Gen.operatorOp "__pow__" = some .power ∧
    (∀ d ∈ ["__add__", "__sub__", "__mul__", "__truediv__", "__pow__"],
        (Gen.operatorMethod d).bind Gen.methodOp = Gen.operatorOp d ∧ (Gen.operatorOp d).isSome) ∧
    Gen.reflectedAliases = [("__rmul__", "__mul__")] := by
  refine ⟨rfl, rfl, rfl, rfl, rfl, by decide, rfl⟩

/-- "the result is a new spectrum": the grid test of the model (`validWave`, which every result, conversion and resampled grid
goes through) is the three refusals of the `Spectrum.wave` setter as the source spells them (`Gen.waveRejectsSample`:
`value <= 0`; sortedness; `Gen.waveRejectsStep`: `value[1:] - value[:-1] == 0`): no sample of an accepted grid is rejected
by the first, and on two adjacent samples acceptance is exactly "both pass the first test, in order, step not rejected" -/
theorem wave_setter_is_code :
    (∀ w : List ℚ, validWave w = true → ∀ x ∈ w, Gen.waveRejectsSample x = false) ∧
    (∀ a b : ℚ, validWave [a, b] = true ↔
      Gen.waveRejectsSample a = false ∧ Gen.waveRejectsSample b = false ∧ a ≤ b ∧ Gen.waveRejectsStep a b = false) := by
  refine ⟨fun w h x hx => ?_, fun a b => ?_⟩
  · simpa only [Gen.waveRejectsSample, decide_eq_false_iff_not, not_le] using validWave_pos w h x hx
  · -- the model says `a < b`, the source `a ≤ b` and step `b - a ≠ 0`
    simp only [validWave_iff, List.forall_mem_cons, List.not_mem_nil, false_imp_iff, implies_true, and_true, StrictInc,
      List.pairwise_cons, List.Pairwise.nil, List.mem_singleton, forall_eq, Gen.waveRejectsSample, Gen.waveRejectsStep,
      decide_eq_false_iff_not, not_le, sub_eq_zero, lt_iff_le_and_ne, ne_comm (a := a), and_assoc]

/-- non-vacuity: overlapping ranges, fill 0 -/
example : ufunc (· + ·) ⟨[1, 2, 3], [10, 20, 30]⟩ ⟨[2, 3, 4, 5], [1, 1, 1, 1]⟩ .min 0
    = .ok ⟨[1, 2, 3, 4, 5], [10, 21, 31, 1, 1]⟩ := by decide +kernel

end Lentil.C13
