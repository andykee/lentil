import LentilVerif.Lemmas.ZernikeFit
import Mathlib.LinearAlgebra.Matrix.DotProduct
/-! # C12 — Zernike fit, compose and remove are mutually inverse for any mode set

Property theorems only; the model (`zfit`, `zcompose`, `zremove` over a basis matrix `B` whose columns are the requested modes in
the requested order) is `Lemmas/ZernikeFit.lean`. Hypothesis everywhere: the requested modes are linearly independent on the
mask, `IsUnit (Bᵀ * B).det`. Trusted contract: `np.linalg.pinv(basis)` is then `(BᵀB)⁻¹Bᵀ` (compared on every call of every
generated history with the executable model `fitX`, which `exec_model_is_abstract` proves equal to `zfit`). Subset, ordering,
normalisation and caller coordinates only change `B`, and every theorem holds for every `B`. -/
namespace Lentil.C12
open Lentil Matrix

variable {P M R : Type} [Fintype P] [Fintype M] [DecidableEq M] [CommRing R]

/-- **fit ∘ compose = id**: fitting an OPD composed from coefficients `c` returns `c`, for every mode set and ordering -/
theorem fit_compose (B : Matrix P M R) (h : IsUnit (Bᵀ * B).det) (c : M → R) : zfit B (zcompose B c) = c := by
  unfold zfit zcompose
  rw [Matrix.mulVec_mulVec, pinvFR_mul B h, Matrix.one_mulVec]

/-- the residual's fitted coefficients vanish -/
theorem remove_fit_zero (B : Matrix P M R) (h : IsUnit (Bᵀ * B).det) (opd : P → R) : zfit B (zremove B opd) = 0 := by
  have e : zfit B (zremove B opd) = zfit B opd - zfit B (zcompose B (zfit B opd)) := by
    unfold zremove zfit; rw [Matrix.mulVec_sub]
  rw [e, fit_compose B h, sub_self]

/-- removal is idempotent -/
theorem remove_idempotent (B : Matrix P M R) (h : IsUnit (Bᵀ * B).det) (opd : P → R) :
    zremove B (zremove B opd) = zremove B opd := by
  have e : zremove B (zremove B opd) = zremove B opd - zcompose B (zfit B (zremove B opd)) := rfl
  rw [e, remove_fit_zero B h]
  unfold zcompose; rw [Matrix.mulVec_zero, sub_zero]

/-- an OPD made only of the removed modes is reduced to zero -/
theorem remove_span_zero (B : Matrix P M R) (h : IsUnit (Bᵀ * B).det) (c : M → R) : zremove B (zcompose B c) = 0 := by
  unfold zremove; rw [fit_compose B h, sub_self]

/-- removal subtracts exactly the least-squares component: the residual is orthogonal to every removed mode (normal
equations `Bᵀ(opd − B·fit) = 0`) -/
theorem remove_orthogonal_to_modes (B : Matrix P M R) (h : IsUnit (Bᵀ * B).det) (opd : P → R) :
    Bᵀ *ᵥ zremove B opd = 0 := by
  unfold zremove zcompose zfit
  rw [Matrix.mulVec_sub, Matrix.mulVec_mulVec, Matrix.mulVec_mulVec, (eq_pinvFR_iff B h _).1 rfl, sub_self]

/-- the fitted coefficients are the least-squares solution: no coefficient vector leaves a smaller residual
(sum of squares over the samples) than `zernike_remove` does -/
theorem fit_is_least_squares {F : Type} [Field F] [LinearOrder F] [IsStrictOrderedRing F] (B : Matrix P M F) (h : IsUnit (Bᵀ * B).det)
    (opd : P → F) (c : M → F) :
    zremove B opd ⬝ᵥ zremove B opd ≤ (opd - B *ᵥ c) ⬝ᵥ (opd - B *ᵥ c) := by
  have e : opd - B *ᵥ c = zremove B opd + B *ᵥ (zfit B opd - c) := by
    unfold zremove zcompose; rw [Matrix.mulVec_sub]; abel
  have orth : zremove B opd ⬝ᵥ (B *ᵥ (zfit B opd - c)) = 0 := by
    rw [dotProduct_mulVec, ← Matrix.mulVec_transpose, remove_orthogonal_to_modes B h opd, zero_dotProduct]
  have sq : 0 ≤ (B *ᵥ (zfit B opd - c)) ⬝ᵥ (B *ᵥ (zfit B opd - c)) := Finset.sum_nonneg fun i _ => mul_self_nonneg _
  rw [e, add_dotProduct, dotProduct_add, dotProduct_add, dotProduct_comm (B *ᵥ (zfit B opd - c)) (zremove B opd), orth]
  linarith

/-- the statements for Zernike bases: any list of modes in any order, either normalisation, any caller coordinates -/
theorem fit_compose_zernike {K : Type} [Field K] (sqrtN : Nat → K) (cos sin : K → K) {k : Nat} (modes : Fin k → Nat)
    (normalize : Bool) (rho theta : P → K) (mask : P → Bool)
    (h : IsUnit ((zBasis sqrtN cos sin modes normalize rho theta mask)ᵀ * zBasis sqrtN cos sin modes normalize rho theta mask).det)
    (c : Fin k → K) (opd : P → K) :
    let B := zBasis sqrtN cos sin modes normalize rho theta mask
    zfit B (zcompose B c) = c ∧ zfit B (zremove B opd) = 0 ∧ zremove B (zremove B opd) = zremove B opd ∧
      zremove B (zcompose B c) = 0 :=
  ⟨fit_compose _ h c, remove_fit_zero _ h opd, remove_idempotent _ h opd, remove_span_zero _ h c⟩

/-- **order clause**: permuting the requested modes permutes the fitted coefficients (for any basis, invertible or not) -/
theorem fit_order_independent {F : Type} [Field F] (B : Matrix P M F) (σ : M ≃ M) (opd : P → F) :
    zfit (B.submatrix id σ) opd = zfit B opd ∘ σ := by
  unfold zfit pinvFR
  rw [Matrix.transpose_submatrix, ← Equiv.coe_refl, Matrix.submatrix_mul_equiv, Matrix.inv_submatrix_equiv, Matrix.submatrix_mul_equiv,
    Matrix.submatrix_mulVec_equiv]
  rfl

/-! ## the executable model (`Model/ZernikeFit.lean`, run by the driver against the implementation) is the abstract model -/

/-- the executable `fitX` (Cramer / Laplace solution of the normal equations `BᵀB·x = Bᵀ·opd`, `p` samples, `k` requested modes),
`composeX` and `removeX` are `zfit`, `zcompose`, `zremove` of the basis matrix `blockOf p k B`. (The hypothesis is not needed: for a singular
`BᵀB` both `fitX` and `zfit` are 0.) -/
theorem exec_model_is_abstract {F : Type} [Field F] (p k : ℕ) (B : ℕ → ℕ → F) (opd c : ℕ → F)
    (h : IsUnit ((blockOf p k B)ᵀ * blockOf p k B).det) :
    (fun a : Fin k => fitX p k B opd a) = zfit (blockOf p k B) (fun s : Fin p => opd s) ∧
    (fun s : Fin p => composeX k B c s) = zcompose (blockOf p k B) (fun a : Fin k => c a) ∧
    (fun s : Fin p => removeX p k B opd s) = zremove (blockOf p k B) (fun s : Fin p => opd s) :=
  ⟨fitX_eq_zfit p k B opd, composeX_eq_zcompose p k B c, removeX_eq_zremove p k B opd⟩

/-- hence the property holds of the executable definitions themselves, for the basis built from the C11 mode model
(`zBasisX`: entry (sample s, requested mode a) = `zernAt … (modes a) normalize (rho s) (theta s) (mask s)`), any list of modes in any
order, either normalisation, any coordinates: fit∘compose = id, fit∘remove = 0, remove idempotent, remove∘compose = 0. The matrix
`blockOf p k (zBasisX …)` of the hypothesis is the `zBasis` of `fit_compose_zernike` (`blockOf_zBasisX`). -/
theorem exec_fit_compose_remove {F : Type} [Field F] (sqrtN : ℕ → F) (cos sin : F → F) (p k : ℕ) (modes : ℕ → ℕ) (normalize : Bool)
    (rho theta : ℕ → F) (mask : ℕ → Bool) (opd c : ℕ → F)
    (h : IsUnit ((blockOf p k (zBasisX sqrtN cos sin modes normalize rho theta mask))ᵀ *
      blockOf p k (zBasisX sqrtN cos sin modes normalize rho theta mask)).det) :
    let B := zBasisX sqrtN cos sin modes normalize rho theta mask
    (∀ a, a < k → fitX p k B (composeX k B c) a = c a) ∧
    (∀ a, a < k → fitX p k B (removeX p k B opd) a = 0) ∧
    (∀ s, s < p → removeX p k B (removeX p k B opd) s = removeX p k B opd s) ∧
    (∀ s, s < p → removeX p k B (composeX k B c) s = 0) := by
  intro B
  have ef := fitX_eq_zfit p k B
  have er := removeX_eq_zremove p k B
  have ec := composeX_eq_zcompose p k B c
  refine ⟨fun a ha => ?_, fun a ha => ?_, fun s hs => ?_, fun s hs => ?_⟩
  · lift a to Fin k using ha
    exact (congrFun (ef _) a).trans (by rw [ec, fit_compose _ h])
  · lift a to Fin k using ha
    exact (congrFun (ef _) a).trans (by rw [er, remove_fit_zero _ h]; rfl)
  · lift s to Fin p using hs
    exact (congrFun (er _) s).trans (by rw [er, remove_idempotent _ h, ← er])
  · lift s to Fin p using hs
    exact (congrFun (er _) s).trans (by rw [ec, remove_span_zero _ h]; rfl)

/-- **the hypothesis is the property's "linearly independent"**: over a linearly ordered field (ℝ, ℚ) `BᵀB` is invertible iff `c ↦ B·c` is
injective iff the columns of `B` — the requested modes sampled on the array — are linearly independent -/
theorem independence_hypothesis_iff {F : Type} [Field F] [LinearOrder F] [IsStrictOrderedRing F] (B : Matrix P M F) :
    (IsUnit (Bᵀ * B).det ↔ Function.Injective B.mulVec) ∧ (IsUnit (Bᵀ * B).det ↔ LinearIndependent F B.col) := by
  -- `BᵀB` and `B` have the same kernel: `BᵀB·x = 0` gives `(B·x)·(B·x) = x·(BᵀB·x) = 0`, a sum of squares
  have ker : ∀ x, (Bᵀ * B) *ᵥ x = 0 ↔ B *ᵥ x = 0 := by
    refine fun x => ⟨fun hz => dotProduct_self_eq_zero.1 ?_, fun hz => by rw [← Matrix.mulVec_mulVec, hz, Matrix.mulVec_zero]⟩
    rw [Matrix.dotProduct_mulVec, ← Matrix.mulVec_transpose, Matrix.mulVec_mulVec, hz, zero_dotProduct]
  have h1 : IsUnit (Bᵀ * B).det ↔ Function.Injective B.mulVec := by
    rw [← Matrix.isUnit_iff_isUnit_det, ← Matrix.mulVec_injective_iff_isUnit, ← Matrix.coe_mulVecLin, ← Matrix.coe_mulVecLin,
      injective_iff_map_eq_zero, injective_iff_map_eq_zero]
    simp only [Matrix.mulVecLin_apply, ker]
  exact ⟨h1, h1.trans Matrix.mulVec_injective_iff⟩

/-- outside the mask `zernike_remove` leaves the OPD untouched (the basis rows vanish there), and the fit does not depend on the OPD
there -/
theorem remove_keeps_outside_mask {F : Type} [Field F] (sqrtN : ℕ → F) (cos sin : F → F) (p k : ℕ) (modes : ℕ → ℕ) (normalize : Bool)
    (rho theta : ℕ → F) (mask : ℕ → Bool) (opd opd' : ℕ → F) :
    (∀ s, mask s = false → removeX p k (zBasisX sqrtN cos sin modes normalize rho theta mask) opd s = opd s) ∧
    ((∀ s, s < p → mask s = true → opd s = opd' s) →
      ∀ a, fitX p k (zBasisX sqrtN cos sin modes normalize rho theta mask) opd a
         = fitX p k (zBasisX sqrtN cos sin modes normalize rho theta mask) opd' a) := by
  constructor
  · intro s hs
    unfold removeX composeX Gen.removeContract
    simp only [zBasisX_outside _ _ _ _ _ _ _ _ s _ hs, zero_mul, sumRange_eq, Finset.sum_const_zero, sub_zero]
  · intro hag a
    -- the OPD enters the fit only through `Bᵀ·opd`, where a sample outside the mask meets a zero row of the basis
    have : rhsX p (zBasisX sqrtN cos sin modes normalize rho theta mask) opd
        = rhsX p (zBasisX sqrtN cos sin modes normalize rho theta mask) opd' := by
      funext b
      unfold rhsX
      rw [sumRange_eq, sumRange_eq]
      refine Finset.sum_congr rfl fun s hs => ?_
      cases hm : mask s
      · rw [zBasisX_outside _ _ _ _ _ _ _ _ s b hm, zero_mul, zero_mul]
      · rw [hag s (Finset.mem_range.1 hs) hm]
    unfold fitX
    rw [this]

/-- **the call wiring of the code** (`Gen.fitBasisArgs`, `Gen.removeFitArgs`, `Gen.removeBasisArgs` are re-translated from the call sites
in `zernike_fit` / `zernike_remove` on every run): with it, `zernike_fit` is the fit over the basis of *its own* modes, normalisation and
coordinates, and `zernike_remove` fits and subtracts over one and the same normalised basis of the caller's modes and coordinates — the
statement whose failure was defect D15. An edit to the argument lists changes the generated projections and breaks this theorem. -/
theorem remove_wiring {F : Type} [Field F] (sqrtN : ℕ → F) (cos sin : F → F) (p k : ℕ)
    (a : Gen.RemoveArgs (ℕ → F) (ℕ → Bool) (ℕ → ℕ) (ℕ → F)) (fa : Gen.FitArgs (ℕ → F) (ℕ → Bool) (ℕ → ℕ) (ℕ → F)) :
    fitA sqrtN cos sin p k fa = fitX p k (zBasisX sqrtN cos sin fa.modes fa.normalize fa.rho fa.theta fa.mask) fa.opd ∧
    removeA sqrtN cos sin p k a = removeX p k (zBasisX sqrtN cos sin a.modes true a.rho a.theta a.mask) a.opd := by
  -- the model's fit first selects the OPD with the mask (`Gen.fitSelect`); over a field that changes nothing (the basis rows vanish outside)
  have hfit : ∀ fa : Gen.FitArgs (ℕ → F) (ℕ → Bool) (ℕ → ℕ) (ℕ → F),
      fitA sqrtN cos sin p k fa = fitX p k (zBasisX sqrtN cos sin fa.modes fa.normalize fa.rho fa.theta fa.mask) fa.opd := fun fa =>
    funext ((remove_keeps_outside_mask sqrtN cos sin p k fa.modes fa.normalize fa.rho fa.theta fa.mask _ fa.opd).2
      fun s _ hm => by simp [Gen.fitSelect, hm])
  refine ⟨hfit fa, funext fun s => ?_⟩
  show a.opd s - composeX k _ (fitA sqrtN cos sin p k (Gen.removeFitArgs a)) s = _
  rw [hfit]
  rfl

/-- **`zernike_remove` subtracts exactly the composed fit** — the returned expression of the source (`Gen.removeResidual`, re-translated on every
run together with the data flow `coeffs = zernike_fit(…)`, `basis = zernike_basis(…)`, `fit_opd = einsum(basis, coeffs)`): per sample the result is the
input OPD minus the regenerated contraction of the basis (requested with `Gen.removeBasisArgs`) with the coefficients fitted with
`Gen.removeFitArgs` — no other term, sign or operand order. This holds over any scalar type with the model's operations (also the `Float` run of the
driver). A change of `residual = opd - fit_opd` changes `Gen.removeResidual` and breaks this theorem and `remove_wiring`. -/
theorem remove_subtracts_composed_fit {K : Type} [Add K] [Sub K] [Mul K] [Div K] [Neg K] [Zero K] [One K] [IntCast K]
    (sqrtN : ℕ → K) (cos sin : K → K) (p k : ℕ) (a : Gen.RemoveArgs (ℕ → K) (ℕ → Bool) (ℕ → ℕ) (ℕ → K)) (s : ℕ) :
    (∀ x y : K, Gen.removeResidual x y = x - y) ∧
    removeA sqrtN cos sin p k a s =
      a.opd s - composeX k (basisOfArgs sqrtN cos sin (Gen.removeBasisArgs a)) (fitA sqrtN cos sin p k (Gen.removeFitArgs a)) s :=
  ⟨fun _ _ => rfl, rfl⟩

/-- **samples outside the mask do not influence `zernike_fit`** — by the regenerated selection `Gen.fitSelect` (`np.where(mask != 0, opd, 0)`)
itself, with no arithmetic: two OPDs that agree on the mask give the same argument to the contraction. This is the clause of
KF-C12-nonfinite-outside-mask; it holds for ANY scalar type with the model's operations (no `0 · x = 0` is used), in particular
for the `Float` run of the model with NaN / ±inf outside the mask. Removing the statement from the source turns `Gen.fitSelect` into the identity
and breaks this theorem. -/
theorem fit_ignores_outside_mask {K : Type} [Add K] [Sub K] [Mul K] [Div K] [Neg K] [Zero K] [One K] [IntCast K]
    (sqrtN : ℕ → K) (cos sin : K → K) (p k : ℕ) (a a' : Gen.FitArgs (ℕ → K) (ℕ → Bool) (ℕ → ℕ) (ℕ → K))
    (hm : a'.mask = a.mask) (hmo : a'.modes = a.modes) (hn : a'.normalize = a.normalize) (hr : a'.rho = a.rho) (ht : a'.theta = a.theta)
    (hag : ∀ s, a.mask s = true → a'.opd s = a.opd s) :
    fitA sqrtN cos sin p k a' = fitA sqrtN cos sin p k a := by
  have hsel : (fun s => Gen.fitSelect (a'.mask s) (a'.opd s)) = (fun s => Gen.fitSelect (a.mask s) (a.opd s)) := by
    funext s
    rw [hm]
    cases h : a.mask s
    · rfl
    · rw [hag s h]
  unfold fitA
  rw [hsel]
  simp only [Gen.fitBasisArgs, hm, hmo, hn, hr, ht]

/-- `zernike_compose` takes a coefficient vector indexed by Noll index − 1 (`Gen.composeNoll`, regenerated from the source): with the
coefficients of the requested modes at their positions it composes `B·c` -/
theorem compose_positions {F : Type} [Field F] (sqrtN : ℕ → F) (cos sin : F → F) (k L : ℕ) (modes : ℕ → ℕ) (c : ℕ → F) (normalize : Bool)
    (rho theta : ℕ → F) (mask : ℕ → Bool) (s : ℕ) (hm : ∀ a, a < k → 1 ≤ modes a ∧ modes a ≤ L) :
    composeFullX sqrtN cos sin (fun i => (Gen.composeNoll i).toNat) L
        (fun i => ∑ a ∈ Finset.range k, if modes a = i + 1 then c a else 0) normalize rho theta mask s
      = composeX k (zBasisX sqrtN cos sin modes normalize rho theta mask) c s := by
  unfold composeFullX composeX Gen.removeContract zBasisX
  simp only [sumRange_eq]
  have hn : ∀ i : ℕ, (Gen.composeNoll (i : ℤ)).toNat = i + 1 := by intro i; simp [Gen.composeNoll]
  simp only [hn, Finset.sum_mul]
  rw [Finset.sum_comm]
  apply Finset.sum_congr rfl
  intro a ha
  obtain ⟨h1, h2⟩ := hm a (Finset.mem_range.1 ha)
  rw [Finset.sum_eq_single (modes a - 1)]
  · rw [if_pos (by omega), show modes a - 1 + 1 = modes a by omega, mul_comm]
  · intro i _ hi; rw [if_neg (by omega), zero_mul]
  · intro hne; exact absurd (Finset.mem_range.2 (by omega)) hne

/-- **the independence hypothesis is satisfiable by a Zernike basis**: modes [1, 4, 2] (piston, defocus, x-tilt), unnormalised,
sampled at ρ = 0, 1/2, 1 on the ray θ = 0, over ℚ: the model's basis matrix is `[[1,−1,0],[1,−1/2,1/2],[1,1,1]]`, `det(BᵀB) = 1/4` -/
theorem zernike_basis_independent_instance :
    blockOf 3 3 exBasis = !![1, -1, 0; 1, -1/2, 1/2; 1, 1, 1] ∧ IsUnit ((blockOf 3 3 exBasis)ᵀ * blockOf 3 3 exBasis).det := by
  refine (and_iff_left_of_imp fun e => ?_).2 (by decide +kernel)
  rw [e, Matrix.det_mul, Matrix.det_transpose, isUnit_iff_ne_zero, Matrix.det_fin_three]
  simp
  norm_num

/-- … and by a 2 × 2 array with a cosine, a sine and a radial mode: modes [2, 3, 4] (x-tilt, y-tilt with m = −1, defocus), unnormalised,
samples (ρ, θ) = (1, 0), (1, π/2), (1/2, π), (0, 0) with cos/sin as exact tables at multiples of π/2: the model's basis matrix is
`[[1,0,1],[0,−1,1],[−1/2,0,−1/2],[0,0,−1]]` and `det(BᵀB) = 5/4` -/
theorem zernike_basis_independent_instance_2d :
    blockOf 4 3 ex2Basis = !![1, 0, 1; 0, -1, 1; -1/2, 0, -1/2; 0, 0, -1] ∧ IsUnit ((blockOf 4 3 ex2Basis)ᵀ * blockOf 4 3 ex2Basis).det := by
  refine (and_iff_left_of_imp fun e => ?_).2 (by decide +kernel)
  rw [e, isUnit_iff_ne_zero, Matrix.det_fin_three]
  simp [Matrix.mul_apply, Fin.sum_univ_four]
  norm_num

/-- … and by the basis of the DEFAULT call on a PARTIAL mask: modes [1, 2, 3] with `normalize = true` (Noll's constants through the real square
root: √2·√(1+1) = 2 for the tilts), a 2 × 2 array whose last sample is outside the mask: the model's basis matrix is
`[[1,2,0],[1,0,−2],[1,−1,0],[0,0,0]]` (the masked-out sample is a zero row) and `det(BᵀB) = 36` -/
theorem zernike_basis_independent_instance_normalised :
    blockOf 4 3 ex3Basis = !![1, 2, 0; 1, 0, -2; 1, -1, 0; 0, 0, 0] ∧ IsUnit ((blockOf 4 3 ex3Basis)ᵀ * blockOf 4 3 ex3Basis).det := by
  refine (and_iff_left_of_imp fun e => ?_).2 ?_
  · rw [e, isUnit_iff_ne_zero, Matrix.det_fin_three]
    simp [Matrix.mul_apply, Fin.sum_univ_four]
    norm_num
  · rw [← Matrix.ext_iff]
    simp [Fin.forall_fin_succ, blockOf, ex3Basis, zBasisX, ex3Modes, ex3Rho, ex3Theta, ex3Mask, zernAt_one, zernAt_two, zernAt_three,
      cosR, sinR]
    norm_num

/-- **fit, compose and remove are linear** — the clauses hold "for all coefficient vectors" and all OPDs because the three maps are linear:
`fit(a·x + y) = a·fit x + fit y`, `compose(a·c + d) = a·compose c + compose d`, `remove(a·x + y) = a·remove x + remove y` (no independence
hypothesis needed) -/
theorem fit_compose_remove_linear {F : Type} [Field F] (B : Matrix P M F) (a : F) (x y : P → F) (c d : M → F) :
    zfit B (a • x + y) = a • zfit B x + zfit B y ∧ zcompose B (a • c + d) = a • zcompose B c + zcompose B d ∧
    zremove B (a • x + y) = a • zremove B x + zremove B y := by
  have h1 : zfit B (a • x + y) = a • zfit B x + zfit B y := by
    unfold zfit; rw [Matrix.mulVec_add, Matrix.mulVec_smul]
  have h2 : ∀ c d : M → F, zcompose B (a • c + d) = a • zcompose B c + zcompose B d := by
    intro c d; unfold zcompose; rw [Matrix.mulVec_add, Matrix.mulVec_smul]
  refine ⟨h1, h2 c d, ?_⟩
  unfold zremove
  rw [h1, h2, smul_sub]
  abel

/-- **the formula the theorems use for `np.linalg.pinv(basis)` is the Moore–Penrose inverse, and the only one**: under the independence hypothesis
`P = (BᵀB)⁻¹Bᵀ` satisfies the four Penrose equations `B P B = B`, `P B P = P`, `(B P)ᵀ = B P`, `(P B)ᵀ = P B`, and ANY matrix `X` with
`B X B = B` and `(B X)ᵀ = B X` equals it. So the trusted contract is exactly NumPy's documented one — "`pinv` returns the Moore–Penrose
pseudo-inverse" — not an ad-hoc formula. -/
theorem pinv_formula_is_moore_penrose {F : Type} [Field F] (B : Matrix P M F) (h : IsUnit (Bᵀ * B).det) :
    (B * pinvFR B * B = B ∧ pinvFR B * B * pinvFR B = pinvFR B ∧ (B * pinvFR B)ᵀ = B * pinvFR B ∧ (pinvFR B * B)ᵀ = pinvFR B * B) ∧
    ∀ X : Matrix M P F, B * X * B = B → (B * X)ᵀ = B * X → X = pinvFR B :=
  ⟨pinvFR_penrose B h, fun X h1 h3 => pinvFR_unique B X h h1 h3⟩

/-- **the two contractions of the code are the REGENERATED `Gen.fitContract` / `Gen.removeContract`** (translated from the einsum subscript
strings `'ij,i->j'` and `'ijk,i->jk'`): each sums its first index against the vector; the executable model's `B·c` IS the generated
contraction of `zernike_remove`. Changing a subscript string changes these definitions (or their argument order) and breaks this theorem and
the model built on it. -/
theorem einsum_contractions {F : Type} [Field F] (n : ℕ) (a : ℕ → ℕ → F) (b : ℕ → F) (s : ℕ) :
    Gen.fitContract sumRange n a b s = ∑ i ∈ Finset.range n, a i s * b i ∧
    Gen.removeContract sumRange n a b s = ∑ i ∈ Finset.range n, a i s * b i ∧
    composeX n (fun s i => a i s) b s = Gen.removeContract sumRange n a b s := by
  refine ⟨?_, ?_, rfl⟩ <;> simp only [Gen.fitContract, Gen.removeContract, sumRange_eq]

/-- **`einsum('ij,i->j', pinv(basis), opd.ravel())` is `(BᵀB)⁻¹Bᵀ·opd`**: the generated contraction applied to the entries of the transposed
pseudo-inverse (`pinv(basis)` is samples × modes) is the abstract fit of the theorems above -/
theorem fit_einsum_is_pinv_apply {F : Type} [Field F] (p k : ℕ) (B : Matrix (Fin p) (Fin k) F) (opd : Fin p → F) (j : Fin k) :
    Gen.fitContract (fun n f => ∑ i ∈ Finset.range n, f i) p
        (fun i (j : Fin k) => if h : i < p then (Matrix.transpose (pinvFR B)) ⟨i, h⟩ j else 0) (fun i => if h : i < p then opd ⟨i, h⟩ else 0) j
      = zfit B opd j := by
  unfold Gen.fitContract zfit
  beta_reduce
  rw [Finset.sum_range]
  simp only [Fin.is_lt, dite_true, Matrix.transpose_apply, Matrix.mulVec, dotProduct, Fin.eta]

/-- **the OPD and the basis number their samples alike**: pixel (r, c) of an `nr × nc` array is sample `r·nc + c` both in `opd.ravel()`
(`Gen.ravelIndex`, regenerated from the call and its `order`) and in `basis.reshape(k, -1)` (`Gen.reshapeIndex`) — C order on both sides, so the
fit pairs every OPD sample with the basis values of the same pixel; distinct pixels get distinct numbers below `nr·nc` -/
theorem sample_numbering_agrees (nr nc r c : ℕ) :
    opdSample nr nc r c = basisSample nr nc r c ∧ opdSample nr nc r c = r * nc + c ∧
    (r < nr → c < nc → opdSample nr nc r c < nr * nc ∧ opdSample nr nc r c / nc = r ∧ opdSample nr nc r c % nc = c) := by
  refine ⟨rfl, rfl, ?_⟩
  intro hr hc
  have e : opdSample nr nc r c = r * nc + c := rfl
  rw [e]
  refine ⟨?_, ?_, ?_⟩
  · calc r * nc + c < r * nc + nc := by omega
      _ = (r + 1) * nc := by ring
      _ ≤ nr * nc := Nat.mul_le_mul_right _ (by omega)
  · rw [Nat.mul_comm, Nat.mul_add_div (by omega), Nat.div_eq_of_lt hc]; rfl
  · exact Nat.mul_add_mod_of_lt hc

end Lentil.C12
