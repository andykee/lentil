import LentilVerif.Lemmas.Detector
import LentilVerif.Lemmas.Units
import LentilVerif.Lemmas.Sums
import LentilVerif.Gen.Effects
/-! # C16 — detector chain: right quantum efficiency at every pixel, exact digitisation

The model (`Model/Detector.lean`) is the hand model of `lentil/detector.py`, tied to the implementation by the exact
correspondence of `tools/harness/c16.py`. -/
namespace Lentil.C16
open Lentil Lentil.Det Finset

/-! ## collect_charge -/

/-- collected charge is, at every pixel, the sum over wavelength slices of photons × QE -/
theorem collect_charge_sum {K} [Semiring K] (nw : Nat) (img : Nat → Int → Int → K) (qe : Nat → K) (i j : Int) :
    collectCharge nw img qe i j = ∑ l ∈ range nw, img l i j * qe l := by
  unfold collectCharge; rw [sumRange_eq]

/-- linear in the photons and in the efficiency -/
theorem collect_charge_bilinear {K} [CommSemiring K] (nw : Nat) (img img' : Nat → Int → Int → K) (qe qe' : Nat → K) (a b : K) (i j : Int) :
    collectCharge nw (fun l r c => a * img l r c + b * img' l r c) qe i j
        = a * collectCharge nw img qe i j + b * collectCharge nw img' qe i j ∧
    collectCharge nw img (fun l => a * qe l + b * qe' l) i j
        = a * collectCharge nw img qe i j + b * collectCharge nw img qe' i j := by
  simp only [collect_charge_sum, Finset.mul_sum, ← Finset.sum_add_distrib]
  exact ⟨Finset.sum_congr rfl fun l _ => by ring, Finset.sum_congr rfl fun l _ => by ring⟩

/-- only the efficiency values at the `nw` wavelengths matter -/
theorem collect_charge_congr {K} [Semiring K] (nw : Nat) (img : Nat → Int → Int → K) (q q' : Nat → K)
    (h : ∀ l, l < nw → q l = q' l) (i j : Int) : collectCharge nw img q i j = collectCharge nw img q' i j := by
  simp only [collect_charge_sum]
  exact Finset.sum_congr rfl fun l hl => by rw [h l (Finset.mem_range.mp hl)]

/-- `Spectrum.sample` does not depend on the wavelength unit of the request: asking at the same physical wavelengths expressed
in another unit (`w · (wu → wu')`, factor regenerated from radiometry.py) returns the same values — for every pair of units -/
theorem spectrum_sample_unit_invariant {K} [Field K] [LinearOrder K] [IsStrictOrderedRing K] (grid : List (K × K))
    (su wu wu' : Gen.WUnit) (w : K) :
    spectrumSample grid su (w * Gen.waveTo wu wu') wu' = spectrumSample grid su w wu := by
  unfold spectrumSample
  rw [← interpLin_scale (Gen.waveTo wu wu') (Units.waveTo_pos wu wu') (grid.map fun p => (p.1 * Gen.waveTo su wu, p.2)) w, List.map_map]
  congr 1
  apply List.map_congr_left
  intro p _
  simp only [Function.comp, ← Units.waveTo_cocycle su wu wu', mul_assoc]

/-- scalar, per-wavelength vector and `Spectrum` give the same electrons when they denote the same efficiency `q`: the vector
lists `q`, the spectrum is flat at `q` on a grid (in any unit `su`) whose band contains the requested wavelengths (given in any
unit `wu`). The spectrum branch is `qe_asarray`'s `Spectrum.sample(wave, waveunit)`: unit conversion by the regenerated factor
table followed by linear interpolation — derived here, not assumed. -/
theorem qe_representations_agree {K} [Field K] [LinearOrder K] [IsStrictOrderedRing K] (nw : Nat) (img : Nat → Int → Int → K) (q : K)
    (v : Nat → K) (grid : List (K × K)) (su wu : Gen.WUnit) (wave : Nat → K) (x0 xl : K)
    (hv : ∀ l, l < nw → v l = q)
    (hflat : ∀ p ∈ grid, p.2 = q) (hhead : grid.head? = some (x0, q)) (hlast : grid.getLast? = some (xl, q)) (hlen : 2 ≤ grid.length)
    (hband : ∀ l, l < nw → x0 * Gen.waveTo su wu ≤ wave l ∧ wave l ≤ xl * Gen.waveTo su wu) :
    ∃ a b c, (QE.scalar q).asArray nw = some a ∧ (QE.vector nw v).asArray nw = some b ∧
      (QE.spectrumObj grid su wave wu).asArray nw = some c ∧
      ∀ i j, collectCharge nw img a i j = collectCharge nw img b i j ∧ collectCharge nw img b i j = collectCharge nw img c i j := by
  refine ⟨fun _ => q, v, fun l => spectrumSample grid su (wave l) wu, rfl, if_pos rfl, rfl, fun i j => ⟨?_, ?_⟩⟩
  · exact collect_charge_congr nw img _ _ (fun l hl => (hv l hl).symm) i j
  · apply collect_charge_congr nw img _ _ _ i j
    intro l hl
    rw [hv l hl]
    symm
    unfold spectrumSample
    exact interpLin_flat q (List.forall_mem_map.2 hflat) (by simp [List.head?_map, hhead]) (by simp [List.getLast?_map, hlast])
      (by simpa using hlen) (hband l hl).1 (hband l hl).2

/-- the same with the band condition stated in the GRID's own unit: it is enough that the requested wavelengths, converted to the
spectrum's unit `su` (`wave l · (wu → su)`, regenerated factor), lie in `[x0, xl]` — whatever unit `wu` the call uses -/
theorem qe_representations_agree_grid_unit {K} [Field K] [LinearOrder K] [IsStrictOrderedRing K] (nw : Nat) (img : Nat → Int → Int → K) (q : K)
    (v : Nat → K) (grid : List (K × K)) (su wu : Gen.WUnit) (wave : Nat → K) (x0 xl : K)
    (hv : ∀ l, l < nw → v l = q)
    (hflat : ∀ p ∈ grid, p.2 = q) (hhead : grid.head? = some (x0, q)) (hlast : grid.getLast? = some (xl, q)) (hlen : 2 ≤ grid.length)
    (hband : ∀ l, l < nw → x0 ≤ wave l * Gen.waveTo wu su ∧ wave l * Gen.waveTo wu su ≤ xl) :
    ∃ a b c, (QE.scalar q).asArray nw = some a ∧ (QE.vector nw v).asArray nw = some b ∧
      (QE.spectrumObj grid su wave wu).asArray nw = some c ∧
      ∀ i j, collectCharge nw img a i j = collectCharge nw img b i j ∧ collectCharge nw img b i j = collectCharge nw img c i j := by
  apply qe_representations_agree nw img q v grid su wu wave x0 xl hv hflat hhead hlast hlen
  intro l hl
  have hpos : (0 : K) < Gen.waveTo su wu := Units.waveTo_pos su wu
  obtain ⟨h1, h2⟩ := hband l hl
  have e : wave l = wave l * Gen.waveTo wu su * Gen.waveTo su wu := by
    rw [mul_assoc, Units.waveTo_cocycle, Units.waveTo_self, mul_one]
  constructor
  · rw [e]; exact mul_le_mul_of_nonneg_right h1 hpos.le
  · rw [e]; exact mul_le_mul_of_nonneg_right h2 hpos.le

/-- non-vacuity of `qe_representations_agree_grid_unit`: a flat 1/2 spectrum tabulated in nanometres on [400, 800], asked at
0.5 and 0.7 micrometres -/
example : ∃ a b c, (QE.scalar (1 / 2 : ℚ)).asArray 2 = some a ∧ (QE.vector 2 fun _ => (1 / 2 : ℚ)).asArray 2 = some b ∧
    (QE.spectrumObj [(400, 1 / 2), (600, 1 / 2), (800, (1 / 2 : ℚ))] .nm (fun l => if l = 0 then 1 / 2 else 7 / 10) .um).asArray 2 = some c ∧
    ∀ i j, collectCharge 2 (fun _ _ _ => (3 : ℚ)) a i j = collectCharge 2 (fun _ _ _ => 3) b i j ∧
      collectCharge 2 (fun _ _ _ => (3 : ℚ)) b i j = collectCharge 2 (fun _ _ _ => 3) c i j :=
  qe_representations_agree_grid_unit (K := ℚ) 2 _ (1 / 2) _ _ .nm .um _ 400 800 (fun _ _ => rfl)
    (by decide +kernel) rfl rfl (by decide) (by decide +kernel)

/-- a Spectrum efficiency, flat or not, gives exactly the electrons of the vector of its own samples at the call's wavelengths
(`qe_asarray` replaces the Spectrum by `Spectrum.sample(wave, waveunit)`), in every pair of units -/
theorem qe_spectrum_equals_its_samples {K} [Field K] [LinearOrder K] (nw : Nat) (img : Nat → Int → Int → K) (grid : List (K × K))
    (su wu : Gen.WUnit) (wave : Nat → K) (i j : Int) :
    ∃ a b, (QE.spectrumObj grid su wave wu).asArray nw = some a ∧
      (QE.vector nw fun l => spectrumSample grid su (wave l) wu).asArray nw = some b ∧
      collectCharge nw img a i j = collectCharge nw img b i j :=
  ⟨_, _, rfl, if_pos rfl, rfl⟩

/-- test vectors, grids in nanometres asked in micrometres: a flat spectrum inside its band; a ramp from 1/4 at 400 nm to 3/4 at 600 nm
at its midpoint; the same ramp just below its band (fill value 0) -/
example : spectrumSample (K := ℚ) [(400, 1/2), (600, 1/2), (800, 1/2)] .nm (1/2) .um = 1/2 ∧
    spectrumSample (K := ℚ) [(400, 1/4), (600, 3/4)] .nm (1/2) .um = 1/2 ∧
    spectrumSample (K := ℚ) [(400, 1/4), (600, 3/4)] .nm (39999/100000) .um = 0 := by
  decide +kernel

example : (QE.vector 3 (fun l => (l : Int))).asArray 4 = none := by decide

/-- slice-count mismatches: a cube whose number of slices differs from the number of wavelengths is refused, except for a
single slice, which the code broadcasts against all efficiencies (returns `photons · Σ qe`; reported as questionable) -/
theorem collect_charge_slice_mismatch {K} [Semiring K] (ns nw : Nat) (img : Nat → Int → Int → K) (qe : Nat → K) :
    (ns = nw → collectChargeChecked ns nw img qe = some (collectCharge nw img qe)) ∧
    (ns ≠ nw → ns ≠ 1 → collectChargeChecked ns nw img qe = none) ∧
    (ns ≠ nw → ns = 1 → ∃ f, collectChargeChecked ns nw img qe = some f ∧ ∀ i j, f i j = img 0 i j * ∑ l ∈ range nw, qe l) := by
  refine ⟨fun h => by simp [collectChargeChecked, h], fun h1 h2 => by simp [collectChargeChecked, h1, h2], ?_⟩
  intro h1 h2
  subst h2
  have h1' : ¬ (1 = nw) := h1
  refine ⟨collectCharge nw (fun _ => img 0) qe, by simp [collectChargeChecked, h1'], ?_⟩
  intro i j; rw [collect_charge_sum, Finset.mul_sum]

/-! ## Bayer mosaic -/

/-- the mosaic built by `np.tile` then `np.repeat` on both axes has exactly the image shape when the image size is a
multiple of pattern size × oversampling … -/
theorem mosaic_shape {K} (kern : Img K) (d os a b : Int) (hd : 0 < d) (hos : 0 < os) (h0 : kern.s0 = d) (h1 : kern.s1 = d) :
    (mosaic kern (d * os * a) (d * os * b) os).s0 = d * os * a ∧ (mosaic kern (d * os * a) (d * os * b) os).s1 = d * os * b := by
  rw [mosaic_s0, mosaic_s1, h0, h1]
  exact ⟨tileSpan_eq_of_dvd hd hos ⟨a, rfl⟩, tileSpan_eq_of_dvd hd hos ⟨b, rfl⟩⟩

/-- … and only then (otherwise NumPy raises a broadcast error, the model answers `none`) -/
theorem mosaic_shape_only_if_multiple {K} (kern : Img K) (d os R C : Int) (h0 : kern.s0 = d) (h1 : kern.s1 = d)
    (h : (mosaic kern R C os).s0 = R ∧ (mosaic kern R C os).s1 = C) : d * os ∣ R ∧ d * os ∣ C := by
  rw [mosaic_s0, mosaic_s1, h0, h1] at h
  exact ⟨dvd_of_tileSpan_eq h.1, dvd_of_tileSpan_eq h.2⟩

/-- the pattern string is refused (ValueError) exactly when it contains a letter other than R, G, B (in either case) or its
length is not a perfect square; an accepted string of length `d²` is laid out row-major -/
theorem format_bayer_string_spec (s : String) :
    (formatBayer s = none ↔ (∃ c ∈ s.toList, colourOfChar c = none) ∨ ¬ ∃ d, d * d = s.toList.length) ∧
    (∀ d p, formatBayer s = some (d, p) → d * d = s.toList.length ∧
      ∀ a b : Nat, a * d + b < s.toList.length → some (p a b) = (s.toList[a * d + b]?).bind colourOfChar) := by
  unfold formatBayer
  have hany : (s.toList.map colourOfChar).any Option.isNone = true ↔ ∃ c ∈ s.toList, colourOfChar c = none := by
    simp only [List.any_map, List.any_eq_true, Function.comp, Option.isNone_iff_eq_none]
  by_cases hex : ∃ c ∈ s.toList, colourOfChar c = none
  · simp [hany.mpr hex, hex]
  · have hgood : ∀ c ∈ s.toList, colourOfChar c ≠ none := fun c hc hn => hex ⟨c, hc, hn⟩
    have hbad : ¬ (s.toList.map colourOfChar).any Option.isNone = true := mt hany.mp hex
    simp only [hbad, Bool.false_eq_true, if_false, List.length_map]
    cases hf : (List.range (s.toList.length + 1)).find? (fun d => d * d == s.toList.length) with
    | none =>
      rw [List.find?_eq_none] at hf
      refine ⟨⟨fun _ => Or.inr ?_, fun _ => rfl⟩, by simp⟩
      rintro ⟨d, hd⟩
      have hle : d < s.toList.length + 1 := by
        have : d ≤ d * d := Nat.le_mul_self d
        omega
      exact hf d (List.mem_range.mpr hle) (by simp [hd])
    | some d =>
      have hd : d * d = s.toList.length := by simpa using List.find?_some hf
      refine ⟨⟨fun h => (nomatch h), fun h => ?_⟩, ?_⟩
      · rcases h with ⟨c, hc, hn⟩ | h
        · exact absurd hn (hgood c hc)
        · exact absurd ⟨d, hd⟩ h
      · intro d' p hp
        simp only [Option.some.injEq, Prod.mk.injEq] at hp
        obtain ⟨rfl, rfl⟩ := hp
        refine ⟨hd, fun a b hab => ?_⟩
        have hidx : ((a : Int) * (d : Int) + (b : Int)).toNat = a * d + b := by omega
        have hc : s.toList[a * d + b]? = some s.toList[a * d + b] := List.getElem?_eq_getElem hab
        obtain ⟨col, hcol⟩ := Option.ne_none_iff_exists'.mp (hgood _ (List.mem_of_getElem? hc))
        simp only [hidx, List.getElem?_map, hc, Option.map_some, Option.join_some, Option.bind_some, hcol, Option.getD_some]

example : (formatBayer "rgGb").map (·.1) = some 2 ∧ formatBayer "RGB" = none ∧ formatBayer "RGGX" = none := by decide +kernel

/-- for image sizes that are multiples of pattern × oversampling the product `electrons * mosaic` has the image's shape -/
theorem bayer_shape_of_multiple (d os a b : Int) (hd : 0 < d) (hos : 0 < os) :
    bayerShape (d * os * a) (d * os * b) d os = some (d * os * a, d * os * b) := by
  have h := mosaic_shape (K := Int) { s0 := d, s1 := d, get := fun _ _ => 0 } d os a b hd hos rfl rfl
  simp only [bayerShape, h.1, h.2, bcast, if_true]

/-- refusal, exactly: for images of at least two rows and two columns the Bayer product is refused (broadcast error) if and only
if the image size is not a multiple of pattern × oversampling in both directions -/
theorem bayer_refused_iff (R C d os : Int) (hd : 0 < d) (hos : 0 < os) (hR : 1 < R) (hC : 1 < C) :
    bayerShape R C d os = none ↔ ¬ (d * os ∣ R ∧ d * os ∣ C) := by
  simp only [bayerShape, mosaic_s0, mosaic_s1]
  rw [not_and_or, ← bcast_tileSpan_eq_none hd hos hR, ← bcast_tileSpan_eq_none hd hos hC]
  cases bcast R (tileSpan os d R) <;> cases bcast C (tileSpan os d C) <;> simp

/-- what the code does outside the property's quantifier: a one-row image that is not a multiple of `d·os` is not refused —
NumPy broadcasts it against the empty mosaic and the result has **zero rows** (witness: `collect_charge_bayer(ones((1,1,4)), …,
'RGGB')` returns shape (0, 4)); with two or more rows a non-multiple is refused -/
theorem bayer_one_row_broadcasts_empty (C d os : Int) (hd : 0 < d) (hos : 0 < os) (h : 1 < d * os) :
    ∃ c, bcast 1 (mosaic (K := Int) { s0 := d, s1 := d, get := fun _ _ => 0 } 1 C os).s0 = some 0 ∧
      (bayerShape 1 C d os = none ∨ bayerShape 1 C d os = some (0, c)) := by
  have hz : (mosaic (K := Int) { s0 := d, s1 := d, get := fun _ _ => 0 } 1 C os).s0 = 0 :=
    tileSpan_eq_zero hos.le zero_le_one (by rwa [mul_comm])
  simp only [bayerShape, hz]
  cases bcast C (mosaic (K := Int) { s0 := d, s1 := d, get := fun _ _ => 0 } 1 C os).s1 with
  | none => exact ⟨0, rfl, Or.inl rfl⟩
  | some c => exact ⟨c, rfl, Or.inr rfl⟩

/-- mosaic index theorem: entry `(i, j)` of the colour-`c` mosaic is the kernel entry `[(i / os) % d][(j / os) % d]` -/
theorem mosaic_eq_tiled_pattern {K} [Zero K] [One K] (pattern : Int → Int → Colour) (c : Colour) (d os R C i j : Int) :
    (mosaic (K := K) ⟨d, d, kernel pattern c⟩ R C os).get i j
      = if pattern ((i / os) % d) ((j / os) % d) = c then 1 else 0 := rfl

/-- every oversampled sub-pixel `(os·I + u, os·J + v)`, `0 ≤ u, v < os`, of native pixel `(I, J)` uses the colour that the tiled
pattern assigns to that native pixel, `pattern[I % d][J % d]` — for every pattern size and oversampling factor -/
theorem mosaic_subpixel {K} [Zero K] [One K] (pattern : Int → Int → Colour) (c : Colour) (d os R C I J u v : Int)
    (hu : 0 ≤ u ∧ u < os) (hv : 0 ≤ v ∧ v < os) :
    (mosaic (K := K) ⟨d, d, kernel pattern c⟩ R C os).get (os * I + u) (os * J + v)
      = if pattern (I % d) (J % d) = c then 1 else 0 := by
  have e : ∀ I u : Int, 0 ≤ u ∧ u < os → (os * I + u) / os = I := fun I u hu => by
    rw [Int.add_comm, Int.add_mul_ediv_left _ _ (by omega), Int.ediv_eq_zero_of_lt hu.1 hu.2, zero_add]
  rw [mosaic_eq_tiled_pattern, e I u hu, e J v hv]

/-- the separate channel images sum to the flattened one; each channel is the charge where the pattern has its colour, else 0 -/
theorem channels_sum_to_flat {K} [Semiring K] (nw : Nat) (R C : Int) (img : Nat → Int → Int → K) (qe : Colour → Nat → K)
    (d : Int) (pattern : Int → Int → Colour) (os : Int) (f : Int → Int → K)
    (h : bayerFlat nw R C img qe d pattern os = some f) :
    ∃ ch : Colour → Int → Int → K, (∀ c, bayerChannel nw R C img (qe c) d pattern os c = some (ch c)) ∧
      (∀ i j, f i j = ch .R i j + ch .G i j + ch .B i j) ∧
      ∀ c i j, ch c i j = if pattern ((i / os) % d) ((j / os) % d) = c then collectCharge nw img (qe c) i j else 0 := by
  obtain ⟨r, g, b, hr, hg, hb, rfl⟩ := bayerFlat_eq_some h
  refine ⟨fun c => match c with | .R => r | .G => g | .B => b, fun c => match c with | .R => hr | .G => hg | .B => hb, fun _ _ => rfl, fun c i j => ?_⟩
  cases c
  · exact bayerChannel_get hr i j
  · exact bayerChannel_get hg i j
  · exact bayerChannel_get hb i j

/-- with a colour filter array every sub-pixel gets exactly the efficiency of the colour the tiled pattern assigns to it -/
theorem bayer_pixel_uses_pattern_colour {K} [Semiring K] (nw : Nat) (R C : Int) (img : Nat → Int → Int → K) (qe : Colour → Nat → K)
    (d : Int) (pattern : Int → Int → Colour) (os : Int) (f : Int → Int → K)
    (h : bayerFlat nw R C img qe d pattern os = some f) (i j : Int) :
    f i j = collectCharge nw img (qe (pattern ((i / os) % d) ((j / os) % d))) i j := by
  obtain ⟨ch, -, hsum, hch⟩ := channels_sum_to_flat nw R C img qe d pattern os f h
  rw [hsum, hch, hch, hch]
  cases pattern ((i / os) % d) ((j / os) % d) <;> simp

/-- equal efficiencies in all channels reproduce the monochrome result -/
theorem equal_qe_is_monochrome {K} [Semiring K] (nw : Nat) (R C : Int) (img : Nat → Int → Int → K) (q : Nat → K)
    (d : Int) (pattern : Int → Int → Colour) (os : Int) (f : Int → Int → K)
    (h : bayerFlat nw R C img (fun _ => q) d pattern os = some f) (i j : Int) :
    f i j = collectCharge nw img q i j :=
  bayer_pixel_uses_pattern_colour nw R C img (fun _ => q) d pattern os f h i j

/-- **tie to the source wiring**: the flattened Bayer image computed through the regenerated channel table of `collect_charge_bayer`
(`Gen.bayerChannels`: kernel letter, einsum subscripts and efficiency variable per channel; `Gen.bayerFlattenTerms`: the summed terms)
IS the model `bayerFlat` all theorems above are about — a channel given another colour's efficiency or letter, a changed contraction
or a dropped/duplicated term of the sum breaks this proof -/
theorem bayer_flat_follows_source {K} [Add K] [Mul K] [Zero K] [One K] (nw : Nat) (R C : Int) (img : Nat → Int → Int → K)
    (qe : Colour → Nat → K) (d : Int) (pattern : Int → Int → Colour) (os : Int) :
    bayerFlatFromSource nw R C img qe d pattern os = bayerFlat nw R C img qe d pattern os := by
  obtain ⟨hr, hg, hb⟩ := bayerChannelFromSource_eq nw R C img qe d pattern os
  simp only [bayerFlatFromSource, bayerFlat, Gen.bayerFlattenTerms, List.foldl, hr, hg, hb]
  cases bayerChannel nw R C img (qe .R) d pattern os .R <;> cases bayerChannel nw R C img (qe .G) d pattern os .G <;>
    cases bayerChannel nw R C img (qe .B) d pattern os .B <;> rfl

/-- `flatten=False` returns the channels in the order (R, G, B), each with its own letter and efficiency (regenerated tuple) -/
theorem bayer_separate_follows_source {K} [Add K] [Mul K] [Zero K] [One K] (nw : Nat) (R C : Int) (img : Nat → Int → Int → K)
    (qe : Colour → Nat → K) (d : Int) (pattern : Int → Int → Colour) (os : Int) :
    bayerSeparateFromSource nw R C img qe d pattern os =
      [bayerChannel nw R C img (qe .R) d pattern os .R, bayerChannel nw R C img (qe .G) d pattern os .G,
       bayerChannel nw R C img (qe .B) d pattern os .B] := by
  obtain ⟨hr, hg, hb⟩ := bayerChannelFromSource_eq nw R C img qe d pattern os
  simp only [bayerSeparateFromSource, Gen.bayerSeparateOrder, List.map, hr, hg, hb]

/-- non-vacuity: a 2×2 RGGB pattern on a 4×4 image at oversampling 2 is accepted -/
example : (bayerFlat (K := Int) 1 4 4 (fun _ _ _ => 1) (fun _ _ => 1) 2 (fun a b => if a = b then (if a = 0 then .R else .B) else .G) 1).isSome = true := by
  decide

/-! ## adc -/

section adc
variable {K : Type} [Field K] [LinearOrder K] [FloorRing K]

/-- DN = max 0 ⌊Σ_d coef_d · x^(n-d)⌋ at `x` = electrons clipped to the saturation capacity; `coef` = the gain coefficients
that apply at the pixel (highest power first, no constant term) -/
theorem adc_value (cap : Option K) (gain : Gain K) (img : Int → Int → K) (i j : Int) :
    adcFrame Int.floor cap gain img i j =
      max 0 ⌊∑ d ∈ range (gain.at i j).length, (gain.at i j).getD d 0 *
        (match cap with | none => img i j | some c => min (img i j) c) ^ ((gain.at i j).length - d)⌋ := by
  unfold adcFrame
  rw [adcValue_eq_max, polyGain_eq_sum]
  cases cap with
  | none => rfl
  | some c => simp only [clipSat_eq_min]

omit [LinearOrder K] [FloorRing K] in
/-- the model's digitisation follows the source, step by step (regenerated, tools/specs/c16.py): saturate with
`np.where(img > cap, cap, img)`, apply the gain through the power cube and `einsum`, `np.floor` of exactly that image (no added
guard), clamp negatives to 0, cast last; the order comes from `gain.shape[0]` for 1-D/3-D gains and is 1 for 0-D/2-D; the einsum
subscripts sum over the power axis, per pixel for 2-D/3-D gains -/
theorem adc_matches_source :
    Gen.adcSteps = [("saturate", "np.where(img > saturation_capacity, saturation_capacity, img)"), ("gain", "power cube + einsum"),
                    ("floor", "img"), ("clamp", "img < 0 -> 0"), ("cast", "img.astype(dtype)")] ∧
    Gen.adcOrderSource = [(0, "1"), (1, "gain.shape[0]"), (2, "1"), (3, "gain.shape[0]")] ∧
    Gen.adcEinsum = [(1, "ijk,i->jk"), (2, "ijk,jk->jk"), (3, "ijk,ijk->jk")] := ⟨rfl, rfl, rfl⟩

/-- the digitisation, run step by step in the order the SOURCE performs the steps (`Gen.adcSteps`: saturate, gain, floor, clamp,
cast — regenerated), is the model's `adcValue`: a reordering in the source (clamp before the gain, cast before the clamp, floor
before the gain …) makes the run ill-typed or a different number and this theorem fails -/
theorem adc_follows_source_steps (cap : Option K) (g : List K) (x : K) :
    adcFromSteps Int.floor cap g x = some (.inr (adcValue Int.floor cap g x)) := rfl

/-- the power cube built by the source's loop raises slice `d` of an order-`n` model to `n − d` (highest power first, the last
slice stays linear, there is no constant term) — about the regenerated loop bounds and exponent -/
theorem power_cube_exponent (n d : Int) (h0 : 0 ≤ d) (h1 : d < n) : Gen.adcCubeExponent n d = n - d := by
  unfold Gen.adcCubeExponent
  by_cases h : 1 < n - d
  · have h2 : n - d ≤ n := by omega
    simp [h, h2]
  · have : n - d = 1 := by omega
    simp [this]

/-- hence the gain polynomial of the model is the source's `einsum` over that power cube -/
theorem adc_value_uses_source_exponents (g : List K) (x : K) :
    polyGain g x = ∑ d ∈ range g.length, g.getD d 0 * x ^ (Gen.adcCubeExponent g.length d).toNat := by
  rw [polyGain_eq_sum]
  apply Finset.sum_congr rfl
  intro d hd
  have hd' : d < g.length := Finset.mem_range.mp hd
  rw [power_cube_exponent (g.length : Int) (d : Int) (by omega) (by omega)]
  congr 2
  omega

/-- the gain step wired from the regenerated tables (order source and einsum subscripts per `gain.ndim`, power-cube exponents) is
the model's gain polynomial, for all four gain forms: the hand dispatch `Gain.at`/`polyGain` and the source's dispatch agree -/
theorem gain_dispatch_matches_model (gain : Gain K) (x : K) (i j : Int) :
    gainFromSource gain x i j = some (polyGain (gain.at i j) x) := by
  rw [gainFromSource_eq, adc_value_uses_source_exponents, sumRange_eq]
  congr 1
  exact Finset.sum_congr rfl fun d _ => by rw [Det.npow_eq_pow, mul_comm]

/-- the regenerated gain dispatch of `adc` (`if gain.ndim in [0, 2] … elif gain.ndim in [1, 3] … else: raise ValueError`) knows exactly the
ranks 0..3 — the four documented gain forms; a gain array of any higher rank is refused -/
theorem adc_gain_rank_dispatch (n : Nat) : (Gen.adcOrderSource.lookup n).isSome = true ↔ n ≤ 3 := by
  rcases n with _ | _ | _ | _ | n
  · decide
  · decide
  · decide
  · decide
  · simp [Gen.adcOrderSource, List.lookup]

/-- the four gain forms: a scalar and a per-pixel gain multiply the (clipped) count; a coefficient vector and a per-pixel
coefficient cube are the polynomial `Σ_d g[d]·x^(n-d)` -/
theorem adc_gain_forms (g : K) (gl : List K) (gp : Int → Int → K) (n : Nat) (gc : Nat → Int → Int → K) (x : K) (i j : Int) :
    polyGain ((Gain.scalar g).at i j) x = g * x ∧
    polyGain ((Gain.poly gl).at i j) x = ∑ d ∈ range gl.length, gl.getD d 0 * x ^ (gl.length - d) ∧
    polyGain ((Gain.perPixel gp).at i j) x = gp i j * x ∧
    polyGain ((Gain.perPixelPoly n gc).at i j) x = ∑ d ∈ range n, gc d i j * x ^ (n - d) := by
  refine ⟨polyGain_singleton g x, polyGain_eq_sum _ _, polyGain_singleton _ x, ?_⟩
  rw [polyGain_eq_sum]
  simp only [Gain.at, List.length_map, List.length_range]
  apply Finset.sum_congr rfl
  intro d hd
  have hd' : d < n := Finset.mem_range.mp hd
  simp [List.getD_eq_getElem?_getD, hd']

/-- never negative -/
theorem adc_nonneg (cap : Option K) (gain : Gain K) (img : Int → Int → K) (i j : Int) :
    0 ≤ adcFrame Int.floor cap gain img i j := by
  unfold adcFrame; rw [adcValue_eq_max]; exact le_max_left _ _

/-- digitisation never rounds up: a gain-polynomial value below a whole number `n > 0` of DN — by however little — gives fewer
than `n` DN, and the DN never exceed the value (no "round-off guard" can be part of the floor) -/
theorem adc_never_rounds_up (cap : Option K) (g : List K) (x : K) (n : Int) (hn : 0 < n)
    (h : polyGain g (clipSat cap x) < (n : K)) :
    adcValue Int.floor cap g x < n ∧ ((adcValue Int.floor cap g x : Int) : K) ≤ max 0 (polyGain g (clipSat cap x)) := by
  rw [adcValue_eq_max]
  constructor
  · exact max_lt hn (Int.floor_lt.mpr h)
  · rcases le_total 0 ⌊polyGain g (clipSat cap x)⌋ with h0 | h0
    · rw [max_eq_right h0]; exact le_trans (Int.floor_le _) (le_max_right _ _)
    · rw [max_eq_left h0]; simp

/-- non-decreasing in the input for every gain curve that is non-decreasing on the counts that can reach it — `[0, cap]`
with a saturation capacity, `[0, ∞)` without — whatever the signs of its coefficients (compressive curves with a negative
quadratic term included): hypothesis on the curve, not on the coefficients -/
theorem adc_monotone [IsStrictOrderedRing K] (cap : Option K) (g : List K)
    (hmono : ∀ a b, 0 ≤ a → a ≤ b → (∀ c, cap = some c → b ≤ c) → polyGain g a ≤ polyGain g b)
    (hcap : ∀ c, cap = some c → 0 ≤ c) {x y : K} (hx : 0 ≤ x) (hxy : x ≤ y) :
    adcValue Int.floor cap g x ≤ adcValue Int.floor cap g y := by
  rw [adcValue_eq_max (x := y)]
  apply adcValue_le_of_le
  apply hmono _ _ _ (clipSat_mono cap hxy)
  · intro c hc; subst hc; rw [clipSat_eq_min]; exact min_le_right _ _
  · cases cap with
    | none => simpa [clipSat]
    | some c => rw [clipSat_eq_min]; exact le_min hx (hcap c rfl)

/-- the DN never exceed the digitised capacity: for a gain curve non-decreasing on `[0, c]` and non-negative counts,
`adc ≤ max 0 ⌊gain(c)⌋` — the bound that makes "representable in the requested output type" a checkable condition on the capacity -/
theorem adc_le_at_cap [IsStrictOrderedRing K] (c : K) (g : List K)
    (hmono : ∀ a b, 0 ≤ a → a ≤ b → b ≤ c → polyGain g a ≤ polyGain g b) (hc : 0 ≤ c) {x : K} (hx : 0 ≤ x) :
    adcValue Int.floor (some c) g x ≤ max 0 ⌊polyGain g c⌋ := by
  apply adcValue_le_of_le
  rw [clipSat_eq_min]
  exact hmono _ _ (le_min hx hc) (min_le_right _ _) (le_refl _)

/-- non-vacuity of `adc_le_at_cap`: the compressive curve `2x − x²/64` with capacity 64 never reads more than `⌊gain(64)⌋ = 64` DN -/
example (x : ℚ) (hx : 0 ≤ x) : adcValue Int.floor (some (64 : ℚ)) [-(1 / 64 : ℚ), 2] x ≤ 64 :=
  (adc_le_at_cap (K := ℚ) 64 [-(1 / 64 : ℚ), 2] (fun a b _ hab hb => compressive_curve_mono hab hb) (by norm_num) hx).trans_eq
    (by decide +kernel)

/-- in particular for gain curves with non-negative coefficients -/
theorem adc_monotone_nonneg_coeffs [IsStrictOrderedRing K] (cap : Option K) (g : List K) (hg : ∀ c ∈ g, 0 ≤ c) (hcap : ∀ c, cap = some c → 0 ≤ c)
    {x y : K} (hx : 0 ≤ x) (hxy : x ≤ y) :
    adcValue Int.floor cap g x ≤ adcValue Int.floor cap g y :=
  adc_monotone cap g (fun _ _ ha hab _ => polyGain_mono g hg ha hab) hcap hx hxy

/-- non-vacuity of `adc_monotone` beyond non-negative coefficients: the compressive curve `2x − x²/64` is non-decreasing on `[0, 64]` -/
example (a b : ℚ) (_ha : 0 ≤ a) (hab : a ≤ b) (hb : b ≤ 64) : polyGain [-(1 / 64 : ℚ), 2] a ≤ polyGain [-(1 / 64 : ℚ), 2] b :=
  compressive_curve_mono hab hb

/-- … and for a (scalar or per-pixel) linear gain `g ≥ 0` on all counts, negative ones included -/
theorem adc_monotone_linear [IsStrictOrderedRing K] (cap : Option K) (g : K) (hg : 0 ≤ g) {x y : K} (hxy : x ≤ y) :
    adcValue Int.floor cap [g] x ≤ adcValue Int.floor cap [g] y := by
  rw [adcValue_eq_max (x := y)]
  apply adcValue_le_of_le
  rw [polyGain_singleton, polyGain_singleton]
  exact mul_le_mul_of_nonneg_left (clipSat_mono cap hxy) hg

/-- why `adc_monotone` needs `0 ≤ x`: a gain curve with an even power is not increasing on negative counts -/
example : adcValue (K := ℚ) Int.floor (some 10) [1, 0] (-3) > adcValue (K := ℚ) Int.floor (some 10) [1, 0] 0 := by
  decide +kernel

/-- the driver runs the model with core `Rat.floor`; on ℚ that is `Int.floor` -/
theorem driver_floor_is_floor (q : ℚ) : Rat.floor q = ⌊q⌋ := rfl

/-- the saturation warning is emitted exactly when it was requested, a capacity is set and some pixel exceeds it -/
theorem adc_warns_iff_exceeds (warn : Bool) (cap : Option K) (img : Img K) :
    adcWarns warn cap img = true ↔
      warn = true ∧ ∃ c, cap = some c ∧ ∃ i j, 0 ≤ i ∧ i < img.s0 ∧ 0 ≤ j ∧ j < img.s1 ∧ c < img.get i j := by
  cases cap with
  | none => simp [adcWarns]
  | some c =>
    simp only [adcWarns, Bool.and_eq_true, List.any_eq_true, decide_eq_true_eq, Option.some.injEq, exists_eq_left', mem_idx,
      Prod.exists, and_assoc]

/-- a pixel that does not exceed the capacity is digitised as if there were no capacity; one that does, as the capacity -/
theorem adc_clip_cases (c : K) (g : List K) (x : K) :
    adcValue Int.floor (some c) g x = if c < x then adcValue Int.floor none g c else adcValue Int.floor none g x :=
  apply_ite (adcValue Int.floor none g) (c < x) c x

/-- saturation: every count above the capacity is digitised like the capacity itself — all saturated pixels read the same DN -/
theorem adc_saturated_pixels_agree (c : K) (g : List K) {x y : K} (hx : c < x) (hy : c < y) :
    adcValue Int.floor (some c) g x = adcValue Int.floor (some c) g y ∧
    adcValue Int.floor (some c) g x = adcValue Int.floor none g c := by
  rw [adc_clip_cases c g x, adc_clip_cases c g y, if_pos hx, if_pos hy]; exact ⟨rfl, rfl⟩

end adc

/-- input frame untouched (regenerated part): the effect-site scan of the current source (Gen/Effects.lean, see C10) finds no
in-place write site on any parameter of `adc`, `collect_charge`, `collect_charge_bayer`, `qe_asarray`, and no use of shared state.
(That NumPy really leaves the frame alone is observed by the correspondence: read-only, byte-snapshotted frames.) -/
theorem adc_has_no_write_site :
    (Gen.effTable.filter fun r => ["detector.adc", "detector.collect_charge", "detector.collect_charge_bayer", "detector.qe_asarray"].contains r.fn).map
        (fun r => (r.fn, r.writes, r.cacheWrites, r.globalWrites, r.globalRng)) =
      [("detector.adc", [], [], [], false), ("detector.collect_charge", [], [], [], false),
       ("detector.collect_charge_bayer", [], [], [], false), ("detector.qe_asarray", [], [], [], false)] := by decide +kernel

end Lentil.C16
