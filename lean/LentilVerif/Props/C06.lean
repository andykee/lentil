import LentilVerif.Lemmas.Field
import LentilVerif.Lemmas.Merge
import LentilVerif.Lemmas.Reduce
import LentilVerif.Lemmas.ReduceZ
import LentilVerif.Lemmas.Insert
import LentilVerif.Model.FieldMergeFlow
import LentilVerif.Gen.FieldMulArray
import LentilVerif.Gen.FieldInit
import LentilVerif.Gen.FieldMergeOrigin
/-! # C06 — field and extent bookkeeping equals arithmetic on an infinite zero-padded plane

Index arithmetic is the *generated* kernel (`Gen.*`, re-translated from lentil/extent.py and lentil/field.py on every run). -/
namespace Lentil.C06
open Lentil

/-! ## Extent queries agree with sets of integer pixel coordinates -/

/-- a coordinate lies in `array_extent(shape, shift)` iff it is the global position `(i - s0//2 + o0, j - s1//2 + o1)`
of a local index of the array: the origin sample is at index `floor(n/2)` -/
theorem arrayExtent_mem (s0 s1 o0 o1 r c : Int) :
    (arrayExtent s0 s1 o0 o1).mem r c ↔
      ∃ i j, 0 ≤ i ∧ i < s0 ∧ 0 ≤ j ∧ j < s1 ∧ (i - s0 / 2 + o0 = r ∧ j - s1 / 2 + o1 = c) := by
  rw [arrayExtent_eq]; unfold Extent.mem
  constructor
  · intro h
    exact ⟨r + s0 / 2 - o0, c + s1 / 2 - o1, by simp only at h; omega⟩
  · rintro ⟨i, j, h⟩; simp only; omega

/-- **`Field.__init__`, regenerated from the source (`Gen.fieldInit`: `self.offset = offset if offset is not None else [0, 0]`,
`self.extent = lentil.extent.array_extent(self.shape, self.offset)`): the extent a `Field` caches at construction is the
model's `Fld.extent`, i.e. exactly the set of global pixel positions of its data** (origin sample at index `floor(n/2)`,
shifted by the offset the field keeps); every theorem of this file that speaks about `f.extent` / `f.emb` speaks about that
cached value. Building the extent from another shape/offset, or keeping another offset than the one given, changes
`Gen.fieldInit` and breaks this proof. -/
theorem field_init_extent_spec {K : Type} (f : Fld K) (r c : Int) :
    (Gen.fieldInit f.arr.s0 f.arr.s1 f.o0 f.o1).1 = (f.o0, f.o1) ∧
    f.extent = .ofT (Gen.fieldInit f.arr.s0 f.arr.s1 f.o0 f.o1).2 ∧
    ((Extent.ofT (Gen.fieldInit f.arr.s0 f.arr.s1 f.o0 f.o1).2).mem r c ↔
      ∃ i j, 0 ≤ i ∧ i < f.arr.s0 ∧ 0 ≤ j ∧ j < f.arr.s1 ∧ (i - f.arr.s0 / 2 + f.o0 = r ∧ j - f.arr.s1 / 2 + f.o1 = c)) :=
  ⟨rfl, rfl, arrayExtent_mem f.arr.s0 f.arr.s1 f.o0 f.o1 r c⟩

/-- **the default of `Field.__init__` (`offset=None`)**: the field is centred on the origin — offset `[0, 0]` and the extent
of an unshifted array (what `Wavefront.__init__` and `Plane` rely on when they build fields without an offset) -/
theorem field_init_default_spec (s0 s1 r c : Int) :
    Gen.fieldInitDefault s0 s1 = Gen.fieldInit s0 s1 0 0 ∧
    ((Extent.ofT (Gen.fieldInitDefault s0 s1).2).mem r c ↔
      ∃ i j, 0 ≤ i ∧ i < s0 ∧ 0 ≤ j ∧ j < s1 ∧ (i - s0 / 2 = r ∧ j - s1 / 2 = c)) := by
  refine ⟨rfl, ?_⟩
  have h := arrayExtent_mem s0 s1 0 0 r c
  simp only [Int.add_zero] at h
  exact h
example : Gen.fieldInit 2 3 1 1 = ((1, 1), (0, 1, 0, 2)) ∧ Gen.fieldInitDefault 2 3 = ((0, 0), (-1, 0, -1, 1)) ∧
    Gen.fieldInitDefault 1 1 = ((0, 0), (0, 0, 0, 0)) := ⟨rfl, rfl, rfl⟩

/-- the intersection extent is exactly the set of common pixels -/
theorem intersection_mem (a b : Extent) (r c : Int) :
    (intersectionExtent a b).mem r c ↔ a.mem r c ∧ b.mem r c := by
  rw [← Extent.inb_iff_mem, inter_inb, Bool.and_eq_true, Extent.inb_iff_mem, Extent.inb_iff_mem]

/-- the overlap test is true iff the two extents have a common pixel -/
theorem intersect_iff (a b : Extent) (ha : a.rmin ≤ a.rmax ∧ a.cmin ≤ a.cmax) (hb : b.rmin ≤ b.rmax ∧ b.cmin ≤ b.cmax) :
    intersect a b = true ↔ ∃ r c, a.mem r c ∧ b.mem r c := by
  rw [intersect_iff_inter_valid a b ha hb]
  simp only [← intersection_mem]
  unfold Extent.mem
  constructor
  · intro h; exact ⟨(intersectionExtent a b).rmin, (intersectionExtent a b).cmin, by omega⟩
  · rintro ⟨r, c, h⟩; omega

/-- `intersection_shape` is the (rows, cols) of the common pixel set, and empty exactly when there is none -/
theorem intersection_shape_spec (a b : Extent)
    (ha : a.rmin ≤ a.rmax ∧ a.cmin ≤ a.cmax) (hb : b.rmin ≤ b.rmax ∧ b.cmin ≤ b.cmax) :
    intersectionShape a b =
      if intersect a b then some ((intersectionExtent a b).nrow, (intersectionExtent a b).ncol) else none :=
  intersectionShape_of_valid a b ha hb

/-- the extent rebuilt from intersection shape and intersection shift is the intersection extent -/
theorem intersection_shift_roundtrip (a b : Extent) (h : intersect a b = true) :
    arrayExtent (intersectionExtent a b).nrow (intersectionExtent a b).ncol (intersectionShift a b).1 (intersectionShift a b).2
      = intersectionExtent a b :=
  inter_roundtrip a b

/-- the intersection slices address, in each operand's own index space, exactly the common pixels -/
theorem intersection_slices_address (a b : Extent) :
    let sl := intersectionSlices a b
    let e := intersectionExtent a b
    a.rmin + sl.1.1.1 = e.rmin ∧ a.rmin + sl.1.1.2 - 1 = e.rmax ∧ a.cmin + sl.1.2.1 = e.cmin ∧ a.cmin + sl.1.2.2 - 1 = e.cmax ∧
    b.rmin + sl.2.1.1 = e.rmin ∧ b.rmin + sl.2.1.2 - 1 = e.rmax ∧ b.cmin + sl.2.2.1 = e.cmin ∧ b.cmin + sl.2.2.2 - 1 = e.cmax := by
  rw [intersectionSlices_eq_extent]; simp only; omega

/-- the overlap test is symmetric -/
theorem intersect_comm (a b : Extent) : intersect a b = intersect b a := by
  rw [Bool.eq_iff_iff, intersect_eq_true_iff, intersect_eq_true_iff]; omega

/-- the intersection extent does not depend on the order of the operands either -/
theorem intersection_extent_comm (a b : Extent) (r c : Int) :
    (intersectionExtent a b).mem r c ↔ (intersectionExtent b a).mem r c := by
  rw [intersection_mem, intersection_mem]; exact And.comm

/-- the centre of an extent is the shift that rebuilds it: `array_extent(shape(e), array_center(e)) = e` -/
theorem array_center_roundtrip (e : Extent) :
    arrayExtent e.nrow e.ncol (arrayCenter e).1 (arrayCenter e).2 = e :=
  arrayExtent_center e

/-- and the centre of `array_extent(shape, shift)` is `shift` -/
theorem array_center_of_arrayExtent (s0 s1 o0 o1 : Int) :
    arrayCenter (arrayExtent s0 s1 o0 o1) = (o0, o1) :=
  Gen.arrayCenter_arrayExtent s0 s1 o0 o1

/-- the NumPy statement `self.data[self_slice] * other.data[other_slice]` is well-formed whenever the (valid) extents intersect:
both slices are non-empty, inside their arrays, and of equal shape (the model reads the shape from the first slice and only
the start of the second, so this is stated separately) -/
theorem mul_slices_wellformed (a b : Extent) (ha : a.rmin ≤ a.rmax ∧ a.cmin ≤ a.cmax) (hb : b.rmin ≤ b.rmax ∧ b.cmin ≤ b.cmax)
    (h : intersect a b = true) :
    (0 ≤ (intersectionSlices a b).1.1.1 ∧ (intersectionSlices a b).1.1.1 < (intersectionSlices a b).1.1.2 ∧
      (intersectionSlices a b).1.1.2 ≤ a.nrow) ∧
    (0 ≤ (intersectionSlices a b).1.2.1 ∧ (intersectionSlices a b).1.2.1 < (intersectionSlices a b).1.2.2 ∧
      (intersectionSlices a b).1.2.2 ≤ a.ncol) ∧
    (0 ≤ (intersectionSlices a b).2.1.1 ∧ (intersectionSlices a b).2.1.1 < (intersectionSlices a b).2.1.2 ∧
      (intersectionSlices a b).2.1.2 ≤ b.nrow) ∧
    (0 ≤ (intersectionSlices a b).2.2.1 ∧ (intersectionSlices a b).2.2.1 < (intersectionSlices a b).2.2.2 ∧
      (intersectionSlices a b).2.2.2 ≤ b.ncol) ∧
    (intersectionSlices a b).1.1.2 - (intersectionSlices a b).1.1.1 = (intersectionSlices a b).2.1.2 - (intersectionSlices a b).2.1.1 ∧
    (intersectionSlices a b).1.2.2 - (intersectionSlices a b).1.2.1 = (intersectionSlices a b).2.2.2 - (intersectionSlices a b).2.2.1 := by
  have hbd := intersectionExtent_bounds a b
  have hv := (intersect_iff_inter_valid a b ha hb).mp h
  rw [intersectionSlices_eq_extent]
  generalize intersectionExtent a b = e at hbd hv
  simp only [Extent.nrow, Extent.ncol]; omega
example : intersect ⟨-1, 0, -1, 0⟩ ⟨0, 1, 0, 2⟩ = true ∧
    intersectionSlices ⟨-1, 0, -1, 0⟩ ⟨0, 1, 0, 2⟩ = (((1, 2), (1, 2)), ((0, 1), (0, 1))) := by decide

/-! ## Products -/
section mul
variable {K : Type} [MulZeroClass K]

/-- **product = pointwise product of the embeddings** (array × array): for every pair of shapes and offsets and every
pixel of the infinite plane; the product is empty (`none`) exactly when nothing overlaps, and then the pointwise product is 0 -/
theorem mul_emb (a b : Fld K) (r c : Int) :
    (match a.mulArr b with | some p => p.emb r c | none => 0) = a.emb r c * b.emb r c := by
  rw [Fld.emb, Fld.emb, ← embAt_inter_mul]
  unfold Fld.mulArr
  by_cases h : intersect a.extent b.extent = true
  · -- the product array occupies the intersection extent
    rw [if_pos h]
    exact congrArg (embAt · _ r c) (mulArr_extent a.extent b.extent)
  · rw [if_neg h]
    refine (if_neg ?_).symm
    rw [inter_inb, not_intersect_inb _ _ (Bool.eq_false_iff.mpr h)]
    exact Bool.false_ne_true

/-- `Field.__mul__` when at most one operand is a one-element field: the one-element operand acts as an infinite
constant (`Fld.sem`), whatever its own offset -/
theorem mul_sem (a b : Fld K) (hab : (a.size1 && b.size1) = false)
    (ha : 0 < a.arr.s0 ∧ 0 < a.arr.s1) (hb : 0 < b.arr.s0 ∧ 0 < b.arr.s1) (r c : Int) :
    (match a.mul b with | some p => p.emb r c | none => 0) = a.sem r c * b.sem r c := by
  rw [Fld.mul_closed]
  simp only [hab, Bool.false_eq_true, if_false]
  rw [mul_emb]
  unfold Fld.sem
  -- a one-element operand has been broadcast to the extent of the other: constant data on that extent
  cases h1 : a.size1 <;> cases h2 : b.size1
  · rfl
  · exact embAt_mul_const a.extent a.arr.get (b.arr.get 0 0) r c
  · exact embAt_const_mul b.extent b.arr.get (a.arr.get 0 0) r c
  · rw [h1, h2] at hab; cases hab

theorem mul_sem_of_some (a b p : Fld K) (hab : (a.size1 && b.size1) = false)
    (ha : 0 < a.arr.s0 ∧ 0 < a.arr.s1) (hb : 0 < b.arr.s0 ∧ 0 < b.arr.s1) (h : a.mul b = some p) (r c : Int) :
    p.emb r c = a.sem r c * b.sem r c := by
  have hsem := mul_sem a b hab ha hb r c
  rwa [h] at hsem

/-- non-vacuity of `mul_sem` (one one-element operand, far away: it still acts as a constant) and of
the documented rule for two one-element operands (equal / different offsets; `Fld.mul_scalar_scalar` in Lemmas/Field.lean) -/
example : ((⟨⟨1, 1, fun _ _ => (3 : Int)⟩, 7, -7⟩ : Fld Int).size1 && Ex.B.size1) = false ∧
    ((⟨⟨1, 1, fun _ _ => (3 : Int)⟩, 7, -7⟩ : Fld Int).mul Ex.B).map (fun p => (p.extent, p.emb 0 0)) =
      some (Ex.B.extent, 3 * Ex.B.emb 0 0) := by decide
example : ((⟨⟨1, 1, fun _ _ => (3 : Int)⟩, 2, 2⟩ : Fld Int).mul ⟨⟨1, 1, fun _ _ => 5⟩, 2, 2⟩).map (fun p => p.emb 2 2) = some 15 ∧
    ((⟨⟨1, 1, fun _ _ => (3 : Int)⟩, 2, 2⟩ : Fld Int).mul ⟨⟨1, 1, fun _ _ => 5⟩, 2, 3⟩).isNone = true := by decide
/-- array × array on a partial overlap: `A` and `B` share exactly the pixel (0, 0) -/
example : (Ex.A.mul Ex.B).map (fun p => (p.extent, p.emb 0 0)) = some (⟨0, 0, 0, 0⟩, 4 * 10) := by decide

/-- **the product is empty exactly when the operands have no common pixel**, and otherwise it occupies exactly the set of
common pixels (array × array, positive shapes) — `none` and "a field of zeros" are distinguished -/
theorem mul_empty_iff (a b : Fld K) (ha : 0 < a.arr.s0 ∧ 0 < a.arr.s1) (hb : 0 < b.arr.s0 ∧ 0 < b.arr.s1) :
    a.mulArr b = none ↔ ¬ ∃ r c, a.extent.mem r c ∧ b.extent.mem r c := by
  rw [Fld.mulArr_eq_none_iff, ← intersect_iff a.extent b.extent (a.extent_valid ha) (b.extent_valid hb),
    Bool.not_eq_true]

theorem mul_extent (a b p : Fld K) (h : a.mulArr b = some p) (r c : Int) :
    p.extent.mem r c ↔ a.extent.mem r c ∧ b.extent.mem r c := by
  rw [Fld.extent_of_mulArr a b p h, intersection_mem]

/-- `A` and `B` share exactly the pixel (0, 0); `A` and `C` share none -/
example : (Ex.A.mulArr Ex.B).map (fun p => p.extent) = some ⟨0, 0, 0, 0⟩ ∧ (Ex.A.mulArr Ex.C).isNone = true := by decide

/-- **a product is empty in one order iff it is empty in the other**, and the two non-empty products occupy the same pixels
(with a commutative multiplication they embed identically, by `mul_emb`) -/
theorem mul_empty_comm (a b : Fld K) : a.mulArr b = none ↔ b.mulArr a = none := by
  rw [Fld.mulArr_eq_none_iff, Fld.mulArr_eq_none_iff, intersect_comm]

theorem mul_extent_comm (a b p q : Fld K) (hp : a.mulArr b = some p) (hq : b.mulArr a = some q) (r c : Int) :
    p.extent.mem r c ↔ q.extent.mem r c := by
  rw [mul_extent a b p hp, mul_extent b a q hq]; exact And.comm

/-- **two one-element fields, the documented rule in full** (`Field.__mul__`: "if both operands are scalars, the result
is 0 unless the operands share the same offset"): read as infinite constants (`Fld.sem`), the product is the constant
`a·b` when the offsets are equal — exactly, in both components — and the empty field (0 everywhere) otherwise -/
theorem mul_scalar_scalar_rule (a b : Fld K) (hab : (a.size1 && b.size1) = true) (r c : Int) :
    (match a.mul b with | some p => p.sem r c | none => 0) =
      if a.o0 = b.o0 ∧ a.o1 = b.o1 then a.sem r c * b.sem r c else 0 := by
  rw [Fld.mul_scalar_scalar a b hab]
  by_cases ho : a.o0 = b.o0 ∧ a.o1 = b.o1
  · rw [if_pos ho, if_pos ho]
    rw [Bool.and_eq_true] at hab
    rw [a.sem_of_size1_true hab.1, b.sem_of_size1_true hab.2]
    exact Fld.sem_of_size1_true _ rfl r c
  · rw [if_neg ho, if_neg ho]

/-- two one-element fields **read as infinite constants** (`Fld.sem`), the property's literal reading: proved only for
equal offsets, where the product is the one-element field holding the product of the constants.
GAP (named in the harness `UNPROVEN`): for different offsets the code returns the empty product (`Fld.mul_scalar_scalar`,
the rule documented in `Field.__mul__`), whose embedding is 0 and not the constant `a·b` — the documented rule is a scope
cut of the statement there, not a consequence of it. -/
theorem mul_scalar_scalar_sem_partial (a b : Fld K) (hab : (a.size1 && b.size1) = true)
    (ho : a.o0 = b.o0 ∧ a.o1 = b.o1) (r c : Int) :
    ∃ p, a.mul b = some p ∧ p.sem r c = a.sem r c * b.sem r c := by
  have hm := Fld.mul_scalar_scalar a b hab
  rw [if_pos ho] at hm
  have hr := mul_scalar_scalar_rule a b hab r c
  rw [hm, if_pos ho] at hr
  exact ⟨_, hm, hr⟩
/-- what keeps `mul_scalar_scalar_sem_partial` partial is not a missing proof: the literal reading is FALSE of the code for
different offsets — constants 3 and 5 one pixel apart multiply to the empty field, not to 15 -/
example : ((⟨⟨1, 1, fun _ _ => (3 : Int)⟩, 2, 2⟩ : Fld Int).mul ⟨⟨1, 1, fun _ _ => 5⟩, 2, 3⟩).isNone = true ∧
    (⟨⟨1, 1, fun _ _ => (3 : Int)⟩, 2, 2⟩ : Fld Int).sem 0 0 * (⟨⟨1, 1, fun _ _ => (5 : Int)⟩, 2, 3⟩ : Fld Int).sem 0 0 = 15 := by
  decide

end mul

/-! ### position independence -/
section translate
variable {K : Type} [Mul K]

/-- **the product does not depend on the absolute position**: moving both operands by the same (d0, d1) — of any size,
1 or 10⁵ or 2⁴⁰ pixels — moves the product by (d0, d1) and changes nothing else; in particular two one-element fields
multiply iff their offsets are *exactly* equal, at every distance from the origin (a tolerance-based offset comparison
violates this), and the product is empty before iff it is empty after -/
theorem mul_translate (a b : Fld K) (d0 d1 : Int) :
    (a.translate d0 d1).mul (b.translate d0 d1) = (a.mul b).map fun p => p.translate d0 d1 := by
  rw [Fld.mul_closed, Fld.mul_closed]
  have h1 : (a.translate d0 d1).size1 = a.size1 := rfl
  have h2 : (b.translate d0 d1).size1 = b.size1 := rfl
  have e0 : decide ((a.translate d0 d1).o0 = (b.translate d0 d1).o0) = decide (a.o0 = b.o0) :=
    decide_eq_decide.mpr (Int.add_left_inj d0)
  have e1 : decide ((a.translate d0 d1).o1 = (b.translate d0 d1).o1) = decide (a.o1 = b.o1) :=
    decide_eq_decide.mpr (Int.add_left_inj d1)
  simp only [h1, h2, e0, e1]
  cases ha : a.size1 <;> cases hb : b.size1
  · simp only [Bool.false_eq_true, Bool.and_false, if_false]; exact mulArr_translate a b d0 d1
  · simp only [Bool.false_eq_true, Bool.and_true, if_false, if_true]
    exact mulArr_translate a (b.broadcastTo a) d0 d1
  · simp only [Bool.false_eq_true, Bool.and_false, if_false, if_true]
    exact mulArr_translate (a.broadcastTo b) b d0 d1
  · simp only [Bool.and_self, if_true]
    split <;> rfl

/-- two one-element fields 10⁵ pixels out, one pixel apart: empty product; at equal offsets: the product of the values -/
example : ((⟨⟨1, 1, fun _ _ => (3 : Int)⟩, 100000, 100000⟩ : Fld Int).mul ⟨⟨1, 1, fun _ _ => 5⟩, 100000, 100001⟩).isNone = true ∧
    ((⟨⟨1, 1, fun _ _ => (3 : Int)⟩, 100000, 100000⟩ : Fld Int).mul ⟨⟨1, 1, fun _ _ => 5⟩, 100000, 100000⟩).map
      (fun p => (p.extent, p.emb 100000 100000)) = some (⟨100000, 100000, 100000, 100000⟩, 15) := by decide

/-! ### the product against the regenerated source: dispatch, `_mul_broadcast`, `_mul_scalar`, `_mul_array` -/

/-- **the dispatch of `Field.__mul__` / `_mul_scalar`, as generated from the source and consumed by `Fld.mul`**
(`Gen.mulBothOne` from `self.size == 1 and other.size == 1`, `Gen.mulScalarSame` from
`np.array_equal(self.offset, other.offset)`): both operands one-element, and offsets equal **exactly** in both components
**whatever the container types of the two offsets** (list, tuple, ndarray … enter the translation as the `_kind`
parameters: `np.array_equal` ignores them, Python's `==` on sequences would not) — an edit of either test in the source
changes the generated definition and breaks this theorem and `Fld.mul_closed` -/
theorem mul_dispatch_spec (a b : Fld K) :
    Gen.mulBothOne a.size b.size = (a.size1 && b.size1) ∧
    ∀ ka kb : Int, Gen.mulScalarSame a.o0 a.o1 ka b.o0 b.o1 kb = (decide (a.o0 = b.o0) && decide (a.o1 = b.o1)) :=
  ⟨Fld.mulBothOne_eq a b, fun _ _ => rfl⟩
/-- `data.size` of a field of positive shape is the product of its dimensions -/
example : (Ex.B.size, Ex.A.size, (⟨⟨1, 1, fun _ _ => (3 : Int)⟩, 7, -7⟩ : Fld Int).size) = (6, 4, 1) := by decide
example : Gen.mulBothOne 1 1 = true ∧ Gen.mulBothOne 1 6 = false ∧ Gen.mulScalarSame 100000 7 0 100000 7 1 = true ∧
    Gen.mulScalarSame 100000 7 0 100001 7 0 = false := by decide

/-- **`lentil.field._mul_broadcast`, regenerated from the source (`Gen.mulBroadcast`), is the broadcast step of the hand model
`Fld.mul`** — for all fields that `Field.__mul__` sends to `_mul_array` (not both one-element): the operands the generated
function returns (`Fld.genBroadcast`: flag "data is `np.broadcast_to` of the single sample", shape, offset of each) are
exactly the model's `a' = if a.size1 then a.broadcastTo b else a`, `b' = if b.size1 then b.broadcastTo a' else b` — data,
shape and **inherited offset** alike. An edit of the shape test, of either `size == 1` test, of a `broadcast_to` target or of
an `X_offset = Y_offset` line of `_mul_broadcast` changes `Gen.mulBroadcast` and breaks this proof. -/
theorem mul_broadcast_spec (a b : Fld K) (h : Gen.mulBothOne a.size b.size = false) :
    a.genBroadcast b =
      (let a' := if a.size1 then a.broadcastTo b else a
       let b' := if b.size1 then b.broadcastTo a' else b
       (a', b')) := by
  rw [Fld.mulBothOne_eq] at h
  rw [Fld.genBroadcast, mulBroadcast_eq, Fld.decide_size_eq_one, Fld.decide_size_eq_one]
  cases ha : a.size1 <;> cases hb : b.size1
  · split <;> rfl
  · rw [Fld.shape_ne_of_size1_ne a b (by rw [ha, hb]; nofun)]; rfl
  · rw [Fld.shape_ne_of_size1_ne a b (by rw [ha, hb]; nofun)]; rfl
  · rw [ha, hb] at h; cases h

/-- **the branch bodies of `Field._mul_scalar`, regenerated (`data = self.data * other.data`, `offset = self.offset`: which
operands are multiplied and whose offset is kept; else the empty product)**: for two one-element fields the model product
`Fld.mul` is `mulScalarFlow`, the generated test selecting the generated product — squaring one operand or dropping a factor
changes `Gen.mulScalarFactors` and breaks this -/
theorem mul_scalar_flow_spec (a b : Fld K) (h : Gen.mulBothOne a.size b.size = true) : a.mul b = mulScalarFlow a b := by
  simp only [Fld.mul, h, if_true, mulScalarFlow]; rfl
example : ((mulScalarFlow (⟨⟨1, 1, fun _ _ => (3 : Int)⟩, 2, 2⟩ : Fld Int) ⟨⟨1, 1, fun _ _ => 5⟩, 2, 2⟩).map
    fun p => (p.arr.get 0 0, p.o0, p.o1)) = some (15, 2, 2) ∧ Gen.mulBothOne 1 1 = true := ⟨rfl, rfl⟩

/-- **the 0-d operand path of `_mul_broadcast`, regenerated with shapes that may be `()` (`Gen.mulBroadcastZ`: a shape is the
triple (ndim, d0, d1), `()` = (0, 1, 1))**: whenever `Field.__mul__` sends the product to `_mul_array` (not both one-element), a
0-d operand (one sample, what `Wavefront.__init__` creates) differs in shape from the other operand, is broadcast to its 2-D
shape and inherits its offset — after `_mul_broadcast` **both operands are 2-D arrays, and they are exactly the operands the
2-D translation `Gen.mulBroadcast` (hence the model `Fld.mul`: `mul_broadcast_spec`) computes from the 1×1 reading of the 0-d
data**. This is why `ZFld.mul` may run `Fld.mul` on the 1×1 readings. -/
theorem mul_broadcast_zd_spec (a b : ZFld K) (ha : a.zd = true → a.fld.size1 = true) (hb : b.zd = true → b.fld.size1 = true)
    (h : Gen.mulBothOne a.fld.size b.fld.size = false) :
    Gen.mulBroadcastZ (if a.zd then 0 else 2) a.fld.arr.s0 a.fld.arr.s1 a.fld.size a.fld.o0 a.fld.o1
        (if b.zd then 0 else 2) b.fld.arr.s0 b.fld.arr.s1 b.fld.size b.fld.o0 b.fld.o1 =
      (let g := Gen.mulBroadcast a.fld.arr.s0 a.fld.arr.s1 a.fld.size a.fld.o0 a.fld.o1
          b.fld.arr.s0 b.fld.arr.s1 b.fld.size b.fld.o0 b.fld.o1
       (g.1, (2, g.2.1.1, g.2.1.2), g.2.2.1, g.2.2.2.1, (2, g.2.2.2.2.1.1, g.2.2.2.2.1.2), g.2.2.2.2.2)) := by
  rw [Fld.mulBothOne_eq] at h
  rw [mulBroadcastZ_eq, mulBroadcast_eq, Fld.decide_size_eq_one, Fld.decide_size_eq_one, Bool.and_assoc]
  -- an operand of more than one element is not 0-d
  have haz : a.fld.size1 = false → a.zd = false := fun h1 => Bool.eq_false_iff.mpr (mt ha (by rw [h1]; nofun))
  have hbz : b.fld.size1 = false → b.zd = false := fun h2 => Bool.eq_false_iff.mpr (mt hb (by rw [h2]; nofun))
  cases h1 : a.fld.size1 <;> cases h2 : b.fld.size1
  · rw [haz h1, hbz h2]
    cases decide (a.fld.arr.s0 = b.fld.arr.s0) && decide (a.fld.arr.s1 = b.fld.arr.s1) <;> rfl
  · rw [haz h1, Fld.shape_ne_of_size1_ne a.fld b.fld (by rw [h1, h2]; nofun), Bool.and_false]; rfl
  · rw [hbz h2, Fld.shape_ne_of_size1_ne a.fld b.fld (by rw [h1, h2]; nofun), Bool.and_false]; rfl
  · rw [h1, h2] at h; cases h
/-- a 0-d operand against a 2×3 array: broadcast to (2, 2, 3) at the array's offset; the array is left alone -/
example : Gen.mulBroadcastZ 0 1 1 1 0 0 2 2 3 6 (-1) 4 = (1, (2, 2, 3), (-1, 4), 0, (2, 2, 3), (-1, 4)) ∧
    Gen.mulBroadcastZ 2 2 3 6 (-1) 4 0 1 1 1 0 0 = (0, (2, 2, 3), (-1, 4), 1, (2, 2, 3), (-1, 4)) := ⟨rfl, rfl⟩

/-- **`Field.__mul__` through the regenerated `_mul_broadcast`**: whenever the generated dispatch test sends the product to
`_mul_array`, the model product is `_mul_array`'s overlap product of the two operands the generated `_mul_broadcast` returns
(so `mul_emb` / `mul_sem` / `mul_empty_iff` speak about the operands the source computes) -/
theorem mul_via_gen_broadcast (a b : Fld K) (h : Gen.mulBothOne a.size b.size = false) :
    a.mul b = (a.genBroadcast b).1.mulArr (a.genBroadcast b).2 := by
  rw [mul_broadcast_spec a b h]; simp only [Fld.mul, h]; rfl
/-- the hypothesis is satisfiable, with and without a broadcast: a (1,1) field against a 2×3 field inherits its shape and
offset (flag 1); two arrays of different shape are left alone; two arrays of EQUAL shape are left alone too;
a one-element SECOND operand inherits from the first -/
example : Gen.mulBothOne 1 6 = false ∧
    Gen.mulBroadcast 1 1 1 7 (-7) 2 3 6 (-1) 4 = (1, (2, 3), (-1, 4), 0, (2, 3), (-1, 4)) ∧
    Gen.mulBroadcast 2 2 4 7 (-7) 2 3 6 (-1) 4 = (0, (2, 2), (7, -7), 0, (2, 3), (-1, 4)) ∧
    Gen.mulBroadcast 2 3 6 7 (-7) 2 3 6 (-1) 4 = (0, (2, 3), (7, -7), 0, (2, 3), (-1, 4)) ∧
    Gen.mulBroadcast 2 3 6 7 (-7) 1 1 1 (-1) 4 = (0, (2, 3), (7, -7), 1, (2, 3), (7, -7)) := ⟨rfl, rfl, rfl, rfl, rfl⟩

/-- **`Field._mul_array` after its `_mul_broadcast` call, regenerated from the source (`Gen.mulArrayIdx`: the two
`array_extent` calls, the `intersect` test, `intersection_slices`, `intersection_shift`), is the index flow of the hand model
`Fld.mulArr`** — for all fields: the model product is empty exactly when the generated function returns `none`, and otherwise
reads both operands through the generated slices (`self_data[self_slice] * other_data[other_slice]`) and carries the generated
offset. Swapping the operands of a call, taking the slices or the shift from another extent, or building an extent from the
wrong shape/offset changes `Gen.mulArrayIdx` and breaks this proof. -/
theorem mul_array_spec (a b : Fld K) :
    a.mulArr b = (Gen.mulArrayIdx a.arr.s0 a.arr.s1 a.o0 a.o1 b.arr.s0 b.arr.s1 b.o0 b.o1).map fun t =>
      { arr := { s0 := t.1.1.2 - t.1.1.1, s1 := t.1.2.2 - t.1.2.1,
                 get := fun i j => a.arr.get (i + t.1.1.1) (j + t.1.2.1) * b.arr.get (i + t.2.1.1.1) (j + t.2.1.2.1) },
        o0 := t.2.2.1, o1 := t.2.2.2 } := by
  have key : Gen.mulArrayIdx a.arr.s0 a.arr.s1 a.o0 a.o1 b.arr.s0 b.arr.s1 b.o0 b.o1 =
      if intersect a.extent b.extent then
        some ((intersectionSlices a.extent b.extent).1, (intersectionSlices a.extent b.extent).2,
          intersectionShift a.extent b.extent)
      else none := rfl
  rw [key]; dsimp only [Fld.mulArr]
  cases intersect a.extent b.extent <;> rfl

/-- **`Field.__mul__` → `_mul_array` end to end on generated definitions**: dispatch test (`Gen.mulBothOne`), broadcast
(`Gen.mulBroadcast` through `Fld.genBroadcast`) and index flow (`Gen.mulArrayIdx`) -/
theorem mul_via_gen (a b : Fld K) (h : Gen.mulBothOne a.size b.size = false) :
    a.mul b =
      let a' := (a.genBroadcast b).1
      let b' := (a.genBroadcast b).2
      (Gen.mulArrayIdx a'.arr.s0 a'.arr.s1 a'.o0 a'.o1 b'.arr.s0 b'.arr.s1 b'.o0 b'.o1).map fun t =>
        { arr := { s0 := t.1.1.2 - t.1.1.1, s1 := t.1.2.2 - t.1.2.1,
                   get := fun i j => a'.arr.get (i + t.1.1.1) (j + t.1.2.1) * b'.arr.get (i + t.2.1.1.1) (j + t.2.1.2.1) },
          o0 := t.2.2.1, o1 := t.2.2.2 } := by
  rw [mul_via_gen_broadcast a b h, mul_array_spec]
/-- a 2×2 array at the origin against a 2×3 array one row down, one column right: rows 1..2 / columns 1..2 of the first,
rows 0..1 / columns 0..1 of the second, product centred at (0, 0) … ; wholly separate arrays: `none` -/
example : Gen.mulArrayIdx 2 2 0 0 2 3 1 1 = some (((1, 2), (1, 2)), ((0, 1), (0, 1)), (0, 0)) ∧
    Gen.mulArrayIdx 2 2 0 0 2 3 5 5 = none := ⟨rfl, rfl⟩

end translate

/-! ## Merging -/

/-- **a merge is the sum of the embeddings**, for any number of fields of any shapes and offsets — also wholly
negative extents (the merged box is the exact bounding box there too: `boundary_is_bbox`). (`_merge` of array fields always answers: `merge_spec`.) -/
theorem merge_emb {K : Type} [AddZeroClass K] (fs : List (Fld K)) (hne : fs ≠ [])
    (hpos : ∀ f ∈ fs, 0 < f.arr.s0 ∧ 0 < f.arr.s1) (p : Fld K) (h : mergeL fs = some p) (r c : Int) :
    p.emb r c = sumList fs (fun f => f.emb r c) :=
  (mergeL_spec fs p h).2 r c

/-- non-vacuity of `merge_emb` on **wholly negative extents**: the merge exists, its box is the bounding box of the two
extents, and it embeds as the sum -/
example : (∀ f ∈ [Ex.N1, Ex.N2], 0 < f.arr.s0 ∧ 0 < f.arr.s1) ∧
    Ex.N1.extent = ⟨-6, -5, -6, -5⟩ ∧ Ex.N2.extent = ⟨-8, -8, -4, -2⟩ ∧
    (mergeL [Ex.N1, Ex.N2]).map (fun p => (p.extent, p.emb (-5) (-5), p.emb (-8) (-3), p.emb 0 0)) =
      some (⟨-8, -5, -6, -2⟩, Ex.N1.emb (-5) (-5) + Ex.N2.emb (-5) (-5), Ex.N1.emb (-8) (-3) + Ex.N2.emb (-8) (-3), 0) := by
  decide
/-- **`_merge` of array fields is total and is the sum**: for every non-empty collection of positive-shape fields there is a
merged field, it occupies the `boundary` box and embeds as the sum of its members — including (1, 1) arrays on the origin
pixel -/
theorem merge_spec {K : Type} [AddZeroClass K] (fs : List (Fld K)) (hne : fs ≠ [])
    (hpos : ∀ f ∈ fs, 0 < f.arr.s0 ∧ 0 < f.arr.s1) :
    ∃ p, mergeL fs = some p ∧ p.extent = boundaryL (fs.map Fld.extent) ∧
      ∀ r c, p.emb r c = sumList fs (fun f => f.emb r c) := by
  obtain ⟨p, h⟩ := Option.isSome_iff_exists.mp (mergeL_isSome fs)
  exact ⟨p, h, mergeL_spec fs p h⟩
/-- the origin-pixel corner: (1, 1) arrays there merge to a (1, 1) array holding their sum -/
example : (mergeL [(⟨⟨1, 1, fun _ _ => (5 : Int)⟩, 0, 0⟩ : Fld Int)]).map (fun p => (p.arr.s0, p.arr.s1, p.extent, p.emb 0 0)) =
      some (1, 1, ⟨0, 0, 0, 0⟩, 5) ∧
    (mergeL [(⟨⟨1, 1, fun _ _ => (2 : Int)⟩, 0, 0⟩ : Fld Int), ⟨⟨1, 1, fun _ _ => 3⟩, 0, 0⟩]).map
      (fun p => (p.arr.s0, p.arr.s1, p.extent, p.emb 0 0)) = some (1, 1, ⟨0, 0, 0, 0⟩, 5) := by decide

/-- **a merge does not depend on the absolute position**: merging the fields moved by (d0, d1) gives the merge moved by
(d0, d1) — the same values at the shifted pixels of the plane, at any distance from the origin and on either side of it -/
theorem merge_translate {K : Type} [AddZeroClass K] (fs : List (Fld K)) (hne : fs ≠ [])
    (hpos : ∀ f ∈ fs, 0 < f.arr.s0 ∧ 0 < f.arr.s1) (d0 d1 : Int) (p p' : Fld K) (hp : mergeL fs = some p)
    (hp' : mergeL (fs.map fun f => f.translate d0 d1) = some p') (r c : Int) :
    p'.emb r c = p.emb (r - d0) (c - d1) := by
  rw [(mergeL_spec fs p hp).2, (mergeL_spec _ p' hp').2, sumList_map_comp]
  exact sumList_congr fs _ _ (fun f _ => Fld.translate_emb f d0 d1 r c)

/-- **a merge does not depend on the order of the fields**: any reordering merges to the same embedding -/
theorem merge_order_independent {K : Type} [AddCommMonoid K] (fs fs' : List (Fld K)) (hperm : fs.Perm fs') (hne : fs ≠ [])
    (hpos : ∀ f ∈ fs, 0 < f.arr.s0 ∧ 0 < f.arr.s1) (p p' : Fld K) (hp : mergeL fs = some p) (hp' : mergeL fs' = some p')
    (r c : Int) : p.emb r c = p'.emb r c := by
  rw [(mergeL_spec fs p hp).2, (mergeL_spec fs' p' hp').2, sumList_eq_sum, sumList_eq_sum]
  exact (hperm.map _).sum_eq
/-- non-vacuity: `N1`, `N2` moved by (+20, +30) and swapped -/
example : (mergeL ([Ex.N1, Ex.N2].map fun f => f.translate 20 30)).map (fun p => (p.extent, p.emb 15 25)) =
      (mergeL [Ex.N1, Ex.N2]).map (fun p => (p.extent.shift 20 30, p.emb (-5) (-5))) ∧
    (mergeL [Ex.N2, Ex.N1]).map (fun p => p.emb (-8) (-3)) = (mergeL [Ex.N1, Ex.N2]).map (fun p => p.emb (-8) (-3)) := by decide

/-- the per-field slice of `_merge_slices` (generated `Gen.mergeSlice`, general branch) is the closed form the hand model
`mergeL` writes in its guard (`e.rmin − b.rmin ≤ i < e.rmax − b.rmin + 1`, same for columns); and for a member extent
contained in the box it is in range of the merged array (`_merge_shape`) and has exactly the member's shape, so
`out[slc] += field.data` is well-formed -/
theorem merge_slices_spec (b e : Extent) :
    Gen.mergeSlice b.rmin b.rmax b.cmin b.cmax e.rmin e.rmax e.cmin e.cmax =
      ((e.rmin - b.rmin, e.rmax - b.rmin + 1), (e.cmin - b.cmin, e.cmax - b.cmin + 1)) ∧
    ((b.rmin ≤ e.rmin ∧ e.rmax ≤ b.rmax ∧ b.cmin ≤ e.cmin ∧ e.cmax ≤ b.cmax) →
      (0 ≤ e.rmin - b.rmin ∧ e.rmax - b.rmin + 1 ≤ b.nrow ∧ 0 ≤ e.cmin - b.cmin ∧ e.cmax - b.cmin + 1 ≤ b.ncol) ∧
      (e.rmax - b.rmin + 1 - (e.rmin - b.rmin) = e.nrow ∧ e.cmax - b.cmin + 1 - (e.cmin - b.cmin) = e.ncol)) := by
  refine ⟨mergeSlice_eq b e, fun h => ?_⟩
  simp only [Extent.nrow, Extent.ncol]; omega
example : Gen.mergeSlice (-8) 0 (-6) 0 (-6) (-5) (-6) (-5) = ((2, 4), (0, 2)) := by decide

/-- **the origin branch of `_merge_slices`, regenerated (`Gen.mergeSlicesOrigin`: `rmin == 0 and rmax == 0 and cmin == 0 and
cmax == 0` → every slice is `Ellipsis`, the whole array)** agrees with the general slice formula the model `mergeL` uses
everywhere: the test holds exactly on the single-origin-pixel box, there the canvas of `_merge_shape` is (1, 1) (members not all
0-d) and the general slice of every non-empty member extent inside the box is `0:1, 0:1` — the whole array. So ignoring the
branch in `mergeL` loses nothing; a change of the branch test breaks this. -/
theorem merge_slices_origin_spec (b e : Extent) :
    (Gen.mergeSlicesOrigin b.rmin b.rmax b.cmin b.cmax = true ↔ b = ⟨0, 0, 0, 0⟩) ∧
    (Gen.mergeSlicesOrigin b.rmin b.rmax b.cmin b.cmax = true → e.rmin ≤ e.rmax ∧ e.cmin ≤ e.cmax →
      b.rmin ≤ e.rmin ∧ e.rmax ≤ b.rmax ∧ b.cmin ≤ e.cmin ∧ e.cmax ≤ b.cmax →
      Gen.mergeShape b.rmin b.rmax b.cmin b.cmax 0 = some (1, 1) ∧
      Gen.mergeSlice b.rmin b.rmax b.cmin b.cmax e.rmin e.rmax e.cmin e.cmax = ((0, 1), (0, 1))) := by
  have h1 : Gen.mergeSlicesOrigin b.rmin b.rmax b.cmin b.cmax = true ↔ b = ⟨0, 0, 0, 0⟩ := by
    cases b
    simp only [Gen.mergeSlicesOrigin, Bool.and_eq_true, decide_eq_true_eq, Extent.mk.injEq, and_assoc]
  refine ⟨h1, fun ho he hin => ?_⟩
  rw [h1.mp ho] at hin ⊢
  refine ⟨by decide, ?_⟩
  rw [mergeSlice_eq]
  simp only [Prod.mk.injEq] at hin ⊢
  omega
example : Gen.mergeSlicesOrigin 0 0 0 0 = true ∧ Gen.mergeSlicesOrigin 0 1 0 0 = false ∧ Gen.mergeSlicesOrigin (-1) 0 0 0 = false := by decide

/-! ### the statements of `_merge`, regenerated -/
section merge_flow
variable {K : Type} [AddMonoid K]

/-- **`lentil.field._merge`, run statement by statement from its regenerated description (`Gen.FieldMergeFlow`: zero canvas of
`_merge_shape`, `slices = _merge_slices(fields)`, `out[slc] += field.data` for each field in order, result offset
`_merge_offset`), is the closed-form model `mergeL`** every merge / reduce theorem of this file is about — for all lists of
fields (whatever the `np.ones` reading `one` would put on the canvas). Overwriting instead of accumulating, starting from a
canvas that is not zero, or taking the shape / slices / offset from another helper changes the generated definitions and
breaks this proof. -/
theorem merge_flow_spec (one : K) (fs : List (Fld K)) : mergeFlowL one fs = mergeL fs := by
  -- the canvas shape is the same generated helper; the guarded `+=` loop is the fold of guarded terms
  simp only [mergeFlowL, mergeL, Gen.mergeCanvasShape, mergeShape_arrays, Gen.mergeCanvasFill, Gen.mergeLoopInPlace,
    Gen.mergeFieldSlice, Gen.mergeResultOffset, if_true, sumList, add_ite, add_zero]
  rfl

/-- two overlapping 2×2 fields of ones: the canvas run statement by statement holds 2 on the common pixel -/
example : ((mergeFlowL (7 : Int) [⟨⟨2, 2, fun _ _ => 1⟩, 0, 0⟩, ⟨⟨2, 2, fun _ _ => 1⟩, 1, 1⟩]).map
    fun p => (p.arr.s0, p.arr.s1, p.o0, p.o1, p.arr.get 1 1, p.arr.get 0 0, p.arr.get 2 0)) = some (3, 3, 0, 0, 2, 1, 0) := rfl

end merge_flow

/-! ## Bounding box (`lentil.field.boundary`) -/

/-- `boundary` for any list of extents: the box contains every extent, and each side is either attained by a member or still at
its initial value (`Gen.boundaryInit` = `(sys.maxsize, −sys.maxsize, sys.maxsize, −sys.maxsize)`, `sys.maxsize = 2^63 − 1`) —
which happens only for the empty list or for extents beyond ±`sys.maxsize` -/
theorem boundary_is_bbox_general (es : List Extent) :
    (∀ e ∈ es, (boundaryL es).rmin ≤ e.rmin ∧ e.rmax ≤ (boundaryL es).rmax ∧
               (boundaryL es).cmin ≤ e.cmin ∧ e.cmax ≤ (boundaryL es).cmax) ∧
    ((boundaryL es).rmin ≤ 9223372036854775807 ∧ -9223372036854775807 ≤ (boundaryL es).rmax ∧
     (boundaryL es).cmin ≤ 9223372036854775807 ∧ -9223372036854775807 ≤ (boundaryL es).cmax) ∧
    ((boundaryL es).rmin = 9223372036854775807 ∨ ∃ e ∈ es, e.rmin = (boundaryL es).rmin) ∧
    ((boundaryL es).rmax = -9223372036854775807 ∨ ∃ e ∈ es, e.rmax = (boundaryL es).rmax) ∧
    ((boundaryL es).cmin = 9223372036854775807 ∨ ∃ e ∈ es, e.cmin = (boundaryL es).cmin) ∧
    ((boundaryL es).cmax = -9223372036854775807 ∨ ∃ e ∈ es, e.cmax = (boundaryL es).cmax) := by
  obtain ⟨e1, e2, e3, e4⟩ := boundaryL_sides es
  have h1 := foldl_lo_spec Extent.rmin es _ _ e1.symm
  have h2 := foldl_hi_spec Extent.rmax es _ _ e2.symm
  have h3 := foldl_lo_spec Extent.cmin es _ _ e3.symm
  have h4 := foldl_hi_spec Extent.cmax es _ _ e4.symm
  exact ⟨boundaryL_contains es, ⟨h1.1, h2.1, h3.1, h4.1⟩, h1.2.2, h2.2.2, h3.2.2, h4.2.2⟩

/-- **`boundary` is exactly the bounding box of the pixel sets** `(min rmin, max rmax, min cmin, max cmax)` (`IsBBox`: contains
every member, every side attained by a member), for **every non-empty collection** of extents within ±`sys.maxsize` — wherever
the fields lie: straddling the origin, wholly positive, wholly negative -/
theorem boundary_is_bbox (es : List Extent) (hne : es ≠ [])
    (hM : ∀ e ∈ es, e.rmin ≤ 9223372036854775807 ∧ -9223372036854775807 ≤ e.rmax ∧
                    e.cmin ≤ 9223372036854775807 ∧ -9223372036854775807 ≤ e.cmax) :
    IsBBox (boundaryL es) es :=
  boundaryL_isBBox es hne hM

/-- non-vacuity: two extents straddling the origin; the box is their exact bounding box -/
example : boundaryL [⟨-3, 1, 2, 4⟩, ⟨0, 2, -5, 0⟩] = ⟨-3, 2, -5, 4⟩ := by decide
/-- wholly negative extents: the exact bounding box too -/
example : boundaryL [⟨-9, -7, -4, -3⟩, ⟨-6, -5, -8, -6⟩] = ⟨-9, -5, -8, -3⟩ := by decide

/-- **the bounding box does not depend on the order of the fields** (nor on repetitions): collections with the same
members have the same `boundary` -/
theorem boundary_order_independent (es es' : List Extent) (hne : es ≠ [])
    (hM : ∀ e ∈ es, e.rmin ≤ 9223372036854775807 ∧ -9223372036854775807 ≤ e.rmax ∧
                    e.cmin ≤ 9223372036854775807 ∧ -9223372036854775807 ≤ e.cmax)
    (hm : ∀ e, e ∈ es ↔ e ∈ es') : boundaryL es = boundaryL es' := by
  have hne' : es' ≠ [] := by
    obtain ⟨e, he⟩ := List.exists_mem_of_ne_nil es hne
    exact List.ne_nil_of_mem ((hm e).mp he)
  have h1 := (boundary_is_bbox es hne hM).of_mem_iff hm
  have h2 := boundary_is_bbox es' hne' (fun e he => hM e ((hm e).mpr he))
  exact h1.unique h2

/-- **the bounding box does not depend on the absolute position**: moving every extent by (d0, d1) moves `boundary` by
(d0, d1) — at any distance from the origin and on either side of it -/
theorem boundary_translate (es : List Extent) (hne : es ≠ []) (d0 d1 : Int)
    (hM : ∀ e ∈ es, e.rmin ≤ 9223372036854775807 ∧ -9223372036854775807 ≤ e.rmax ∧
                    e.cmin ≤ 9223372036854775807 ∧ -9223372036854775807 ≤ e.cmax)
    (hM' : ∀ e ∈ es, e.rmin + d0 ≤ 9223372036854775807 ∧ -9223372036854775807 ≤ e.rmax + d0 ∧
                     e.cmin + d1 ≤ 9223372036854775807 ∧ -9223372036854775807 ≤ e.cmax + d1) :
    boundaryL (es.map fun e => e.shift d0 d1) = (boundaryL es).shift d0 d1 := by
  have h1 := (boundary_is_bbox es hne hM).shift d0 d1
  have h2 := boundary_is_bbox (es.map fun e => e.shift d0 d1) (mt List.map_eq_nil_iff.mp hne)
    (List.forall_mem_map.mpr hM')
  exact h2.unique h1
/-- non-vacuity: the wholly negative pair moved by (+20, +30) and listed in the other order -/
example : boundaryL (([⟨-9, -7, -4, -3⟩, ⟨-6, -5, -8, -6⟩] : List Extent).map fun e => e.shift 20 30) = ⟨11, 15, 22, 27⟩ ∧
    boundaryL [⟨-6, -5, -8, -6⟩, ⟨-9, -7, -4, -3⟩] = boundaryL [⟨-9, -7, -4, -3⟩, ⟨-6, -5, -8, -6⟩] := by decide

/-- the merged array of a moved collection (`merge_translate`) occupies the moved box (extents within ±(2^63 − 1) before and after the move) -/
theorem merge_translate_extent {K : Type} [AddZeroClass K] (fs : List (Fld K)) (hne : fs ≠ [])
    (hpos : ∀ f ∈ fs, 0 < f.arr.s0 ∧ 0 < f.arr.s1) (d0 d1 : Int) (p p' : Fld K) (hp : mergeL fs = some p)
    (hp' : mergeL (fs.map fun f => f.translate d0 d1) = some p')
    (hM : ∀ e ∈ fs.map Fld.extent, e.rmin ≤ 9223372036854775807 ∧ -9223372036854775807 ≤ e.rmax ∧
                    e.cmin ≤ 9223372036854775807 ∧ -9223372036854775807 ≤ e.cmax)
    (hM' : ∀ e ∈ fs.map Fld.extent, e.rmin + d0 ≤ 9223372036854775807 ∧ -9223372036854775807 ≤ e.rmax + d0 ∧
                     e.cmin + d1 ≤ 9223372036854775807 ∧ -9223372036854775807 ≤ e.cmax + d1) :
    p'.extent = p.extent.shift d0 d1 := by
  rw [(mergeL_spec fs p hp).1, (mergeL_spec _ p' hp').1]
  have hmap : (fs.map (Fld.translate · d0 d1)).map Fld.extent = (fs.map Fld.extent).map fun e => e.shift d0 d1 := by
    rw [List.map_map, List.map_map]; exact List.map_congr_left fun f _ => Fld.translate_extent f d0 d1
  rw [hmap]
  exact boundary_translate (fs.map Fld.extent) (mt List.map_eq_nil_iff.mp hne) d0 d1 hM hM'

/-! ## Reduce -/
section reduce
variable {K : Type}

/-- **`_disjoint` terminates within as many merge steps as there are groups** (every step removes one group; the Python
function is a `while` loop around the pair scan — one model step per iteration, `disjoint_succ_some` — so it needs no stack
and has no bound on the number of fields): with fuel = number of groups the result is a fixed
point — no pair of groups with intersecting cached extents is left -/
theorem reduce_terminates (fuel : Nat) (gs : List (Group K)) (h : gs.length ≤ fuel) :
    firstPair (disjoint fuel gs) = none :=
  disjoint_fixed fuel gs h

/-- a fixed point of `_disjoint` has pairwise non-intersecting cached extents -/
theorem reduce_fixed_point_disjoint (gs : List (Group K)) (h : firstPair gs = none)
    (m k : Nat) (hmk : m < k) (hk : k < gs.length) :
    intersect (gs[m]'(by omega)).extent gs[k].extent = false :=
  (firstPair_none_iff gs).mp h m k hmk hk

/-- the fixed point of `_disjoint` is characterised exactly, for **any number of groups**: nothing is found iff no two cached
extents intersect — with the inclusive test, so groups sharing a single pixel row or column are still merged -/
theorem reduce_fixed_point_iff (gs : List (Group K)) :
    firstPair gs = none ↔
      ∀ (m k : Nat) (_ : m < k) (hk : k < gs.length), intersect (gs[m]'(by omega)).extent gs[k].extent = false :=
  firstPair_none_iff gs
/-- extents that share exactly one pixel row (row 2) intersect; abutting ones (rows 0..2 and 3..5) do not -/
example : intersect ⟨0, 2, 0, 2⟩ ⟨2, 4, 0, 2⟩ = true ∧ intersect ⟨0, 2, 0, 2⟩ ⟨3, 5, 0, 2⟩ = false ∧
    intersect ⟨0, 2, 0, 2⟩ ⟨2, 4, 2, 4⟩ = true := by decide

/-- **`_disjoint`, as recognised in the source** (`Gen.disjointStep`; the recogniser accepts exactly the loop
`merged = True; while merged: merged = False; for m, n in combinations(range(len(fields)), 2): if <extents intersect>:
<step>; merged = True; break` followed by `return fields`): scan the pairs in `combinations` order, apply the step to the
first intersecting pair, rescan the shortened list, stop when a scan finds none. The step constants say which group of the
pair `(m, n)` is kept, whose fields are appended, whose extent is recomputed with `boundary`, which is popped (m = 0, n = 1):
keep `m`, append `n`'s fields, recompute `m`, pop `n` — the step of the model (`disjoint_succ_some`); the loop's iterations
are the model's fuel steps (`reduce_terminates`: at most one per group) and its exit test is `reduce_fixed_point_iff` -/
theorem disjoint_step_spec : Gen.disjointStep = (0, 1, 0, 1) := rfl

/-- the group invariant (`Group.wf`: member fields of positive shape; a singleton group caches its field's extent; a
group of ≥ 2 fields caches `boundary` of its members) holds initially and is preserved by every step of `_disjoint` -/
theorem reduce_group_invariant (fs : List (Fld K)) (hpos : ∀ f ∈ fs, 0 < f.arr.s0 ∧ 0 < f.arr.s1) (fuel : Nat) :
    ∀ g ∈ disjoint fuel (fs.map Group.single), g.wf :=
  singles_disjoint_wf fs hpos fuel

/-- the step itself: merging two well-formed groups gives a well-formed group of ≥ 2 fields (so `Group.wf` pins its cached extent to `boundary` of the members) -/
theorem reduce_step_invariant (a b : Group K) (ha : a.wf) (hb : b.wf) :
    (mergeGroups a b).wf ∧ 2 ≤ (mergeGroups a b).fields.length :=
  ⟨mergeGroups_wf a b ha hb, mergeGroups_two_le a b ha hb⟩

/-- non-vacuity of the group invariant: it holds for the groups of the example collection, whose merged group has two
members and caches `boundary` of them -/
example : (∀ f ∈ [Ex.A, Ex.C, Ex.B], 0 < f.arr.s0 ∧ 0 < f.arr.s1) ∧
    (disjoint 3 ([Ex.A, Ex.C, Ex.B].map Group.single)).map (fun g => (g.fields.length, g.extent)) =
      [(2, ⟨-1, 1, -1, 2⟩), (1, ⟨5, 5, -6, -5⟩)] := by decide

end reduce

section reduce_out
variable {K : Type} [AddCommMonoid K]

/-- **the reduced fields are pairwise non-overlapping**: for positive-shape inputs (`reduce fs = out.map some` names the output
fields; every element of `reduce fs` is a field: `reduce_defined`), the extents of any two output fields do not intersect -/
theorem reduce_disjoint (fs : List (Fld K)) (hpos : ∀ f ∈ fs, 0 < f.arr.s0 ∧ 0 < f.arr.s1)
    (out : List (Fld K)) (hout : reduce fs = out.map some) (i j : Nat) (hij : i < j) (hj : j < out.length) :
    intersect (out[i]'(by omega)).extent out[j].extent = false :=
  List.pairwise_iff_getElem.mp (reduce_out_spec fs hpos out hout).1 i j (by omega) hj hij

/-- … hence no pixel of the plane lies in two output fields -/
theorem reduce_no_common_pixel (fs : List (Fld K)) (hpos : ∀ f ∈ fs, 0 < f.arr.s0 ∧ 0 < f.arr.s1)
    (out : List (Fld K)) (hout : reduce fs = out.map some) (i j : Nat) (hij : i < j) (hj : j < out.length) (r c : Int) :
    ¬ ((out[i]'(by omega)).extent.mem r c ∧ out[j].extent.mem r c) := by
  have h := not_intersect_inb _ _ (reduce_disjoint fs hpos out hout i j hij hj) r c
  rw [Bool.eq_false_iff, Ne, Bool.and_eq_true, Extent.inb_iff_mem, Extent.inb_iff_mem] at h
  exact h

/-- `reduce_disjoint` in `List.Pairwise` / `Extent.inb` form (the form consumed by C07/C03): no pixel of the plane lies in
two of the reduced fields -/
theorem reduce_pairwise_disjoint (data : List (Fld K)) (hpos : ∀ f ∈ data, 0 < f.arr.s0 ∧ 0 < f.arr.s1)
    (gs : List (Fld K)) (hred : reduce data = gs.map some) :
    gs.Pairwise (fun a b => ∀ r c, ¬(a.extent.inb r c = true ∧ b.extent.inb r c = true)) :=
  (reduce_out_spec data hpos gs hred).1.imp fun h r c hh =>
    Bool.eq_false_iff.mp (not_intersect_inb _ _ h r c) (Bool.and_eq_true_iff.mpr hh)

/-- **reduce preserves the total**: at every pixel of the infinite plane the sum of the embeddings of the output fields
equals the sum of the embeddings of the input fields (same hypotheses) -/
theorem reduce_total (fs : List (Fld K)) (hpos : ∀ f ∈ fs, 0 < f.arr.s0 ∧ 0 < f.arr.s1)
    (out : List (Fld K)) (hout : reduce fs = out.map some) (r c : Int) :
    sumList out (fun f => f.emb r c) = sumList fs (fun f => f.emb r c) :=
  (reduce_out_spec fs hpos out hout).2 r c

/-- **totality of `reduce`**: every element of `reduce fs` is a field, for every collection of array fields of any size (no
merge can raise and `_disjoint` is a loop: no recursion limit applies) -/
theorem reduce_defined (fs : List (Fld K)) : ∃ out : List (Fld K), reduce fs = out.map some :=
  exists_eq_map_some _ (List.forall_mem_map.mpr fun g _ => Group.out_isSome g)

/-- **reduce, unconditionally**: for every collection of positive-shape array fields the result is a list of fields,
pairwise sharing no pixel, whose embeddings sum to the sum of the inputs at every pixel of the plane — no hypothesis on
the output, none on where the fields lie -/
theorem reduce_spec (fs : List (Fld K)) (hpos : ∀ f ∈ fs, 0 < f.arr.s0 ∧ 0 < f.arr.s1) :
    ∃ out : List (Fld K), reduce fs = out.map some ∧
      out.Pairwise (fun a b => ∀ r c, ¬(a.extent.inb r c = true ∧ b.extent.inb r c = true)) ∧
      ∀ r c, sumList out (fun f => f.emb r c) = sumList fs (fun f => f.emb r c) := by
  obtain ⟨out, hout⟩ := reduce_defined fs
  exact ⟨out, hout, reduce_pairwise_disjoint fs hpos out hout, fun r c => reduce_total fs hpos out hout r c⟩

/-- the class every wavefront built from array planes is in (all fields have more than one element): `reduce_spec`, which does not
need that hypothesis -/
theorem reduce_arrays (fs : List (Fld K)) (hpos : ∀ f ∈ fs, 0 < f.arr.s0 ∧ 0 < f.arr.s1)
    (_hmulti : ∀ f ∈ fs, f.size1 = false) :
    ∃ out : List (Fld K), reduce fs = out.map some ∧
      out.Pairwise (fun a b => ∀ r c, ¬(a.extent.inb r c = true ∧ b.extent.inb r c = true)) ∧
      ∀ r c, sumList out (fun f => f.emb r c) = sumList fs (fun f => f.emb r c) :=
  reduce_spec fs hpos
/-- the origin-pixel corner inside `reduce`: two (1, 1) arrays on the origin pixel and a bystander -/
example : (reduce [(⟨⟨1, 1, fun _ _ => (2 : Int)⟩, 0, 0⟩ : Fld Int), Ex.C, ⟨⟨1, 1, fun _ _ => 3⟩, 0, 0⟩]).map
      (fun o => o.map fun p => (p.extent, p.emb 0 0)) = [some (⟨0, 0, 0, 0⟩, 5), some (Ex.C.extent, 0)] := by decide
/-- non-vacuity: the example collection consists of multi-element fields -/
example : ∀ f ∈ [Ex.A, Ex.C, Ex.B], (0 < f.arr.s0 ∧ 0 < f.arr.s1) ∧ f.size1 = false := by decide

/-- **the reduced total does not depend on the absolute position**: reducing the collection moved by (d0, d1) yields fields
whose total is the original reduced total read at (r − d0, c − d1) -/
theorem reduce_translate_total (fs : List (Fld K)) (hpos : ∀ f ∈ fs, 0 < f.arr.s0 ∧ 0 < f.arr.s1) (d0 d1 : Int)
    (out out' : List (Fld K)) (hout : reduce fs = out.map some)
    (hout' : reduce (fs.map fun f => f.translate d0 d1) = out'.map some) (r c : Int) :
    sumList out' (fun f => f.emb r c) = sumList out (fun f => f.emb (r - d0) (c - d1)) := by
  -- the moved list is written with `Fld.translate ·`: with `fun f => f.translate d0 d1` the body is elaborated too late
  -- and `hout'` is unified against `reduce (fs.map fun f => ?m)` by unfolding `reduce`
  rw [reduce_total fs hpos out hout, reduce_total (fs.map (Fld.translate · d0 d1)) (List.forall_mem_map.mpr hpos) out' hout',
    sumList_map_comp]
  exact sumList_congr fs _ _ (fun f _ => Fld.translate_emb f d0 d1 r c)

/-- **the reduced total does not depend on the order of the fields** -/
theorem reduce_order_total (fs fs' : List (Fld K)) (hperm : fs.Perm fs') (hpos : ∀ f ∈ fs, 0 < f.arr.s0 ∧ 0 < f.arr.s1)
    (out out' : List (Fld K)) (hout : reduce fs = out.map some) (hout' : reduce fs' = out'.map some) (r c : Int) :
    sumList out (fun f => f.emb r c) = sumList out' (fun f => f.emb r c) := by
  rw [reduce_total fs hpos out hout r c,
    reduce_total fs' (fun f hf => hpos f (hperm.mem_iff.mpr hf)) out' hout' r c, sumList_eq_sum, sumList_eq_sum]
  exact (hperm.map _).sum_eq
/-- the unconditional statements instantiated on the example collection (three multi-element fields, one merge) -/
example : ∃ out : List (Fld Int), reduce [Ex.A, Ex.C, Ex.B] = out.map some ∧
    out.Pairwise (fun a b => ∀ r c, ¬(a.extent.inb r c = true ∧ b.extent.inb r c = true)) ∧
    ∀ r c, sumList out (fun f => f.emb r c) = sumList [Ex.A, Ex.C, Ex.B] (fun f => f.emb r c) :=
  reduce_spec [Ex.A, Ex.C, Ex.B] (by decide)
example : ∃ p, mergeL [Ex.N1, Ex.N2] = some p ∧ p.extent = boundaryL ([Ex.N1, Ex.N2].map Fld.extent) ∧
    ∀ r c, p.emb r c = sumList [Ex.N1, Ex.N2] (fun f => f.emb r c) :=
  merge_spec [Ex.N1, Ex.N2] (by decide) (by decide)

/-- `reduce` never returns more fields than it was given, and returns one field per final group -/
theorem reduce_length_le (fs : List (Fld K)) : (reduce fs).length ≤ fs.length := by
  rw [reduce_eq, List.length_map]
  exact disjoint_induction (K := K) (fun gs => gs.length ≤ fs.length)
    (fun gs m k _ hk _ hP => by rw [step_length gs m k _ hk]; omega) fs.length (fs.map Group.single)
    (by rw [List.length_map])

/-! non-vacuity of the `reduce` theorems: `A` and `B` share a pixel, `C` is far away (`Lentil.Ex` in Lemmas/Reduce.lean) -/
example : Ex.A.extent = ⟨-1, 0, -1, 0⟩ ∧ Ex.B.extent = ⟨0, 1, 0, 2⟩ ∧ Ex.C.extent = ⟨5, 5, -6, -5⟩ ∧
    Ex.D.extent = ⟨-1, -1, 1, 2⟩ := by decide
/-- the hypotheses of `reduce_disjoint`/`reduce_total` are satisfiable by a non-trivial collection: three fields, one
merge, two output fields -/
example : (∀ f ∈ [Ex.A, Ex.C, Ex.B], 0 < f.arr.s0 ∧ 0 < f.arr.s1) ∧
    ∃ out : List (Fld Int), reduce [Ex.A, Ex.C, Ex.B] = out.map some ∧ out.length = 2 := by
  refine ⟨by decide, ?_⟩
  obtain ⟨out, h⟩ := reduce_defined [Ex.A, Ex.C, Ex.B]
  refine ⟨out, h, ?_⟩
  rw [← List.length_map (f := some), ← h]; decide
/-- … and what comes out: the merged box of `A ∪ B` with `A(0,0) + B(0,0) = 4 + 10` at the shared pixel, and `C` untouched -/
example : (reduce [Ex.A, Ex.C, Ex.B]).map (fun o => o.map fun p => (p.extent, p.emb 0 0, p.emb 5 (-5))) =
    [some (⟨-1, 1, -1, 2⟩, 14, 0), some (⟨5, 5, -6, -5⟩, 0, 8)] := by decide
/-- the bounding box of a merged group can swallow a field that met neither member: `D` joins `A ∪ B` in a second step -/
example : (reduce [Ex.A, Ex.B, Ex.D]).map (fun o => o.map fun p => (p.extent, p.emb (-1) 1)) =
    [some (⟨-1, 1, -1, 2⟩, 100)] := by decide
/-- fixed point / termination on the same collection, with the minimal fuel -/
example : firstPair (disjoint 3 ([Ex.A, Ex.C, Ex.B].map Group.single)) = none ∧
    firstPair ([Ex.A, Ex.C, Ex.B].map Group.single) = some (0, 2) := by decide

/-- **reducing a collection that is already pairwise non-overlapping changes nothing**: every field comes back as it is, in
order (no merge, no copy of the data) -/
theorem reduce_of_disjoint (fs : List (Fld K))
    (hdis : ∀ (i j : Nat) (_ : i < j) (hj : j < fs.length), intersect (fs[i]'(by omega)).extent fs[j].extent = false) :
    reduce fs = fs.map some := by
  have hfp : firstPair (fs.map Group.single) = none := by
    rw [firstPair_none_iff]
    intro m k hmk hk
    rw [List.length_map] at hk
    simp only [List.getElem_map]
    exact hdis m k hmk hk
  rw [reduce_eq, reduceGroups, disjoint_eq_self _ _ hfp, List.map_map]
  rfl
/-- non-vacuity: `A` and `C` share no pixel -/
example : intersect Ex.A.extent Ex.C.extent = false ∧
    (reduce [Ex.A, Ex.C]).map (fun o => o.map Fld.extent) = [some Ex.A.extent, some Ex.C.extent] := by decide

/-- … and `reduce` is idempotent: reducing its own output returns it unchanged -/
theorem reduce_idempotent (fs : List (Fld K)) (hpos : ∀ f ∈ fs, 0 < f.arr.s0 ∧ 0 < f.arr.s1)
    (out : List (Fld K)) (hout : reduce fs = out.map some) : reduce out = out.map some :=
  reduce_of_disjoint out (fun i j hij hj => reduce_disjoint fs hpos out hout i j hij hj)

end reduce_out

/-! ## 0-d data (what `Wavefront.__init__` creates): merge / reduce / public `merge` and `overlap`, 0-d aware

`ZFld` = field + flag "data is a 0-d array" (`Model/FieldZ.lean`). A 0-d field is a 1×1 array everywhere except in
`_merge` on a collection whose bounding box is the single origin pixel: there the result is 0-d iff every member is, and
a (1, 1) array otherwise. (Corpus cases `tools/corpus/C06/kf_merge_0d_origin*.json`, `kf_merge_1x1_origin*.json`.) -/
section zerod
variable {K : Type}

/-- **a 0-d aware merge is the sum of the embeddings and occupies the `boundary` box**, for every non-empty collection
(`_merge` always answers: `mergeZ_total`) — including 0-d fields and (1, 1) arrays at the origin -/
theorem mergeZ_emb [AddZeroClass K] (zs : List (ZFld K)) (hne : zs ≠ [])
    (hpos : ∀ z ∈ zs, 0 < z.fld.arr.s0 ∧ 0 < z.fld.arr.s1) (p : ZFld K) (h : mergeZ zs = some p) :
    p.fld.extent = boundaryL (zs.map fun z => z.fld.extent) ∧
    ∀ r c, p.fld.emb r c = sumList zs (fun z => z.fld.emb r c) :=
  mergeZ_spec zs hpos p h

/-- **`_merge` never raises** (0-d members, (1, 1) arrays, any mix, anywhere) -/
theorem mergeZ_total [Add K] [Zero K] (zs : List (ZFld K)) : ∃ p, mergeZ zs = some p :=
  Option.isSome_iff_exists.mp (mergeZ_isSome zs)

/-- the merged data is 0-d exactly when the box is the single origin pixel and every member is 0-d -/
theorem mergeZ_zero_d_iff [Add K] [Zero K] (zs : List (ZFld K)) (p : ZFld K) (h : mergeZ zs = some p) :
    p.zd = true ↔ (boundaryL (zs.map fun z => z.fld.extent) = ⟨0, 0, 0, 0⟩ ∧ (zs.all fun z => z.zd) = true) := by
  rcases mergeZ_cases zs with ⟨hc, hm⟩ | ⟨hc, hm⟩
  · rw [hm, Option.some.injEq] at h
    subst h
    exact iff_of_true rfl hc
  · rw [hm, Option.map_eq_some_iff] at h
    obtain ⟨q, _, rfl⟩ := h
    exact iff_of_false Bool.false_ne_true hc

/-- the 0-d aware model refines the plain-array one: unless the collection is all-0-d on the origin pixel (where the
result is 0-d), `mergeZ` gives the field `mergeL` gives -/
theorem mergeZ_refines_merge [Add K] [Zero K] (zs : List (ZFld K)) (p : Fld K)
    (hz : (zs.all fun z => z.zd) = false ∨ boundaryL (zs.map fun z => z.fld.extent) ≠ ⟨0, 0, 0, 0⟩)
    (h : mergeL (zs.map fun z => z.fld) = some p) : mergeZ zs = some { fld := p, zd := false } := by
  rcases mergeZ_cases zs with ⟨⟨hb, ha⟩, _⟩ | ⟨_, hm⟩
  · rcases hz with hz | hz
    · rw [hz] at ha; cases ha
    · exact absurd hb hz
  · rw [hm, h]; rfl

/-- two 0-d fields at the origin merge to their 0-d sum; a 0-d field and a (1, 1) array at the origin merge to a (1, 1) array
holding the sum -/
example : (mergeZ [(⟨⟨⟨1, 1, fun _ _ => (2 : Int)⟩, 0, 0⟩, true⟩ : ZFld Int), ⟨⟨⟨1, 1, fun _ _ => 3⟩, 0, 0⟩, true⟩]).map
      (fun p => (p.fld.extent, p.fld.emb 0 0, p.zd)) = some (⟨0, 0, 0, 0⟩, 5, true) ∧
    (mergeZ [(⟨⟨⟨1, 1, fun _ _ => (2 : Int)⟩, 0, 0⟩, true⟩ : ZFld Int), ⟨⟨⟨1, 1, fun _ _ => 3⟩, 0, 0⟩, false⟩]).map
      (fun p => (p.fld.extent, p.fld.emb 0 0, p.zd)) = some (⟨0, 0, 0, 0⟩, 5, false) := by
  decide

/-- **public `merge(a, b, enforce_overlap)`**, in terms of pixels and embeddings (positive shapes): an accepted merge is the
sum of the two embeddings and — when overlap is enforced — the operands do share a pixel; it is refused when overlap is
enforced and no pixel is shared — and only then (`_merge` itself never refuses: `mergeZ_total`). -/
theorem merge_public_emb [AddZeroClass K] (a b : ZFld K) (enforce : Bool)
    (ha : 0 < a.fld.arr.s0 ∧ 0 < a.fld.arr.s1) (hb : 0 < b.fld.arr.s0 ∧ 0 < b.fld.arr.s1) :
    (∀ p, mergePublic a b enforce = some p →
      (enforce = true → ∃ r c, a.fld.extent.mem r c ∧ b.fld.extent.mem r c) ∧
      ∀ r c, p.fld.emb r c = a.fld.emb r c + b.fld.emb r c) ∧
    ((enforce = true ∧ ¬ ∃ r c, a.fld.extent.mem r c ∧ b.fld.extent.mem r c) → mergePublic a b enforce = none) := by
  have hiff := intersect_iff a.fld.extent b.fld.extent (a.fld.extent_valid ha) (b.fld.extent_valid hb)
  rw [mergePublic_eq]
  refine ⟨fun p hp => ?_, fun ⟨he, hno⟩ => if_pos ⟨he, Bool.eq_false_iff.mpr (mt hiff.mp hno)⟩⟩
  obtain ⟨hc, hp⟩ := Option.ite_none_left_eq_some.mp hp
  refine ⟨fun he => hiff.mp ?_, fun r c => ?_⟩
  · exact (Bool.not_eq_false _).mp fun hi => hc ⟨he, hi⟩
  · rw [(mergeZ_spec [a, b] (by simpa using And.intro ha hb) p hp).2, sumList_pair]

/-- **public `overlap` of exactly two fields**: true iff they share a pixel of the plane -/
theorem overlap_two_iff (a b : Fld K) (ha : 0 < a.arr.s0 ∧ 0 < a.arr.s1) (hb : 0 < b.arr.s0 ∧ 0 < b.arr.s1) :
    overlapL [a, b] = true ↔ ∃ r c, a.extent.mem r c ∧ b.extent.mem r c := by
  rw [overlapL_two]; exact intersect_iff a.extent b.extent (a.extent_valid ha) (b.extent_valid hb)

/-- **public `overlap` of any other number of fields**: when it says `True`, `reduce` returns at most one field and that
field carries the whole collection (its embedding is the sum of all inputs at every pixel); when it says `False`,
`reduce` returns at least two fields, no two of which share a pixel (`reduce_pairwise_disjoint`) -/
theorem overlap_many_spec [AddCommMonoid K] (fs : List (Fld K)) (hn : fs.length ≠ 2)
    (hpos : ∀ f ∈ fs, 0 < f.arr.s0 ∧ 0 < f.arr.s1) (out : List (Fld K)) (hout : reduce fs = out.map some) :
    (overlapL fs = true → out.length ≤ 1 ∧ ∀ p ∈ out, ∀ r c, p.emb r c = sumList fs (fun f => f.emb r c)) ∧
    (overlapL fs = false → 2 ≤ out.length) := by
  have hlen : (reduce fs).length = out.length := by rw [hout, List.length_map]
  rw [overlapL_many fs hn, hlen, decide_eq_true_eq, decide_eq_false_iff_not]
  refine ⟨fun h1 => ⟨h1, fun p hp r c => ?_⟩, fun h => by omega⟩
  have h2 : out.length = 1 := by have := List.length_pos_of_mem hp; omega
  obtain ⟨q, rfl⟩ := List.length_eq_one_iff.mp h2
  rw [List.mem_singleton.mp hp, ← reduce_total fs hpos [q] hout r c, sumList_singleton]

/-- two overlapping fields with wholly negative extents and a one-element field at (−1, −1) that shares no pixel with them:
`overlap` is False and `reduce` keeps two fields (the merged box does not reach up to row/column 0) -/
example : overlapL [Ex.N1, (⟨⟨2, 2, fun _ _ => (1 : Int)⟩, -6, -6⟩ : Fld Int), ⟨⟨1, 1, fun _ _ => 1⟩, -1, -1⟩] = false ∧
    (reduce [Ex.N1, (⟨⟨2, 2, fun _ _ => (1 : Int)⟩, -6, -6⟩ : Fld Int), ⟨⟨1, 1, fun _ _ => 1⟩, -1, -1⟩]).length = 2 := by decide

example : overlapL [Ex.A, Ex.B] = true ∧ overlapL [Ex.A, Ex.C] = false ∧ overlapL [Ex.A, Ex.B, Ex.D] = true ∧
    overlapL [Ex.A, Ex.C, Ex.B] = false ∧ overlapL [Ex.A] = true := by decide

end zerod

section zerod_reduce
variable {K : Type} [AddCommMonoid K]

/-- **0-d aware reduce: outputs pairwise non-overlapping** (every output a field: `reduceZ zs = out.map some`) -/
theorem reduceZ_disjoint (zs : List (ZFld K)) (hpos : ∀ z ∈ zs, 0 < z.fld.arr.s0 ∧ 0 < z.fld.arr.s1)
    (out : List (ZFld K)) (hout : reduceZ zs = out.map some) (i j : Nat) (hij : i < j) (hj : j < out.length) :
    intersect (out[i]'(by omega)).fld.extent out[j].fld.extent = false := by
  have hp := List.pairwise_map.mp (reduceZ_out_spec zs hpos out hout).1
  exact List.pairwise_iff_getElem.mp hp i j (by omega) hj hij

/-- **0-d aware reduce preserves the total** at every pixel of the plane (a 0-d field embeds as one pixel at its offset) -/
theorem reduceZ_total (zs : List (ZFld K)) (hpos : ∀ z ∈ zs, 0 < z.fld.arr.s0 ∧ 0 < z.fld.arr.s1)
    (out : List (ZFld K)) (hout : reduceZ zs = out.map some) (r c : Int) :
    sumList out (fun z => z.fld.emb r c) = sumList zs (fun z => z.fld.emb r c) := by
  have := (reduceZ_out_spec zs hpos out hout).2 r c
  rwa [sumList_map_comp, sumList_map_comp] at this

/-- **the 0-d aware reduce never raises**: every element of `reduceZ zs` is a field -/
theorem reduceZ_defined (zs : List (ZFld K)) : ∃ out : List (ZFld K), reduceZ zs = out.map some :=
  exists_eq_map_some _ (List.forall_mem_map.mpr fun g _ => GroupZ.out_isSome g)

/-- **0-d aware reduce, unconditionally**: for every collection of positive-shape fields — 0-d data, (1, 1) arrays and
larger arrays in any mix, any number of them on the origin pixel — the result is a list of fields, pairwise
non-overlapping, with the total preserved at every pixel -/
theorem reduceZ_spec (zs : List (ZFld K)) (hpos : ∀ z ∈ zs, 0 < z.fld.arr.s0 ∧ 0 < z.fld.arr.s1) :
    ∃ out : List (ZFld K), reduceZ zs = out.map some ∧
      (∀ r c, sumList out (fun z => z.fld.emb r c) = sumList zs (fun z => z.fld.emb r c)) ∧
      (∀ i j (hij : i < j) (hj : j < out.length), intersect (out[i]'(by omega)).fld.extent out[j].fld.extent = false) := by
  obtain ⟨out, hout⟩ := reduceZ_defined zs
  exact ⟨out, hout, fun r c => reduceZ_total zs hpos out hout r c,
    fun i j hij hj => reduceZ_disjoint zs hpos out hout i j hij hj⟩

/-- the 0-d aware reduce refines the plain-array one: for a collection without 0-d members `reduceZ` returns the fields
`reduce` returns -/
theorem reduceZ_refines_reduce (zs : List (ZFld K)) (hz : ∀ z ∈ zs, z.zd = false) (out : List (Fld K))
    (h : reduce (zs.map fun z => z.fld) = out.map some) :
    (reduceZ zs).map (fun o => o.map fun z => z.fld) = out.map some := by
  rw [reduce_eq, ← reduceZ_groups_toG, List.map_map] at h
  rw [reduceZ_eq, List.map_map]
  have hm := disjointZ_members zs.length (zs.map GroupZ.single) (fun z => z.zd = false)
    (List.forall_mem_map.mpr fun z hz0 => List.forall_mem_singleton.mpr (hz z hz0))
  exact (map_eq_of_map_some h _ some fun g hg p hp => (GroupZ.out_of_no_zd g (hm g hg) p hp).symm).symm

/-- non-vacuity: three 0-d fields, two of them at the origin and one elsewhere: two output fields, total kept -/
example : (reduceZ [(⟨⟨⟨1, 1, fun _ _ => (2 : Int)⟩, 0, 0⟩, true⟩ : ZFld Int), ⟨⟨⟨1, 1, fun _ _ => 7⟩, 3, -1⟩, true⟩,
      ⟨⟨⟨1, 1, fun _ _ => 3⟩, 0, 0⟩, true⟩]).map (fun o => o.map fun p => (p.fld.extent, p.fld.emb 0 0, p.fld.emb 3 (-1))) =
    [some (⟨0, 0, 0, 0⟩, 5, 0), some (⟨3, 3, -1, -1⟩, 0, 7)] := by decide

end zerod_reduce

/-! ### the loop body of `reduce` and the pair branch of `overlap`, regenerated -/
section reduce_flow
variable {K : Type}

/-- **the loop body of `lentil.field.reduce`, regenerated (`Gen.reduceMerges` for the test, `Gen.reduceThenOut` /
`Gen.reduceElseOut` for `out.append(_merge(f['field']))` / `out.append(f['field'][0])`), is what the models do with a group**:
for every non-empty group (groups are never empty) a single member goes out as it is and two or more members go out merged —
the `match` of `Lentil.reduce`. Appending another member, merging in the wrong branch or changing the size test breaks this. -/
theorem reduce_group_out_spec {α : Type} (merge : List α → Option α) (l : List α) (h : l ≠ []) :
    groupOutFlow merge l = (match l with | [f] => some f | l => merge l) := by
  match l, h with
  | [a], _ => rfl
  | a :: b :: t, _ =>
    have hm : Gen.reduceMerges (((a :: b :: t).length : Nat) : Int) = true := by
      simp only [Gen.reduceMerges, List.length_cons, decide_eq_true_eq]; omega
    simp only [groupOutFlow, hm, if_true]; rfl

/-- the same for the 0-d aware model: `GroupZ.out` is the regenerated loop body with `mergeZ` -/
theorem reduceZ_group_out_spec [Add K] [Zero K] (g : GroupZ K) (h : g.fields ≠ []) :
    g.out = groupOutFlow mergeZ g.fields := by
  rw [reduce_group_out_spec mergeZ g.fields h, GroupZ.out_eq, GroupZ.outSpec]
  match g.fields, h with
  | [_], _ | _ :: _ :: _, _ => rfl

/-- **the pair branch of public `overlap`, regenerated (`Gen.overlapPairValue` from
`return lentil.extent.intersect(fields[0].extent, fields[1].extent)`)**: for two fields `overlapL` is that value on the two
cached extents -/
theorem overlap_pair_value_spec (a b : Fld K) :
    overlapL [a, b] = Gen.overlapPairValue a.extent.rmin a.extent.rmax a.extent.cmin a.extent.cmax
      b.extent.rmin b.extent.rmax b.extent.cmin b.extent.cmax := rfl
example : groupOutFlow (fun _ => none) [(5 : Int)] = some 5 ∧ groupOutFlow (fun l => some l.sum) [(5 : Int), 6, 7] = some 18 ∧
    Gen.overlapPairValue 0 1 0 1 1 2 1 2 = true ∧ Gen.overlapPairValue 0 1 0 1 2 3 0 1 = false := ⟨rfl, rfl, rfl, rfl⟩

end reduce_flow

/-! ### `_reduce`, public `overlap`, public `merge` from their regenerated pieces -/
section public_flow
variable {K : Type}

/-- **the group construction of `_reduce`, regenerated** (`[{'field': [f], 'extent': f.extent} for f in fields]`: one copy of
`f`, the member's cached extent): the groups `reduce` / `overlap` start `_disjoint` from are the model's singletons -/
theorem reduce_init_flow_spec (fs : List (Fld K)) :
    reduceInitFlow fs = fs.map fun f => ({ fields := [f], extent := f.extent } : Group K) := rfl

/-- **public `overlap`, every value-carrying piece regenerated** (tests `len(fields) == 2` / `len(fields) > 1`, the pair value,
the group construction of `_reduce`, the constants `return False` / `return True` of the many-branch) **is the model
`overlapL`**, for all lists of fields. Swapping the two constants, the operands of the pair test or the construction breaks
this. -/
theorem overlap_flow_spec (fs : List (Fld K)) : overlapFlow fs = overlapL fs := by
  unfold overlapFlow overlapL
  rw [reduce_init_flow_spec]
  split
  · rfl
  · cases Gen.overlapManyFalse _ <;> rfl

/-- **public `merge(a, b, enforce_overlap)` from its regenerated pieces** (refusal test, `return _merge((a, b))`: which
operands and in which order) **is the model `mergePublic`**, and the default `enforce_overlap=True` is the enforcing call -/
theorem merge_public_flow_spec [Add K] [Zero K] (a b : ZFld K) (enforce : Bool) :
    mergePublicFlow a b enforce = mergePublic a b enforce ∧
    mergePublic a b Gen.mergeEnforceDefault = mergePublic a b true := by
  refine ⟨?_, rfl⟩
  unfold mergePublicFlow mergePublic
  rw [overlap_flow_spec]; rfl
/-- **the pair scan of `_disjoint`, regenerated (`for m, n in combinations(range(len(fields)), 2)`: `Gen.disjointScanR`, with
`itertools.combinations` as `Lentil.combos`, the r-element sublists in lexicographic order of positions)**, is the index list
the model `firstPair` searches: all (m, k) with m < k < n, m ascending, then k ascending — for every n; so `firstPair` finds
the first intersecting pair in the order the loop visits them -/
theorem disjoint_scan_spec (n : Nat) :
    disjointScan n = (List.range n).flatMap fun m => ((List.range n).filter fun k => m < k).map fun k => (m, k) := by
  rw [scan_pairs (List.range n) List.pairwise_lt_range]
  exact combos_two_pairs (List.range n)

theorem disjoint_first_pair_spec (gs : List (Group K)) :
    firstPair gs = (disjointScan gs.length).find? fun (m, k) => match gs[m]?, gs[k]? with
      | some gm, some gk => intersect gm.extent gk.extent
      | _, _ => false := by
  rw [disjoint_scan_spec]; rfl
example : disjointScan 4 = [(0, 1), (0, 2), (0, 3), (1, 2), (1, 3), (2, 3)] := by decide
example : overlapFlow ([] : List (Fld Int)) = true ∧ overlapFlow [Ex.A, Ex.B, Ex.A] = overlapL [Ex.A, Ex.B, Ex.A] := ⟨rfl, rfl⟩

end public_flow

/-! ## Compositions: a product fed into a merge / reduce (what `Plane.multiply` followed by `Wavefront.intensity` does) -/
section compose
variable {K : Type} [NonUnitalNonAssocSemiring K]

/-- the data of a product is 0-d exactly when both operands' data are (NumPy: `() * ()` is `()`; anything else is an array) -/
theorem mulZ_zero_d (a b p : ZFld K) (h : a.mul b = some p) : p.zd = (a.zd && b.zd) ∧ a.fld.mul b.fld = some p.fld := by
  rw [ZFld.mul, Option.map_eq_some_iff] at h
  obtain ⟨q, hq, rfl⟩ := h
  exact ⟨rfl, hq⟩

/-- **product → merge in one statement**: if `a * b` (at most one of them one-element, read as an infinite constant) is not
empty and is then merged with `c`, the result embeds as `emb a · emb b + emb c` at every pixel — 0-d data included -/
theorem product_then_merge (a b c : ZFld K) (hab : (a.fld.size1 && b.fld.size1) = false)
    (ha : 0 < a.fld.arr.s0 ∧ 0 < a.fld.arr.s1) (hb : 0 < b.fld.arr.s0 ∧ 0 < b.fld.arr.s1)
    (hc : 0 < c.fld.arr.s0 ∧ 0 < c.fld.arr.s1) (p q : ZFld K) (hp : a.mul b = some p) (hq : mergeZ [p, c] = some q)
    (r s : Int) : q.fld.emb r s = a.fld.sem r s * b.fld.sem r s + c.fld.emb r s := by
  obtain ⟨_, hp'⟩ := mulZ_zero_d a b p hp
  have hpp := Fld.mul_pos_shape a.fld b.fld p.fld ha hb hp'
  rw [(mergeZ_spec [p, c] (by simpa using And.intro hpp hc) q hq).2, sumList_pair,
    mul_sem_of_some a.fld b.fld p.fld hab ha hb hp']

/-- **product → reduce in one statement**: the product (when not empty) together with further fields reduces to pairwise
non-overlapping fields whose total is `emb a · emb b + Σ emb cs` at every pixel -/
theorem product_then_reduce (a b : ZFld K) (cs : List (ZFld K)) (hab : (a.fld.size1 && b.fld.size1) = false)
    (ha : 0 < a.fld.arr.s0 ∧ 0 < a.fld.arr.s1) (hb : 0 < b.fld.arr.s0 ∧ 0 < b.fld.arr.s1)
    (hcs : ∀ z ∈ cs, 0 < z.fld.arr.s0 ∧ 0 < z.fld.arr.s1) (p : ZFld K) (hp : a.mul b = some p) :
    ∃ out : List (ZFld K), reduceZ (p :: cs) = out.map some ∧
      (∀ r s, sumList out (fun z => z.fld.emb r s) =
        a.fld.sem r s * b.fld.sem r s + sumList cs (fun z => z.fld.emb r s)) ∧
      (∀ i j (hij : i < j) (hj : j < out.length), intersect (out[i]'(by omega)).fld.extent out[j].fld.extent = false) := by
  obtain ⟨_, hp'⟩ := mulZ_zero_d a b p hp
  have hpp := Fld.mul_pos_shape a.fld b.fld p.fld ha hb hp'
  obtain ⟨out, hout, htot, hdis⟩ := reduceZ_spec (p :: cs) (List.forall_mem_cons.mpr ⟨hpp, hcs⟩)
  refine ⟨out, hout, fun r s => ?_, hdis⟩
  rw [htot r s, ← mul_sem_of_some a.fld b.fld p.fld hab ha hb hp', sumList_eq_sum, sumList_eq_sum, List.map_cons,
    List.sum_cons]

/-- non-vacuity: `A * B` (one shared pixel, value 40) merged with `D`, and a 0-d product of two 0-d fields -/
example : ((((⟨Ex.A, false⟩ : ZFld Int).mul ⟨Ex.B, false⟩).bind (fun p => mergeZ [p, ⟨Ex.D, false⟩])).map
      (fun q => (q.fld.emb 0 0, q.fld.emb (-1) 1, q.zd))) = some (40, 100, false) ∧
    ((⟨⟨⟨1, 1, fun _ _ => (2 : Int)⟩, 0, 0⟩, true⟩ : ZFld Int).mul ⟨⟨⟨1, 1, fun _ _ => 3⟩, 0, 0⟩, true⟩).map
      (fun p => (p.fld.emb 0 0, p.zd)) = some (6, true) := by decide

end compose

/-! ## Insertion -/
section insert
variable {K : Type} [NonUnitalNonAssocSemiring K]

/-- **insert adds exactly the part of the embedding that falls inside the array** — all, some or none of it — for every
target shape, field shape and offset of either sign: `out'[i][j] = out[i][j] + post(emb(i − S0/2, j − S1/2))·w`, where the
target's origin sample is at index `(S0/2, S1/2)` (`post = id` for the complex field, `|·|²` for intensity) -/
theorem insert_emb (f : Fld K) (out : Arr K) (w : K) (post : K → K) (i j : Int)
    (hi : 0 ≤ i ∧ i < out.s0) (hj : 0 ≤ j ∧ j < out.s1) :
    (insertArr f out w post).get i j =
      out.get i j + (if f.extent.inb (i - out.s0 / 2) (j - out.s1 / 2)
                     then post (f.arr.get (i - out.s0 / 2 - f.extent.rmin) (j - out.s1 / 2 - f.extent.cmin)) * w else 0) := by
  rw [insertArr_get f out w post i j hi hj]
  cases f.extent.inb (i - out.s0 / 2) (j - out.s1 / 2)
  · exact (add_zero _).symm
  · rfl

/-- the NumPy statement `out[out_slice] += field.data[field_slice]` is well-formed whenever `insert` reaches it: both
slices are non-empty, inside their arrays and of equal shape — for every field shape, offset and target shape (the model
`insertArr` reads only the slice starts, so the slice *stops* of the source are pinned down here) -/
theorem insert_slices_wellformed (s0 s1 o0 o1 S0 S1 : Int) (orow ocol frow fcol : Int × Int)
    (h : Gen.insertIdx s0 s1 o0 o1 S0 S1 = some ((orow, ocol), (frow, fcol))) :
    (0 ≤ orow.1 ∧ orow.1 < orow.2 ∧ orow.2 ≤ S0) ∧ (0 ≤ ocol.1 ∧ ocol.1 < ocol.2 ∧ ocol.2 ≤ S1) ∧
    (0 ≤ frow.1 ∧ frow.2 ≤ s0) ∧ (0 ≤ fcol.1 ∧ fcol.2 ≤ s1) ∧
    frow.2 - frow.1 = orow.2 - orow.1 ∧ fcol.2 - fcol.1 = ocol.2 - ocol.1 := by
  rw [insertIdx_eq] at h
  simp only [Option.ite_none_left_eq_some, Bool.or_eq_true, decide_eq_true_eq, not_or, ge_iff_le, Int.not_le,
    Option.some.injEq, Prod.mk.injEq] at h
  obtain ⟨hne, ⟨rfl, rfl⟩, rfl, rfl⟩ := h
  have hr := insertAxis_wellformed _ _ _ hne.1
  have hc := insertAxis_wellformed _ _ _ hne.2
  exact ⟨⟨hr.1.1, hne.1, hr.1.2⟩, ⟨hc.1.1, hne.2, hc.1.2⟩, hr.2.1, hc.2.1, hr.2.2, hc.2.2⟩
/-- non-vacuity: a 4×3 field at (−2, 2) in a 3×4 target is clipped at the top and on the right -/
example : Gen.insertIdx 4 3 (-2) 2 3 4 = some (((0, 1), (3, 4)), ((3, 4), (0, 1))) := by decide

/-- the whole-array fast path of `insert` (`out += field.data`, taken when the translated test `Gen.insertFast` holds:
equal shapes and zero offset) does exactly what the general index arithmetic would do: both address the whole target
and the whole field -/
theorem insert_fast_path (s0 s1 o0 o1 S0 S1 : Int) (hs : 0 < s0 ∧ 0 < s1)
    (h : Gen.insertFast s0 s1 o0 o1 S0 S1 = true) :
    Gen.insertIdx s0 s1 o0 o1 S0 S1 = some (((0, S0), (0, S1)), ((0, s0), (0, s1))) := by
  unfold Gen.insertFast at h
  simp only [Bool.and_eq_true, decide_eq_true_eq] at h
  obtain ⟨⟨rfl, rfl⟩, rfl, rfl⟩ := h
  rw [insertIdx_eq, insertAxis_full, insertAxis_full]
  have : ¬ (decide ((0 : Int) ≥ s0) || decide ((0 : Int) ≥ s1)) = true := by
    simp only [Bool.or_eq_true, decide_eq_true_eq]; omega
  exact if_neg this

/-- and the fast path is taken only then -/
theorem insert_fast_iff (s0 s1 o0 o1 S0 S1 : Int) :
    Gen.insertFast s0 s1 o0 o1 S0 S1 = true ↔ (s0 = S0 ∧ s1 = S1) ∧ (o0 = 0 ∧ o1 = 0) := by
  unfold Gen.insertFast; simp only [Bool.and_eq_true, decide_eq_true_eq]

/-- **the accumulation statements of `insert`, as generated from the source** (`Gen.insertAccumIntensity` from
`out[out_slice] += np.abs(field.data[field_slice]**2) * weight`, `Gen.insertAccumField` from
`out[out_slice] += field.data[field_slice] * weight`, `Gen.insertAccumInPlace` from the two `+=`): the intensity branch adds
`|data|²·weight`, the field branch `data·weight`, both **in place**. `insertArr` evaluates the generated term
(`insertTerm`), so dropping the weight, taking `|·|` instead of `|·|²`, or overwriting instead of accumulating changes a
definition `insert_emb` depends on. -/
theorem insert_accum_spec (nsq : K → K) (d w : K) :
    Gen.insertAccumIntensity.eval nsq d w = nsq d * w ∧ Gen.insertAccumField.eval nsq d w = d * w ∧
    Gen.insertAccumInPlace = (true, true) := ⟨rfl, rfl, rfl⟩

/-- `insert` with the branch chosen by `intensity` as in the source (`insertArrMode`, what the correspondence driver runs) is
`insertArr` with `post = |·|²` resp. `post = id`, so `insert_emb` covers both branches -/
theorem insert_mode_eq (intensity : Bool) (nsq : K → K) (f : Fld K) (out : Arr K) (w : K) :
    insertArrMode intensity nsq f out w = insertArr f out w (if intensity then nsq else id) := by
  unfold insertArrMode insertArr
  cases Gen.insertIdx f.arr.s0 f.arr.s1 f.o0 f.o1 out.s0 out.s1 with
  | none => rfl
  | some v => cases intensity <;> rfl

/-- **the defaults of `insert(field, out, intensity=False, weight=1)`, regenerated**: a call without keywords adds the field
itself (not its intensity), with weight one -/
theorem insert_defaults_spec (nsq : K → K) (f : Fld K) (out : Arr K) (w : K) :
    insertArrMode Gen.insertDefaultIntensity nsq f out w = insertArr f out w ∧ Gen.insertDefaultWeight = 1 := by
  refine ⟨?_, rfl⟩
  rw [insert_mode_eq]; rfl

/-- the shape of the target never changes -/
theorem insert_shape (f : Fld K) (out : Arr K) (w : K) (post : K → K) :
    (insertArr f out w post).s0 = out.s0 ∧ (insertArr f out w post).s1 = out.s1 :=
  ⟨insertArr_s0 f out w, insertArr_s1 f out w⟩

/-- non-vacuity of `insert_emb` with a field **wholly outside** the target (the D20 witness):
the generated index block returns "nothing to add" and every sample of the target is unchanged -/
example : Gen.insertIdx 2 2 9 9 3 3 = none ∧
    (∀ i ∈ [0, 1, 2], ∀ j ∈ [0, 1, 2], (insertArr Ex.O Ex.T 2 id).get i j = Ex.T.get i j) ∧
    Ex.O.extent.inb (1 - Ex.T.s0 / 2) (1 - Ex.T.s1 / 2) = false := by decide
/-- … and a clipped one: a 2×2 field at (−1, 1) in a 3×3 target — only its lower row (values 2, 4) lands, at (0, 1), (0, 2) -/
example : (insertArr (⟨⟨2, 2, fun i j => 1 + i + 2 * j⟩, -1, 1⟩ : Fld Int) Ex.T 10 id).get 0 1 = Ex.T.get 0 1 + 2 * 10 ∧
    (insertArr (⟨⟨2, 2, fun i j => 1 + i + 2 * j⟩, -1, 1⟩ : Fld Int) Ex.T 10 id).get 0 2 = Ex.T.get 0 2 + 4 * 10 ∧
    (insertArr (⟨⟨2, 2, fun i j => 1 + i + 2 * j⟩, -1, 1⟩ : Fld Int) Ex.T 10 id).get 1 2 = Ex.T.get 1 2 := by decide

/-- **insert in embedding form**: with `post 0 = 0` (true of `id` and of `|·|²`) the sample `(i, j)` of the target receives
`post (emb f (i − S0/2, j − S1/2)) · w` — the field's embedding on the infinite plane read at the target's own coordinates;
nothing is added where the embedding is zero because the field does not reach there -/
theorem insert_emb_plane (f : Fld K) (out : Arr K) (w : K) (post : K → K) (hpost : post 0 = 0) (i j : Int)
    (hi : 0 ≤ i ∧ i < out.s0) (hj : 0 ≤ j ∧ j < out.s1) :
    (insertArr f out w post).get i j = out.get i j + post (f.emb (i - out.s0 / 2) (j - out.s1 / 2)) * w :=
  insertArr_get_emb f out w post hpost i j hi hj

/-- the complex-field branch (`post = id`): `out' = out + emb f · w` on the target's window of the plane -/
theorem insert_field_plane (f : Fld K) (out : Arr K) (w : K) (i j : Int)
    (hi : 0 ≤ i ∧ i < out.s0) (hj : 0 ≤ j ∧ j < out.s1) :
    (insertArr f out w id).get i j = out.get i j + f.emb (i - out.s0 / 2) (j - out.s1 / 2) * w :=
  insert_emb_plane f out w id rfl i j hi hj

/-- **product → insert in one statement** (what `Plane.multiply` followed by `Wavefront.field`/`intensity` does with one
field): if `a * b` (at most one of them one-element, read as an infinite constant) is not empty, inserting it adds
`post (emb a · emb b) · w` at every sample of the target -/
theorem product_then_insert (a b p : Fld K) (hab : (a.size1 && b.size1) = false)
    (ha : 0 < a.arr.s0 ∧ 0 < a.arr.s1) (hb : 0 < b.arr.s0 ∧ 0 < b.arr.s1) (hp : a.mul b = some p)
    (out : Arr K) (w : K) (post : K → K) (hpost : post 0 = 0) (i j : Int)
    (hi : 0 ≤ i ∧ i < out.s0) (hj : 0 ≤ j ∧ j < out.s1) :
    (insertArr p out w post).get i j =
      out.get i j + post (a.sem (i - out.s0 / 2) (j - out.s1 / 2) * b.sem (i - out.s0 / 2) (j - out.s1 / 2)) * w := by
  rw [insert_emb_plane p out w post hpost i j hi hj, mul_sem_of_some a b p hab ha hb hp]

/-- an empty product inserts nothing, and then the pointwise product of the embeddings is zero on the whole plane -/
theorem empty_product_is_zero (a b : Fld K) (hab : (a.size1 && b.size1) = false)
    (ha : 0 < a.arr.s0 ∧ 0 < a.arr.s1) (hb : 0 < b.arr.s0 ∧ 0 < b.arr.s1) (hp : a.mul b = none) (r c : Int) :
    a.sem r c * b.sem r c = 0 := by
  have hsem := mul_sem a b hab ha hb r c
  rw [hp] at hsem
  exact hsem.symm

/-- non-vacuity: `A * B` (one shared pixel, value 40) inserted with weight 2 into the 3×3 target `T` lands on the centre sample -/
example : (Ex.A.mul Ex.B).map (fun p => ((insertArr p Ex.T 2 id).get 1 1, (insertArr p Ex.T 2 id).get 0 1)) =
    some (Ex.T.get 1 1 + 40 * 2, Ex.T.get 0 1) := by decide

/-- **insertions commute**: accumulating `f` and then `g` into a target gives, sample by sample, what accumulating `g` and
then `f` gives (each with its own weight and `post`) — the composite image does not depend on the order of the fields -/
theorem insert_comm (f g : Fld K) (out : Arr K) (w w' : K) (post post' : K → K) (i j : Int)
    (hi : 0 ≤ i ∧ i < out.s0) (hj : 0 ≤ j ∧ j < out.s1) :
    (insertArr g (insertArr f out w post) w' post').get i j = (insertArr f (insertArr g out w' post') w post).get i j := by
  have s1 := insert_shape f out w post
  have s2 := insert_shape g out w' post'
  rw [insert_emb g _ w' post' i j (by rw [s1.1]; exact hi) (by rw [s1.2]; exact hj),
      insert_emb f out w post i j hi hj,
      insert_emb f _ w post i j (by rw [s2.1]; exact hi) (by rw [s2.2]; exact hj),
      insert_emb g out w' post' i j hi hj, s1.1, s1.2, s2.1, s2.2]
  exact add_right_comm _ _ _

/-- **inserting the same field twice adds up the weights**: `insert(f, insert(f, out, w₁), w₂) = insert(f, out, w₁ + w₂)` -/
theorem insert_weights_add (f : Fld K) (out : Arr K) (w₁ w₂ : K) (post : K → K) (i j : Int)
    (hi : 0 ≤ i ∧ i < out.s0) (hj : 0 ≤ j ∧ j < out.s1) :
    (insertArr f (insertArr f out w₁ post) w₂ post).get i j = (insertArr f out (w₁ + w₂) post).get i j := by
  have s1 := insert_shape f out w₁ post
  rw [insert_emb f _ w₂ post i j (by rw [s1.1]; exact hi) (by rw [s1.2]; exact hj),
      insert_emb f out w₁ post i j hi hj, insert_emb f out (w₁ + w₂) post i j hi hj, s1.1, s1.2]
  by_cases hb : f.extent.inb (i - out.s0 / 2) (j - out.s1 / 2) = true
  · simp only [hb, if_true]; rw [add_assoc, ← mul_add]
  · simp only [hb, Bool.false_eq_true, if_false, add_zero]
/-- non-vacuity on the 3×3 target `T`: `A` then `B` = `B` then `A`; weight 2 then 3 = weight 5 -/
example : (insertArr Ex.B (insertArr Ex.A Ex.T 2 id) 3 id).get 1 1 = (insertArr Ex.A (insertArr Ex.B Ex.T 3 id) 2 id).get 1 1 ∧
    (insertArr Ex.A (insertArr Ex.A Ex.T 2 id) 3 id).get 1 1 = (insertArr Ex.A Ex.T 5 id).get 1 1 := by decide

end insert

end Lentil.C06
