import LentilVerif.Lemmas.Blur
/-! # C19 — pixel, jitter and smear blurs are flux-preserving convolutions on any shape

Property theorems only. Model: `Model/Blur.lean`, instantiated at `K = ℂ`, `R = ℝ`. -/
namespace Lentil.C19
open Lentil Finset

/-- **kernel shape = image shape, any aspect ratio.** The kernels' shapes are the ones regenerated from the source
(`Gen.bw…KernelShape`: rows from the vector placed as a column / `meshgrid`'s second argument, columns from the row vector /
first argument, each of length `img.shape[k]` as written in the code); they equal the image shape `(s0, s1)` for all `s0`, `s1`, so
`fft2(img) * kernel` is shape-compatible on non-square images (swapping the factors of the outer product gives `(s1, s0)` and
this statement fails). Outputs have the image's shape (either branch of the zero-total guard). -/
theorem kernel_shape_eq_image_shape (img : Arr ℝ) (os scale dist ang ps : ℝ) :
    ((pixelKernel img.s0 img.s1 os).s0 = img.s0 ∧ (pixelKernel img.s0 img.s1 os).s1 = img.s1) ∧
    ((jitterKernel img.s0 img.s1 scale ps os).s0 = img.s0 ∧ (jitterKernel img.s0 img.s1 scale ps os).s1 = img.s1) ∧
    ((smearKernel img.s0 img.s1 dist ang ps os).s0 = img.s0 ∧ (smearKernel img.s0 img.s1 dist ang ps os).s1 = img.s1) ∧
    ((pixel ℂ img os).s0 = img.s0 ∧ (pixel ℂ img os).s1 = img.s1) ∧
    ((jitter ℂ img scale ps os).s0 = img.s0 ∧ (jitter ℂ img scale ps os).s1 = img.s1) ∧
    ((smear ℂ img dist ang ps os).s0 = img.s0 ∧ (smear ℂ img dist ang ps os).s1 = img.s1) :=
  ⟨⟨rfl, rfl⟩, ⟨rfl, rfl⟩, ⟨rfl, rfl⟩, by simp [pixel_def], by simp [jitter_def], by simp [smear_def]⟩

/-- every transfer function has unit gain at zero frequency (index `(0,0)`), whatever the extent, angle and sampling -/
theorem kernel_dc_gain_one (s0 s1 : ℤ) (h0 : 1 ≤ s0) (h1 : 1 ≤ s1) (os scale dist ang ps : ℝ) :
    (pixelKernel s0 s1 os).get 0 0 = 1 ∧ (jitterKernel s0 s1 scale ps os).get 0 0 = 1 ∧
    (smearKernel s0 s1 dist ang ps os).get 0 0 = 1 := by
  simp [pixelKernel_get, jitterKernel_get, smearKernel_get, fftfreq_zero, h0, h1]

/-- **the transfer functions are the stated closed forms** (rows ↔ `f_y = fftfreq(s0)[i]`, columns ↔ `f_x = fftfreq(s1)[j]`): the
separable pixel sinc `sinc(f_y·os)·sinc(f_x·os)`, the isotropic Gaussian `exp(−2π²σ²ρ²)` with `σ = scale/pixelscale·os`,
`ρ² = f_x² + f_y²`, and the directional sinc `sinc((sin a·f_y + cos a·f_x)·d)` along `a = angle·π/180`, `d = distance/pixelscale·os`
(`np.sinc x = sin(πx)/(πx)`). The kernels are the definitions regenerated from the source, so a changed constant or axis
breaks this theorem. -/
theorem transfer_functions_closed_form (s0 s1 : ℤ) (os scale dist ang ps : ℝ) (i j : ℤ) :
    (pixelKernel s0 s1 os).get i j
      = Real.sinc (Real.pi * ((fftfreq s0 i : ℝ) * os)) * Real.sinc (Real.pi * ((fftfreq s1 j : ℝ) * os)) ∧
    (jitterKernel s0 s1 scale ps os).get i j
      = Real.exp (-2 * Real.pi ^ 2 * (scale / ps * os) ^ 2 * ((fftfreq s1 j : ℝ) ^ 2 + (fftfreq s0 i : ℝ) ^ 2)) ∧
    (smearKernel s0 s1 dist ang ps os).get i j
      = Real.sinc (Real.pi * ((Real.sin (ang * (Real.pi / 180)) * (fftfreq s0 i : ℝ)
          + Real.cos (ang * (Real.pi / 180)) * (fftfreq s1 j : ℝ)) * (dist / ps * os))) :=
  ⟨pixelKernel_get s0 s1 os i j, jitterKernel_get s0 s1 scale ps os i j, smearKernel_get s0 s1 dist ang ps os i j⟩

/-- **Hermitian symmetry on odd axes.** On an image with an odd number of rows and of columns each of the three (real)
transfer functions is even under negation of the frequency indices modulo the shape, `K[−u, −v] = K[u, v]`, i.e. Hermitian. -/
theorem transfer_functions_hermitian_odd (m n : ℕ) (hm : m % 2 = 1) (hn : n % 2 = 1) (os scale dist ang ps : ℝ) :
    KerEven (pixelKernel m n os) m n ∧ KerEven (jitterKernel m n scale ps os) m n ∧
    KerEven (smearKernel m n dist ang ps os) m n := by
  have hm0 : 0 < m := by omega
  have hn0 : 0 < n := by omega
  -- an odd axis has no Nyquist sample
  exact ⟨pixelKernel_even m n hm0 hn0 os, jitterKernel_even m n hm0 hn0 scale ps os,
    fun u v => smearKernel_even_off_nyquist m n hm0 hn0 dist ang ps os u v (by omega) (by omega)⟩

/-- **pixel and jitter are Hermitian on every shape.** The pixel kernel is even in `f_y` and `f_x` separately and the jitter kernel
depends on `f_x² + f_y²` only, so at the unpaired Nyquist sample of an even axis (where `−u ≡ u` and the frequency keeps its
value) nothing changes: `K[−u, −v] = K[u, v]` for all rows and columns, even or odd. Only the directional sinc of `smear` needs
the Nyquist allowance of the statement. -/
theorem pixel_jitter_hermitian_all_shapes (m n : ℕ) (hm : 0 < m) (hn : 0 < n) (os scale ps : ℝ) :
    KerEven (pixelKernel m n os) m n ∧ KerEven (jitterKernel m n scale ps os) m n :=
  ⟨pixelKernel_even m n hm hn os, jitterKernel_even m n hm hn scale ps os⟩

/-- zero extent (pixel width / jitter sigma / smear distance `0`) makes the transfer function identically one -/
theorem zero_extent_kernel_one (s0 s1 : ℤ) (os ang ps : ℝ) (i j : ℤ) :
    (pixelKernel s0 s1 (0 : ℝ)).get i j = 1 ∧ (jitterKernel s0 s1 0 ps os).get i j = 1 ∧
    (smearKernel s0 s1 0 ang ps os).get i j = 1 := by
  simp [pixelKernel_get, jitterKernel_get, smearKernel_get]

/-- **zero extent is the identity.** For every non-negative image — the all-zero image included — pixel width `0`, jitter
`σ = 0` and smear distance `0` return the image itself at every sample, for every shape, angle, pixel scale and oversampling.
(When the blurred frame has zero total the regenerated guard returns it un-normalised; otherwise its total is the image's,
non-zero, and the rescaling factor is 1.) -/
theorem zero_extent_identity (img : Arr ℝ) (m n : ℕ) (hm : img.s0 = m) (hn : img.s1 = n) (hm0 : 0 < m) (hn0 : 0 < n)
    (hpos : ∀ i j, 0 ≤ img.get i j) (os ang ps : ℝ) (i j : ℕ) (hi : i < m) (hj : j < n) :
    (pixel ℂ img 0).get i j = img.get i j ∧ (jitter ℂ img 0 ps os).get i j = img.get i j ∧
    (smear ℂ img 0 ang ps os).get i j = img.get i j := by
  have hk := fun i j => zero_extent_kernel_one img.s0 img.s1 os ang ps i j
  rw [pixel_def, jitter_def, smear_def]
  exact ⟨blurCore_one img _ (fun i j => (hk i j).1) m n hm hn hpos i j hi hj,
    renormZ_blurCore_one img _ (fun i j => (hk i j).2.1) m n hm hn hpos i j hi hj,
    renormZ_blurCore_one img _ (fun i j => (hk i j).2.2) m n hm hn hpos i j hi hj⟩

/-- the hypotheses are met by a non-square image with signal and by the all-zero image alike -/
example : (∃ img : Arr ℝ, (∀ i j, 0 ≤ img.get i j) ∧ arrSum img ≠ 0 ∧ img.s0 ≠ img.s1) ∧
    (∃ img : Arr ℝ, (∀ i j, 0 ≤ img.get i j) ∧ arrSum img = 0 ∧ img.s0 = 3 ∧ img.s1 = 4) :=
  ⟨⟨⟨1, 2, fun _ _ => 1⟩, fun _ _ => zero_le_one, by rw [arrSum_eq]; norm_num [Finset.sum_range_succ], by decide⟩,
   ⟨⟨3, 4, fun _ _ => 0⟩, fun _ _ => le_refl _, by rw [arrSum_eq]; simp, rfl, rfl⟩⟩

/-- **outputs are never negative**, for every image whose total is non-negative — every non-negative image, the all-zero one
included. A blurred frame with zero total is returned as it is (`|·| ≥ 0`; the guard regenerated from the source), any other is
multiplied by `Σ img / Σ blur` with `Σ img ≥ 0` and `Σ blur > 0`: no division by zero is involved in either case. -/
theorem blur_nonneg (img : Arr ℝ) (os scale dist ang ps : ℝ) (hS : 0 ≤ arrSum img) (i j : ℤ) :
    0 ≤ (pixel ℂ img os).get i j ∧ 0 ≤ (jitter ℂ img scale ps os).get i j ∧ 0 ≤ (smear ℂ img dist ang ps os).get i j := by
  rw [pixel_def, jitter_def, smear_def]
  exact ⟨blurCore_nonneg img _ i j, renormZ_nonneg img _ hS (blurCore_nonneg img _) i j,
    renormZ_nonneg img _ hS (blurCore_nonneg img _) i j⟩

/-- renormalisation restores the input total whenever the un-normalised blur has non-zero total -/
theorem renorm_total (img out : Arr ℝ) (h : arrSum out ≠ 0) : arrSum (renorm img out) = arrSum img :=
  arrSum_renorm img out h

/-- **jitter and smear keep the total of every image** — every shape, extent, angle, pixel scale and oversampling, no condition on
the image (so every non-negative image, the all-zero one included). The un-normalised blur has total `≥ |Σ img|` (unit DC gain:
`Σ ifft2(fft2(img)·K) = K[0,0]·Σ img`, then the triangle inequality). If that total is zero, so is `Σ img`, and the guard
regenerated from the source returns the blurred frame, total `0 = Σ img`; otherwise the rescaling by `Σ img / Σ blur` restores
`Σ img` exactly. -/
theorem renormalised_total_preserved (img : Arr ℝ) (m n : ℕ) (hm : img.s0 = m) (hn : img.s1 = n) (hm0 : 0 < m) (hn0 : 0 < n)
    (scale dist ang ps os : ℝ) :
    arrSum (jitter ℂ img scale ps os) = arrSum img ∧ arrSum (smear ℂ img dist ang ps os) = arrSum img := by
  have hdc := kernel_dc_gain_one img.s0 img.s1 (by omega) (by omega) os scale dist ang ps
  rw [jitter_def, smear_def]
  exact ⟨arrSum_renormZ_blurCore img _ m n hm hn hm0 hn0 hdc.2.1, arrSum_renormZ_blurCore img _ m n hm hn hm0 hn0 hdc.2.2⟩

/-- **commutes with circular translation.** Blurring a circularly shifted image (`np.roll(img, (a, b))`) is the circular
shift of the blurred image, at every sample, for every shape, shift of either sign, extent, angle and sampling (DFT shift
theorem; holds for any real transfer function, renormalisation included). -/
theorem blur_commutes_with_roll (img : Arr ℝ) (m n : ℕ) (hm : img.s0 = m) (hn : img.s1 = n) (hm0 : 0 < m) (hn0 : 0 < n)
    (a b : ℤ) (os scale dist ang ps : ℝ) (i j : ℤ) :
    (pixel ℂ (roll img a b) os).get i j = (roll (pixel ℂ img os) a b).get i j ∧
    (jitter ℂ (roll img a b) scale ps os).get i j = (roll (jitter ℂ img scale ps os) a b).get i j ∧
    (smear ℂ (roll img a b) dist ang ps os).get i j = (roll (smear ℂ img dist ang ps os) a b).get i j := by
  simp only [pixel_def, jitter_def, smear_def, roll_s0, roll_s1]
  rw [renormZ_blurCore_roll img _ m n hm hn, renormZ_blurCore_roll img _ m n hm hn,
    blurCore_roll img _ m n hm hn]
  exact ⟨rfl, rfl, rfl⟩

/-- the shifts `a`, `b` of `blur_commutes_with_roll` range over integers of either sign -/
example : ∃ (a b : ℤ), a < 0 ∧ 0 < b := ⟨-3, 2, by decide, by decide⟩

/-- **equals the convolution (Hermitian kernel; in particular odd × odd images).** With `c = ifft2(fft2(img)·K)` the exact
circular convolution in its Fourier form and `K` Hermitian (`KerEven`, which holds for pixel, jitter and smear on odd axes by
`transfer_functions_hermitian_odd`): `c` is real at every sample and the un-normalised output is `|c|`; if moreover `c ≥ 0`
on the image, the output equals `c` at every sample, and with unit DC gain it keeps the total, so the renormalised output
(jitter, smear) equals `c` too. No realness assumption. (Smear on even axes, where `K` is not Hermitian: `smear_even_axis_deviation`;
the spatial-domain form of `c`: `conv_is_circular_convolution`.) -/
theorem equals_convolution_when_hermitian (img k : Arr ℝ) (m n : ℕ) (hm : img.s0 = m) (hn : img.s1 = n) (hm0 : 0 < m)
    (hn0 : 0 < n) (hk : KerEven k m n) : EqualsConvolution img k m n := by
  have hreal := conv_real img k m n hm hn hk
  have habs : ∀ i j : ℤ, (blurCore ℂ img k).get i j = |((conv img k).get i j).re| := fun i j => by
    rw [blurCore_get, hreal i j, Complex.norm_real, Real.norm_eq_abs, Complex.ofReal_re]
  refine ⟨hreal, habs, fun hpos => ?_⟩
  have hget : ∀ i j : ℕ, i < m → j < n → (blurCore ℂ img k).get i j = ((conv img k).get i j).re :=
    fun i j hi hj => by rw [habs, abs_of_nonneg (hpos i j hi hj)]
  refine ⟨hget, fun hk0 => ?_⟩
  have hsum : arrSum (blurCore ℂ img k) = arrSum img := by
    have hs := sum_conv img k m n hm hn hm0 hn0
    rw [hk0, one_mul] at hs
    rw [← Complex.ofReal_inj, ← hs, arrSum_blurCore img k m n hm hn]
    push_cast
    exact sum_congr rfl fun i hi => sum_congr rfl fun j hj => by
      rw [← blurCore_get, hget i j (mem_range.mp hi) (mem_range.mp hj), ← hreal]
  exact ⟨hsum, fun hS i j hi hj => by rw [renorm_get, hsum, hget i j hi hj, mul_div_assoc, div_self hS, mul_one]⟩

/-- **odd × odd images: all three blurs equal the convolution**, unconditionally in the realness: the pixel, jitter and smear
outputs are `|c|` with `c` the (real) exact circular convolution, equal to `c` wherever it is non-negative, total kept. -/
theorem blurs_equal_convolution_odd (img : Arr ℝ) (m n : ℕ) (hm : img.s0 = m) (hn : img.s1 = n) (hmo : m % 2 = 1)
    (hno : n % 2 = 1) (os scale dist ang ps : ℝ) :
    EqualsConvolution img (pixelKernel img.s0 img.s1 os) m n ∧
    EqualsConvolution img (jitterKernel img.s0 img.s1 scale ps os) m n ∧
    EqualsConvolution img (smearKernel img.s0 img.s1 dist ang ps os) m n := by
  have hm0 : 0 < m := by omega
  have hn0 : 0 < n := by omega
  have h := transfer_functions_hermitian_odd m n hmo hno os scale dist ang ps
  rw [hm, hn]
  exact ⟨equals_convolution_when_hermitian img _ m n hm hn hm0 hn0 h.1,
    equals_convolution_when_hermitian img _ m n hm hn hm0 hn0 h.2.1,
    equals_convolution_when_hermitian img _ m n hm hn hm0 hn0 h.2.2⟩

/-- `hmo`, `hno` of `blurs_equal_convolution_odd` are met by a non-square shape -/
example : ∃ m n : ℕ, m % 2 = 1 ∧ n % 2 = 1 ∧ m ≠ n := ⟨3, 5, rfl, rfl, by decide⟩

/-- **pixel and jitter equal the convolution on every shape**, even axes included, with no realness assumption: the output is
`|c|` with `c` the real exact circular convolution, equals `c` wherever `c ≥ 0`, keeps the total (unit DC gain), and the
renormalised jitter output equals `c` too. -/
theorem pixel_jitter_equal_convolution_all_shapes (img : Arr ℝ) (m n : ℕ) (hm : img.s0 = m) (hn : img.s1 = n) (hm0 : 0 < m)
    (hn0 : 0 < n) (os scale ps : ℝ) :
    EqualsConvolution img (pixelKernel img.s0 img.s1 os) m n ∧
    EqualsConvolution img (jitterKernel img.s0 img.s1 scale ps os) m n := by
  have h := pixel_jitter_hermitian_all_shapes m n hm0 hn0 os scale ps
  rw [hm, hn]
  exact ⟨equals_convolution_when_hermitian img _ m n hm hn hm0 hn0 h.1,
    equals_convolution_when_hermitian img _ m n hm hn hm0 hn0 h.2⟩

/-- a non-square shape with both axes even: what `pixel_jitter_equal_convolution_all_shapes` covers beyond `blurs_equal_convolution_odd` -/
example : ∃ m n : ℕ, m % 2 = 0 ∧ n % 2 = 0 ∧ 0 < m ∧ m ≠ n := ⟨4, 6, rfl, rfl, by decide, by decide⟩

/-- **the functions themselves return a non-negative convolution unchanged.** Stated about `pixel`, `jitter`, `smear` as the sources
compose them — renormalisation and zero-total guard included — not about the un-normalised core: whenever the exact circular
convolution `c = conv img K` with the function's transfer function is non-negative on the image, the output *is* `c` at every
sample; pixel and jitter on every shape, smear on odd × odd shapes (`m % 2 = 1`, `n % 2 = 1`). Every image is covered, the all-zero one included
(there `c = 0` and the guard returns the zero frame). Totals: `renormalised_total_preserved`. -/
theorem blurs_return_nonneg_convolution (img : Arr ℝ) (m n : ℕ) (hm : img.s0 = m) (hn : img.s1 = n) (hm0 : 0 < m) (hn0 : 0 < n)
    (os scale dist ang ps : ℝ) :
    ((∀ i j : ℕ, i < m → j < n → 0 ≤ ((conv img (pixelKernel img.s0 img.s1 os)).get i j).re) →
      ∀ i j : ℕ, i < m → j < n → (pixel ℂ img os).get i j = ((conv img (pixelKernel img.s0 img.s1 os)).get i j).re) ∧
    ((∀ i j : ℕ, i < m → j < n → 0 ≤ ((conv img (jitterKernel img.s0 img.s1 scale ps os)).get i j).re) →
      ∀ i j : ℕ, i < m → j < n →
        (jitter ℂ img scale ps os).get i j = ((conv img (jitterKernel img.s0 img.s1 scale ps os)).get i j).re) ∧
    (m % 2 = 1 → n % 2 = 1 →
      (∀ i j : ℕ, i < m → j < n → 0 ≤ ((conv img (smearKernel img.s0 img.s1 dist ang ps os)).get i j).re) →
      ∀ i j : ℕ, i < m → j < n →
        (smear ℂ img dist ang ps os).get i j = ((conv img (smearKernel img.s0 img.s1 dist ang ps os)).get i j).re) := by
  have hdc := kernel_dc_gain_one img.s0 img.s1 (by omega) (by omega) os scale dist ang ps
  have key : ∀ k : Arr ℝ, EqualsConvolution img k m n → k.get 0 0 = 1 →
      (∀ i j : ℕ, i < m → j < n → 0 ≤ ((conv img k).get i j).re) →
      ∀ i j : ℕ, i < m → j < n → (renormZ img (blurCore ℂ img k)).get i j = ((conv img k).get i j).re := by
    intro k hE hk hnn i j hi hj
    rw [renormZ_get_of_sum_eq _ _ (hE.total_of_nonneg hnn hk), hE.eq_of_nonneg hnn i j hi hj]
  have hpj := pixel_jitter_equal_convolution_all_shapes img m n hm hn hm0 hn0 os scale ps
  refine ⟨fun hnn i j hi hj => ?_, fun hnn i j hi hj => ?_, fun hmo hno hnn i j hi hj => ?_⟩
  · rw [pixel_def]; exact hpj.1.eq_of_nonneg hnn i j hi hj
  · rw [jitter_def]; exact key _ hpj.2 hdc.2.1 hnn i j hi hj
  · rw [smear_def]
    exact key _ (blurs_equal_convolution_odd img m n hm hn hmo hno os scale dist ang ps).2.2 hdc.2.2 hnn i j hi hj

/-- the hypothesis is satisfiable on an image with signal (1 × 1, where the convolution is the image itself) -/
example : ∃ img : Arr ℝ, img.s0 = 1 ∧ img.s1 = 1 ∧ 0 < arrSum img ∧
    ∀ i j : ℕ, i < 1 → j < 1 → 0 ≤ ((conv img (jitterKernel img.s0 img.s1 (0.7 : ℝ) 1 2)).get i j).re := by
  refine ⟨⟨1, 1, fun _ _ => 1⟩, rfl, rfl, by rw [arrSum_eq]; simp, fun i j hi hj => ?_⟩
  obtain rfl : i = 0 := by omega
  obtain rfl : j = 0 := by omega
  have hk := (kernel_dc_gain_one 1 1 le_rfl le_rfl (2 : ℝ) 0.7 0 0 1).2.1
  rw [conv_get _ _ 1 1 rfl rfl]
  simp [dsum, E_zero, hk]

/-- **convolution theorem: the Fourier form is the spatial circular convolution.** `conv img K = ifft2(fft2(img)·K)` — the object
the "equals the convolution" theorems speak about — is `Σ_a Σ_b img[a,b]·h[(i−a) mod m, (j−b) mod n]` with the point-spread
function `h = ifft2(K)`, for every shape and every real transfer function (`np.fft.fft2/ifft2` as the plain DFT pair). -/
theorem conv_is_circular_convolution (img k : Arr ℝ) (m n : ℕ) (hm : img.s0 = m) (hn : img.s1 = n) (hkm : k.s0 = m) (hkn : k.s1 = n)
    (hm0 : 0 < m) (hn0 : 0 < n) (i j : ℤ) :
    (conv img k).get i j = ∑ a ∈ range m, ∑ b ∈ range n, (img.get a b : ℂ) *
      (ifft2 (R := ℝ) (toCx (K := ℂ) k)).get ((i - a) % m) ((j - b) % n) := by
  -- a sample of the point-spread function at a shifted index is the inverse transform of the modulated transfer function
  simp only [conv_get img k m n hm hn, ifft2_get (toCx (K := ℂ) k) m n hkm hkn, ← dsum_mod]
  simp only [toCx, CxLike.ofReal, dsum, div_eq_mul_inv, mul_sum, sum_mul]
  rw [sum4_comm]
  refine sum_congr rfl fun a _ => sum_congr rfl fun b _ => sum_congr rfl fun u _ => sum_congr rfl fun v _ => ?_
  rw [neg_neg]; ring

/-- **smear on even axes: the deviation is bounded by the unpaired Nyquist samples.** Split the directional sinc into its
Hermitian (even) part `K_H` and its odd part `K_N` under negation of the frequency indices. Then at every sample the
un-normalised smear output differs from `|c_H|` — `c_H = conv img K_H` is real — by at most `(1/(mn))·Σ|fft2(img)|·|K_N|`, and
`K_N` vanishes off the Nyquist row (`2u = m`) and Nyquist column (`2v = n`): on odd × odd images it is zero and the bound is 0;
on even axes it is exactly the contribution of the unpaired Nyquist row/column the statement allows. -/
theorem smear_even_axis_deviation (img : Arr ℝ) (m n : ℕ) (hm : img.s0 = m) (hn : img.s1 = n) (hm0 : 0 < m) (hn0 : 0 < n)
    (dist ang ps os : ℝ) (i j : ℤ) :
    (conv img (evenPart (smearKernel m n dist ang ps os) m n)).get i j
      = (((conv img (evenPart (smearKernel m n dist ang ps os) m n)).get i j).re : ℂ) ∧
    abs ((blurCore ℂ img (smearKernel m n dist ang ps os)).get i j
        - abs ((conv img (evenPart (smearKernel m n dist ang ps os) m n)).get i j).re)
      ≤ (∑ v ∈ range n, ∑ u ∈ range m, ‖(fft2 (R := ℝ) (toCx (K := ℂ) img)).get u v‖
          * |(oddPart (smearKernel m n dist ang ps os) m n).get u v|) / ((m : ℝ) * n) ∧
    (∀ u v : ℤ, 2 * (u % (m : ℤ)) ≠ m → 2 * (v % (n : ℤ)) ≠ n → (oddPart (smearKernel m n dist ang ps os) m n).get u v = 0) := by
  have h := blur_deviation_le img (smearKernel m n dist ang ps os) m n hm hn i j
  exact ⟨h.1, h.2, fun u v hu hv => by
    simp only [oddPart, smearKernel_even_off_nyquist m n hm0 hn0 dist ang ps os u v hu hv, sub_self, zero_div]⟩

/-- **the bound survives the renormalisation.** For an image with positive total the renormalised smear output `blur·Σimg/Σblur`
differs from the equally renormalised `|c_H|` by at most the same Nyquist-line bound: the factor `Σimg/Σblur` lies in `[0, 1]`
(`Σblur ≥ Σimg` by unit DC gain and the triangle inequality). -/
theorem smear_renormalised_deviation (img : Arr ℝ) (m n : ℕ) (hm : img.s0 = m) (hn : img.s1 = n) (hm0 : 0 < m) (hn0 : 0 < n)
    (hS : 0 < arrSum img) (dist ang ps os : ℝ) (i j : ℤ) :
    abs ((smear ℂ img dist ang ps os).get i j
        - abs ((conv img (evenPart (smearKernel m n dist ang ps os) m n)).get i j).re
          * (arrSum img / arrSum (blurCore ℂ img (smearKernel m n dist ang ps os))))
      ≤ (∑ v ∈ range n, ∑ u ∈ range m, ‖(fft2 (R := ℝ) (toCx (K := ℂ) img)).get u v‖
          * |(oddPart (smearKernel m n dist ang ps os) m n).get u v|) / ((m : ℝ) * n) := by
  have hT := blurCore_total_ge img (smearKernel m n dist ang ps os) m n hm hn hm0 hn0
  rw [(kernel_dc_gain_one m n (by omega) (by omega) os 0 dist ang ps).2.2, one_mul, abs_of_pos hS] at hT
  have hTpos := lt_of_lt_of_le hS hT
  rw [smear_def, hm, hn, renormZ, if_neg hTpos.ne', renorm_get, mul_div_assoc, ← sub_mul, abs_mul,
    abs_of_nonneg (div_nonneg hS.le hTpos.le)]
  exact (mul_le_of_le_one_right (abs_nonneg _) ((div_le_one hTpos).mpr hT)).trans
    (smear_even_axis_deviation img m n hm hn hm0 hn0 dist ang ps os i j).2.1

/-- **the even-axis deviation is at most the image's content on the Nyquist row and column.** At every sample the smear output —
un-normalised, and renormalised for an image of positive total — differs from (the equally renormalised) `|c_H|` by at most
`(1/(mn))·Σ_{2u = m or 2v = n} |fft2(img)[u, v]|`: only the image's own spectrum on the unpaired lines enters, whatever the smear
distance and angle. -/
theorem smear_deviation_le_nyquist_lines (img : Arr ℝ) (m n : ℕ) (hm : img.s0 = m) (hn : img.s1 = n) (hm0 : 0 < m) (hn0 : 0 < n)
    (dist ang ps os : ℝ) (i j : ℤ) :
    abs ((blurCore ℂ img (smearKernel m n dist ang ps os)).get i j
        - abs ((conv img (evenPart (smearKernel m n dist ang ps os) m n)).get i j).re)
      ≤ (∑ v ∈ range n, ∑ u ∈ range m,
          if 2 * u = m ∨ 2 * v = n then ‖(fft2 (R := ℝ) (toCx (K := ℂ) img)).get u v‖ else 0) / ((m : ℝ) * n) ∧
    (0 < arrSum img →
      abs ((smear ℂ img dist ang ps os).get i j
          - abs ((conv img (evenPart (smearKernel m n dist ang ps os) m n)).get i j).re
            * (arrSum img / arrSum (blurCore ℂ img (smearKernel m n dist ang ps os))))
        ≤ (∑ v ∈ range n, ∑ u ∈ range m,
            if 2 * u = m ∨ 2 * v = n then ‖(fft2 (R := ℝ) (toCx (K := ℂ) img)).get u v‖ else 0) / ((m : ℝ) * n)) := by
  have hdev := smear_even_axis_deviation img m n hm hn hm0 hn0 dist ang ps os i j
  -- both follow once the bound of `smear_even_axis_deviation` is below the Nyquist-line bound
  suffices h : (_ : ℝ) ≤ _ from
    ⟨hdev.2.1.trans h, fun hS => (smear_renormalised_deviation img m n hm hn hm0 hn0 hS dist ang ps os i j).trans h⟩
  refine div_le_div_of_nonneg_right (sum_le_sum fun v hv => sum_le_sum fun u hu => ?_) (by positivity)
  split_ifs with hny
  · -- `|sinc| ≤ 1` twice, halved
    refine mul_le_of_le_one_right (norm_nonneg _) ?_
    simp only [oddPart, smearKernel_get]
    rw [abs_div, abs_two, div_le_iff₀ two_pos]
    exact (abs_sub _ _).trans ((add_le_add (Real.abs_sinc_le_one _) (Real.abs_sinc_le_one _)).trans (by norm_num))
  · rw [hdev.2.2 u v (by rw [emod_range_nat m u hu]; omega) (by rw [emod_range_nat n v hv]; omega), abs_zero, mul_zero]

/-- **a Nyquist-free image is smeared exactly.** If the image spectrum vanishes on the Nyquist row (`2u = m`, present when `m` is
even) and the Nyquist column (`2v = n`), then on every shape — even axes included — the un-normalised smear output equals
`|c_H|`, the modulus of the real circular convolution with the Hermitian part of the directional sinc, at every sample; and for
an image of positive total the renormalised output equals the equally renormalised `|c_H|`. (Odd × odd images satisfy the
hypothesis vacuously: `blurs_equal_convolution_odd`.) -/
theorem smear_exact_when_nyquist_free (img : Arr ℝ) (m n : ℕ) (hm : img.s0 = m) (hn : img.s1 = n) (hm0 : 0 < m) (hn0 : 0 < n)
    (dist ang ps os : ℝ)
    (hfree : ∀ u v : ℕ, u < m → v < n → (2 * u = m ∨ 2 * v = n) → (fft2 (R := ℝ) (toCx (K := ℂ) img)).get u v = 0) (i j : ℤ) :
    (blurCore ℂ img (smearKernel m n dist ang ps os)).get i j
      = abs ((conv img (evenPart (smearKernel m n dist ang ps os) m n)).get i j).re ∧
    (0 < arrSum img →
      (smear ℂ img dist ang ps os).get i j
        = abs ((conv img (evenPart (smearKernel m n dist ang ps os) m n)).get i j).re
          * (arrSum img / arrSum (blurCore ℂ img (smearKernel m n dist ang ps os)))) := by
  have h := smear_deviation_le_nyquist_lines img m n hm hn hm0 hn0 dist ang ps os i j
  have hz : (∑ v ∈ range n, ∑ u ∈ range m,
      if 2 * u = m ∨ 2 * v = n then ‖(fft2 (R := ℝ) (toCx (K := ℂ) img)).get u v‖ else 0) = 0 := by
    refine sum_eq_zero fun v hv => sum_eq_zero fun u hu => ?_
    split_ifs with hny
    · rw [hfree u v (mem_range.mp hu) (mem_range.mp hv) hny, norm_zero]
    · rfl
  rw [hz, zero_div] at h
  exact ⟨sub_eq_zero.mp (abs_nonpos_iff.mp h.1), fun hS => sub_eq_zero.mp (abs_nonpos_iff.mp (h.2 hS))⟩

/-- non-vacuity on an even axis: the constant 2 × 1 image has no content on its Nyquist row -/
example : ∃ img : Arr ℝ, img.s0 = 2 ∧ img.s1 = 1 ∧ 0 < arrSum img ∧
    ∀ u v : ℕ, u < 2 → v < 1 → (2 * u = 2 ∨ 2 * v = 1) → (fft2 (R := ℝ) (toCx (K := ℂ) img)).get u v = 0 := by
  refine ⟨⟨2, 1, fun _ _ => 1⟩, rfl, rfl, by rw [arrSum_eq]; simp, fun u v hu hv h => ?_⟩
  obtain rfl : u = 1 := by omega
  obtain rfl : v = 0 := by omega
  rw [spectrum_get _ 2 1 rfl rfl]
  simp only [dsum, sum_range_succ, sum_range_zero]
  have h1 : E 2 1 = -1 := by
    unfold E
    have : -(2 * (Real.pi : ℂ) * Complex.I) * ((1 : ℤ) : ℂ) / ((2 : ℕ) : ℂ) = -(Real.pi * Complex.I) := by push_cast; ring
    rw [this, Complex.exp_neg, Complex.exp_pi_mul_I]; norm_num
  norm_num [E_zero, h1]

/-- **`smear(angle=None)` is the smear along the drawn direction.** The `angle is None` branch (regenerated from the source) uses the
draw `uniform(0, 2π) = 2π·u` of the global generator *as radians*; it is exactly `smear` with the given angle `360·u` degrees — so
the random direction covers the full turn and no degree/radian conversion is applied twice or missed. -/
theorem smear_none_is_smear_at_drawn_angle (img : Arr ℝ) (dist ps os u : ℝ) :
    smearNone ℂ img dist ps os u = smear ℂ img dist (360 * u) ps os := by
  have hk : smearKernelNone (R := ℝ) img.s0 img.s1 dist ps os u = smearKernel img.s0 img.s1 dist (360 * u) ps os := by
    refine Arr.ext_get rfl rfl fun i j => ?_
    simp only [smearKernelNone, smearKernel, Gen.bwSmearKernelNone, Gen.bwSmearKernel, RealLike.ofInt, BlurLike.pi]
    have e : ((0 : ℤ) : ℝ) + (((2 : ℤ) : ℝ) * Real.pi - ((0 : ℤ) : ℝ)) * u = 360 * u * (Real.pi / ((180 : ℤ) : ℝ)) := by
      push_cast; ring
    rw [e]
  unfold smearNone smear
  rw [hk]

/-- **`smear(angle=None)` has the properties of `smear`.** Whatever direction the global generator draws (`u ∈ ℝ`, in particular every
`u ∈ [0, 1)`): the output is non-negative for every image of non-negative total, keeps the total of every image, and commutes
with circular translation — `smear_none_is_smear_at_drawn_angle` composed with `blur_nonneg`, `renormalised_total_preserved`,
`blur_commutes_with_roll`. -/
theorem smear_none_nonneg_total_roll (img : Arr ℝ) (m n : ℕ) (hm : img.s0 = m) (hn : img.s1 = n) (hm0 : 0 < m) (hn0 : 0 < n)
    (dist ps os u : ℝ) (a b i j : ℤ) :
    (0 ≤ arrSum img → 0 ≤ (smearNone ℂ img dist ps os u).get i j) ∧
    arrSum (smearNone ℂ img dist ps os u) = arrSum img ∧
    (smearNone ℂ (roll img a b) dist ps os u).get i j = (roll (smearNone ℂ img dist ps os u) a b).get i j := by
  rw [smear_none_is_smear_at_drawn_angle, smear_none_is_smear_at_drawn_angle]
  exact ⟨fun hS => (blur_nonneg img os 0 dist (360 * u) ps hS i j).2.2,
    (renormalised_total_preserved img m n hm hn hm0 hn0 0 dist (360 * u) ps os).2,
    (blur_commutes_with_roll img m n hm hn hm0 hn0 a b os 0 dist (360 * u) ps i j).2.2⟩

/-- **`pixelate` = `pixel` then `rescale` by `1/oversample`**: the wiring regenerated from `detector.pixelate` gives the output
shape `(⌈s0/os⌉, ⌈s1/os⌉)` and calls the rescale with spline order 3, mode `nearest`, `unitary=True` (the interpolation itself —
`scipy.ndimage.map_coordinates` — is not modelled; total and values are evaluated by the oracle). -/
theorem pixelate_wiring (s0 s1 : ℤ) (os : ℝ) :
    pixelateShape (R := ℝ) Int.ceil s0 s1 os = (Int.ceil ((s0 : ℝ) / os), Int.ceil ((s1 : ℝ) / os)) ∧
    Gen.bwPixelateOrder = 3 ∧ Gen.bwPixelateModeNearest = true ∧ Gen.bwPixelateUnitary = true := by
  refine ⟨?_, rfl, rfl, rfl⟩
  simp only [pixelateShape, Gen.bwPixelateScale, RealLike.ofInt, Int.cast_one, mul_one_div]

/-- **the blur does not depend on the size of the physical unit.** Expressing the extent and the pixel scale in any other unit
(both multiplied by `k ≠ 0`: metres, nanometres, radians, milli-arcseconds) gives exactly the same output — in particular a
multi-pixel jitter given in nano-scale units is not "close to zero". -/
theorem blur_unit_invariant (img : Arr ℝ) (extent ang ps os k : ℝ) (hk : k ≠ 0) :
    jitter ℂ img (k * extent) (k * ps) os = jitter ℂ img extent ps os ∧
    smear ℂ img (k * extent) ang (k * ps) os = smear ℂ img extent ang ps os := by
  have h : k * extent / (k * ps) * os = extent / ps * os := by rw [mul_div_mul_left _ _ hk]
  rw [jitter_def, jitter_def, smear_def, smear_def, jitterKernel_congr _ _ h, smearKernel_congr _ _ _ h]
  exact ⟨rfl, rfl⟩

/-- only `extent / pixelscale · oversample` enters: an extent in physical units with a pixel scale and an oversampling
factor is the same blur as that extent expressed in samples -/
theorem physical_units_equivalent (img : Arr ℝ) (extent ang ps os : ℝ) :
    jitter ℂ img extent ps os = jitter ℂ img (extent / ps * os) 1 1 ∧
    smear ℂ img extent ang ps os = smear ℂ img (extent / ps * os) ang 1 1 := by
  have h : extent / ps * os = extent / ps * os / 1 * 1 := by rw [div_one, mul_one]
  rw [jitter_def, jitter_def, smear_def, smear_def, jitterKernel_congr _ _ h, smearKernel_congr _ _ _ h]
  exact ⟨rfl, rfl⟩

/-- **"the same extent expressed in samples" is the call that omits `pixelscale` and `oversample`.** With the default arguments as
regenerated from the signatures of `jitter` / `smear` (`Gen.bwJitterDefaultPixelscale`, `…DefaultOversample`, …): a blur whose extent
is given in physical units with a pixel scale and an oversampling factor equals the call that passes `extent / pixelscale · oversample`
and nothing else; and `pixel(img)` is `pixel(img, 1)`. A changed default (say `oversample=2`) makes this false and the proof stops. -/
theorem samples_call_is_default_call (img : Arr ℝ) (extent ang ps os : ℝ) :
    jitter ℂ img extent ps os = jitterDefault ℂ img (extent / ps * os) ∧
    smear ℂ img extent ang ps os = smearDefault ℂ img (extent / ps * os) ang ∧
    pixelDefault ℂ img = pixel ℂ img 1 := by
  obtain ⟨hj, hs⟩ := physical_units_equivalent img extent ang ps os
  refine ⟨?_, ?_, ?_⟩
  · rw [hj]; simp [jitterDefault, Gen.bwJitterDefaultPixelscale, Gen.bwJitterDefaultOversample, RealLike.ofInt]
  · rw [hs]; simp [smearDefault, Gen.bwSmearDefaultPixelscale, Gen.bwSmearDefaultOversample, RealLike.ofInt]
  · simp [pixelDefault, Gen.bwPixelDefaultOversample, RealLike.ofInt]

end Lentil.C19
