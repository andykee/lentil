import LentilVerif.Lemmas.Zernike
import LentilVerif.Lemmas.ZernikeOrtho
import LentilVerif.Lemmas.ZernikeBound
/-! # C11 — Zernike modes are the Noll-ordered orthonormal polynomials

Property theorems only. Model: `Model/Zernike.lean` (hand-written, tied to `lentil/zernike.py` by the correspondence harness
tools/harness/c11.py for every j ≤ 861, every valid (n, m) with n ≤ 40, mode values on dyadic nodes and random masks).

`|Z_j| ≤ 1` without normalisation rests on one kernel-checked certificate (`cosCert_radial_40`) and is therefore proved for n ≤ 40, not for
all n (stated here for n ≤ 20, in `Props/C11Thorough.lean` for n ≤ 40). The coefficient identities, `R(1) = 1`, radial orthogonality and with
it orthonormality are proved for every order (`radialCoeff_textbook`, `radialEval_one`, `gramQ_eq`, `zReal_orthonormal`); the bounds
n ≤ 20 / n ≤ 40 in the statements below are those of the implementation's float range, not of the proofs. -/
namespace Lentil.C11
open Lentil Finset

/-! ## Noll index ↔ (n, m) -/

/-- every Noll index j ≥ 1 names a valid mode: |m| ≤ n, n − |m| even, the sign of m follows the parity of j (even j: m ≥ 0,
the cosine mode; odd j: m ≤ 0, the sine mode), and j sits at position p of row n: `j = n(n+1)/2 + p + 1` -/
theorem noll_valid (j : Nat) (hj : 1 ≤ j) :
    (nollM j).natAbs ≤ nollN j ∧ (nollN j - (nollM j).natAbs) % 2 = 0 ∧
    (j % 2 = 0 → 0 ≤ nollM j) ∧ (j % 2 = 1 → nollM j ≤ 0) ∧
    (nollRow j).2 ≤ nollN j ∧ j = tri (nollN j) + (nollRow j).2 + 1 := by
  obtain ⟨v1, v2⟩ := nollM_valid j hj
  obtain ⟨hp, e⟩ := nollRow_spec j hj
  exact ⟨v1, v2, (nollM_spec j).2.1, (nollM_spec j).2.2, hp, e⟩

/-- **Noll's ordering is a bijection** between the indices j ≥ 1 and the valid pairs (n, m) (|m| ≤ n, n − |m| even):
`nollInv` is a two-sided inverse -/
theorem noll_bijective :
    (∀ j, 1 ≤ j → nollInv (nollN j) (nollM j) = j) ∧
    (∀ (n : Nat) (m : Int), m.natAbs ≤ n → (n - m.natAbs) % 2 = 0 →
      1 ≤ nollInv n m ∧ nollN (nollInv n m) = n ∧ nollM (nollInv n m) = m) :=
  ⟨nollInv_noll, noll_nollInv⟩

example : nollN 11 = 4 ∧ nollM 11 = 0 ∧ nollN 8 = 3 ∧ nollM 8 = 1 ∧ nollM 7 = -1 ∧ nollInv 3 (-1) = 7 := by decide

/-- the code of `zernike_index` as written (row list `[0]` / `[1, 1]` extended by appending `last + 2` twice ⌊n/2⌋ times, indexed
by the negative `r = j − (n+1)(n+2)/2 − 1`, sign from the parity of j) returns the closed-form `(m, n)` for **every** j ≥ 1 (given
the row n, which the code finds by a float `sqrt`/`ceil`; the real function is compared for every j ≤ 861 by the correspondence) -/
theorem code_index_matches (j : Nat) (h1 : 1 ≤ j) : codeIndex j = (nollM j, nollN j) := by
  obtain ⟨hp, e⟩ := nollRow_spec j h1
  unfold codeIndex nollM nollN
  simp only [Gen.idxR, Gen.idxK, Gen.idxSign, rowMList_eq, List.length_map, List.length_range]
  generalize (nollRow j).1 = n at *
  generalize (nollRow j).2 = p at *
  by_cases n0 : n = 0
  · subst n0
    have p0 : p = 0 := by omega
    subst p0
    simp [absM]
  · rw [if_neg n0]
    have ht : (n + 1) * (n + 2) / 2 = tri n + (n + 1) := by rw [← tri_succ]; rfl
    simp only [ht]
    -- `r < 0`: the code indexes `row_m` from its end, which is position `p`
    have hr : ((j : Int) - ((tri n + (n + 1) : Nat) : Int) - 1) < 0 := by omega
    rw [if_pos hr]
    have hidx : (((n + 1 : Nat) : Int) + ((j : Int) - ((tri n + (n + 1) : Nat) : Int) - 1)).toNat = p := by omega
    rw [hidx, List.getD_eq_getElem?_getD, List.getElem?_map, List.getElem?_range (by omega)]
    refine Prod.ext ?_ rfl
    simp only [Option.map_some, Option.getD_some]
    by_cases hj2 : j % 2 = 0
    · rw [if_neg (by omega), if_pos hj2]; omega
    · rw [if_pos (by omega), if_neg hj2]; omega

/-- **tie to the source of `zernike_index` and `zernike_coordinates`**: the pieces `codeIndex` and `zShift` are built from are re-translated
on every run — `k = (n+1)(n+2)/2`, `r = j − k − 1`, the sign rule, the row seeds `[1, 1]` / `[0]`, ⌊n/2⌋ passes appending `last + 2` twice,
the centre index `shape // 2` and the default shift `centroid − centre` -/
theorem index_and_origin_tie (j n a : Nat) (c : ℚ) (N : Int) :
    (Gen.rowStep a = [a + 2, a + 2] ∧ Gen.rowSeed n = (if n % 2 = 1 then [1, 1] else [0]) ∧ Gen.rowLoops n = n / 2 ∧
      Gen.idxR j n = (j : Int) - ((n + 1) * (n + 2) / 2 : Nat) - 1 ∧ Gen.idxSign j = (if j % 2 = 1 then -1 else 1)) ∧
    Gen.zCenter N = N / 2 ∧ Gen.zShiftAxis c N = c - ((N / 2 : Int) : ℚ) :=
  ⟨⟨rfl, rfl, rfl, rfl, rfl⟩, rfl, rfl⟩

/-- the row search of `zernike_index`, `n = int(np.ceil(<Gen.rowSearchArg>) − 1)` with the REGENERATED argument `(−1 + √(1 + 8j))/2`, evaluated
in exact real arithmetic, is the Noll row -/
theorem row_search_real (j : ℕ) (hj : 1 ≤ j) :
    ⌈Gen.rowSearchArg Real.sqrt (j : ℝ)⌉ - 1 = (nollN j : ℤ) := by
  obtain ⟨hp, e⟩ := nollRow_spec j hj
  have h := ceil_rowSearch (nollN j) j (by unfold nollN; omega) (by rw [tri_succ]; unfold nollN; omega)
  simp only [Gen.rowSearchArg, Nat.cast_one, Nat.cast_ofNat]
  rw [h, add_sub_cancel_right]

/-! ## radial polynomials -/

/-- **tie to the source of `R`** (all `Gen.*` below are re-translated from `lentil/zernike.py` on every run): the parity guard, the
number of terms and the exponents are the ones the model's `radialEval` uses, and the coefficient the code forms as a floating-point
quotient is an exact integer — `Gen.radialDen` divides `Gen.radialNum` — for every valid (n, m) with n ≤ 40, so `radialCoeff` (their Int
quotient) is its true value. A change to the formula in the source changes these definitions and breaks the coefficient
identity `radialDen_mul_choose` (Lemmas/ZernikeRadial.lean), hence this theorem, `radial_at_one`, `radial_gram` and everything built on them. -/
theorem radial_formula_tie (n m k : Nat) :
    (Gen.radialOdd n m = true ↔ (n - m) % 2 = 1) ∧ Gen.radialCount n m = (n - m) / 2 + 1 ∧ Gen.radialExp n m k = n - 2 * k ∧
    radialCoeff n m k = Gen.radialNum n m k / (Gen.radialDen n m k : Int) ∧
    (n ≤ 40 → m ≤ n → (n - m) % 2 = 0 → k ≤ (n - m) / 2 →
      (Gen.radialDen n m k : Int) ∣ Gen.radialNum n m k ∧ Gen.radialDen n m k ≠ 0) := by
  exact ⟨by simp [Gen.radialOdd], rfl, rfl, rfl, fun _ hm hp hk =>
    ⟨radialDen_dvd_radialNum n m k hm hp hk, radialDen_ne_zero n m k⟩⟩

/-- **tie to the source of `zernike`**: the model's mode is the re-translated decision tree and leaf products (`Gen.zernCore`) applied to
the Noll orders and the radial polynomial; in particular the piston mode is the mask itself, and the normalised m = 0, m > 0, m < 0
leaves are `√(n+1)·R·mask`, `√2·√(n+1)·R·cos(mθ)·mask`, `√2·√(n+1)·R·sin(mθ)·mask` -/
theorem mode_formula_tie {K : Type} [Field K] (sqrtN : Nat → K) (cos sin : K → K) (j : Nat) (normalize : Bool) (rho theta : K) (mask : Bool) :
    zernAt sqrtN cos sin j normalize rho theta mask
      = Gen.zernCore sqrtN cos sin (nollN j) (nollM j) normalize (radialEval (nollN j) (nollM j).natAbs rho) theta mask ∧
    (∀ (n : Nat) (Rv : K), Gen.zernCore sqrtN cos sin n 0 true Rv theta true = if n = 0 then 1 else sqrtN (n + 1) * Rv) ∧
    (∀ (n : Nat) (m : Int) (Rv : K), 0 < m → Gen.zernCore sqrtN cos sin n m true Rv theta true = sqrtN 2 * sqrtN (n + 1) * Rv * cos ((m : K) * theta)) ∧
    (∀ (n : Nat) (m : Int) (Rv : K), m < 0 → Gen.zernCore sqrtN cos sin n m true Rv theta true = sqrtN 2 * sqrtN (n + 1) * Rv * sin ((m : K) * theta)) ∧
    (∀ (n : Nat) (m : Int) (Rv : K), m ≠ 0 → Gen.zernCore sqrtN cos sin n m false Rv theta true
        = Rv * (if 0 < m then cos ((m : K) * theta) else sin ((m : K) * theta))) := by
  refine ⟨rfl, ?_, ?_, ?_, ?_⟩
  · intro n Rv; unfold Gen.zernCore; simp
  · intro n m Rv hm; unfold Gen.zernCore; simp [hm, hm.ne']
  · intro n m Rv hm; unfold Gen.zernCore; simp [hm.ne, not_lt.2 hm.le]
  · intro n m Rv hm; unfold Gen.zernCore; simp [hm]

/-- **the radial polynomial is the textbook one**: `R_n^m(ρ) = Σ_k c_k ρ^{n−2k}` (k = 0 … (n−m)/2) with the coefficient the code forms,
`c_k = (−1)^k (n−k)! / (k! ((n+m)/2−k)! ((n−m)/2−k)!)` (`radial_formula_tie`), equal to the binomial form
`(−1)^k C(n−k, k) C(n−2k, (n−m)/2−k)` of the literature for every valid (n, m) with n ≤ 40; sanity: `R_n^n(ρ) = ρ^n` and `R_2^0(ρ) = 2ρ² − 1` -/
theorem radial_is_textbook (n m : Nat) (hn : n ≤ 40) (hm : m ≤ n) (h : (n - m) % 2 = 0) (x : ℝ) :
    radialEval n m x = ∑ k ∈ Finset.range ((n - m) / 2 + 1),
      (((-1 : Int) ^ k * ((chooseN (n - k) k * chooseN (n - 2 * k) ((n - m) / 2 - k) : Nat) : Int) : Int) : ℝ) * x ^ (n - 2 * k) ∧
    radialEval n n x = x ^ n ∧ radialEval 2 0 x = 2 * x ^ 2 - 1 := by
  refine ⟨?_, radialEval_self n x, ?_⟩
  · rw [radialEval_eq_sum n m h]
    refine Finset.sum_congr rfl fun k hk => ?_
    rw [radialCoeff_textbook n m k hm h (Nat.lt_succ_iff.1 (Finset.mem_range.1 hk))]
  · rw [radialEval_eq_sum 2 0 (by decide)]
    have c0 : radialCoeff 2 0 0 = 2 := by decide
    have c1 : radialCoeff 2 0 1 = -1 := by decide
    simp [Finset.sum_range_succ, c0, c1]; ring

/-- **R_n^m(1) = 1** for every valid (n, m) with n ≤ 40 (all 861 modes the float evaluation can represent), in any
commutative ring -/
theorem radial_at_one {K : Type} [CommRing K] (n m : Nat) (hn : n ≤ 40) (hm : m ≤ n) (h : (n - m) % 2 = 0) :
    radialEval n m (1 : K) = 1 :=
  radialEval_one n m hm h

/-- **radial orthogonality**: `∫₀¹ R_n^m R_n'^m ρ dρ = δ_{nn'} / (2(n+1))` as an exact rational identity (each monomial
integrated as `∫₀¹ ρ^a ρ dρ = 1/(a+2)`), for all valid n, n' ≤ 20 and m — all pairs among the first 231 modes -/
theorem radial_gram (n n' m : Nat) (hn : n ≤ 20) (hn' : n' ≤ 20) (hm : m ≤ n) (hm' : m ≤ n')
    (h : (n - m) % 2 = 0) (h' : (n' - m) % 2 = 0) :
    gramQ n n' m = if n = n' then (1 : Rat) / (((2 * (n + 1) : Nat) : Int) : Rat) else 0 :=
  gramQ_eq n n' m hm hm' h h'

/-- **azimuthal orthogonality**: over a period, `cos(mθ)·cos(m'θ)` and `sin(mθ)·sin(m'θ)` integrate to 0 for m ≠ m', and
`cos(mθ)·sin(m'θ)` integrates to 0 for all m, m' — so modes with different azimuthal order, or the cosine and sine mode of the
same order, have vanishing cross products whatever their radial parts -/
theorem azimuthal_orthogonality (m m' : ℕ) :
    (m ≠ m' → ∫ θ in (0 : ℝ)..(2 * Real.pi), Real.cos ((m : ℝ) * θ) * Real.cos ((m' : ℝ) * θ) = 0) ∧
    (m ≠ m' → ∫ θ in (0 : ℝ)..(2 * Real.pi), Real.sin ((m : ℝ) * θ) * Real.sin ((m' : ℝ) * θ) = 0) ∧
    (∫ θ in (0 : ℝ)..(2 * Real.pi), Real.cos ((m : ℝ) * θ) * Real.sin ((m' : ℝ) * θ) = 0) := by
  have hc := integral_cos_mul_cos m m' 0 0
  have hs := integral_cos_mul_cos m m' (-(Real.pi / 2)) (-(Real.pi / 2))
  have hx := integral_cos_mul_cos m m' 0 (-(Real.pi / 2))
  simp only [← sub_eq_add_neg, Real.cos_sub_pi_div_two, Int.cast_natCast, add_zero] at hc hs hx
  refine ⟨fun h => ?_, fun h => ?_, ?_⟩
  · rw [hc, if_neg (by omega), if_neg (by omega), add_zero]
  · rw [hs, if_neg (by omega), if_neg (by omega), add_zero]
  · rw [hx]; simp

/-- **the radial Gram entries are the radial integrals of the model's polynomials**: `gramQ n n' m = ∫₀¹ R_n^m(ρ) R_n'^m(ρ) ρ dρ`
with `R = radialEval` (the function `zernAt` evaluates), hence by `radial_gram` the integral is `δ_{nn'}/(2(n+1))` for n, n' ≤ 20 -/
theorem radial_gram_integral (n n' m : Nat) (hn : n ≤ 20) (hn' : n' ≤ 20) (hm : m ≤ n) (hm' : m ≤ n')
    (h : (n - m) % 2 = 0) (h' : (n' - m) % 2 = 0) :
    ∫ x in (0 : ℝ)..1, radialEval n m x * radialEval n' m x * x = if n = n' then 1 / (2 * ((n : ℝ) + 1)) else 0 :=
  radial_integral_eq n n' m hm hm' h h'

/-- the radial Gram entries up to order `N`, as a hypothesis; it holds for every `N` (`gramQ_eq`) -/
def GramUpTo (N : Nat) : Prop :=
  ∀ n n' m : Nat, n ≤ N → n' ≤ N → m ≤ n → m ≤ n' → (n - m) % 2 = 0 → (n' - m) % 2 = 0 →
    gramQ n n' m = if n = n' then (1 : Rat) / (((2 * (n + 1) : Nat) : Int) : Rat) else 0

theorem gramUpTo_20 : GramUpTo 20 := fun n n' m _ _ hm hm' h h' => gramQ_eq n n' m hm hm' h h'

/-- **the model's mode is normalisation · radial · azimuthal, with the squared normalisation `normSq`**: over ℝ (real √, cos, sin),
inside the mask, `zernAt j = N · R_n^{|m|}(ρ) · A_m(θ)` with `N² = normSq n m` (n+1 for m = 0, 2(n+1) otherwise) and
`A_m = 1, cos(mθ), sin(mθ)` for m = 0, m > 0, m < 0 — this binds `normalisation_constants`/`normalisation_unit_mean_square` to `zernAt` -/
theorem mode_factorisation (j : Nat) (ρ θ : ℝ) :
    zReal j ρ θ = normFac (nollN j) (nollM j) * radialEval (nollN j) (nollM j).natAbs ρ * azim (nollM j) θ ∧
    normFac (nollN j) (nollM j) ^ 2 = ((normSq (nollN j) (nollM j) : ℕ) : ℝ) :=
  ⟨zReal_factor j ρ θ, normFac_sq _ _⟩

/-- orthonormality for all modes of radial order ≤ N, given the radial Gram table up to N -/
theorem zernike_orthonormal_of (N : Nat) (hG : GramUpTo N) (j j' : Nat) (hj : 1 ≤ j) (hj' : 1 ≤ j') (hn : nollN j ≤ N) (hn' : nollN j' ≤ N) :
    diskMean (fun ρ θ => zReal j ρ θ * zReal j' ρ θ) = if j = j' then 1 else 0 :=
  zReal_orthonormal j j' hj hj'

/-- **orthonormality of the model's modes over the unit disk** (all pairs among the first 231 modes, n ≤ 20): the polar-coordinate
mean `(1/π) ∫₀^{2π} ∫₀¹ Z_j Z_j' ρ dρ dθ` of the product of two normalised modes of the model is 1 if j = j' and 0 otherwise.
(`zernike_orthonormal_area` below turns the iterated polar integral into the area mean over the disk.) -/
theorem zernike_orthonormal (j j' : Nat) (hj : 1 ≤ j) (hj' : 1 ≤ j') (hn : nollN j ≤ 20) (hn' : nollN j' ≤ 20) :
    diskMean (fun ρ θ => zReal j ρ θ * zReal j' ρ θ) = if j = j' then 1 else 0 :=
  zReal_orthonormal j j' hj hj'

/-- **orthonormality as an area mean over the unit disk**: with each mode read as a function of the point `q` of the plane through its
polar coordinates `(|q|, arg q)`, `(1/π) ∫_{|q|<1} Z_j(q) Z_j'(q) dq` is 1 if j = j' and 0 otherwise (n ≤ N given the Gram table up to N;
polar change of variables `integral_comp_polarCoord_symm`, Fubini, 2π-periodicity) -/
theorem zernike_orthonormal_area_of (N : Nat) (hG : GramUpTo N) (j j' : Nat) (hj : 1 ≤ j) (hj' : 1 ≤ j') (hn : nollN j ≤ N) (hn' : nollN j' ≤ N) :
    (1 / Real.pi) * ∫ q in unitDisk, zReal j (polarCoord q).1 (polarCoord q).2 * zReal j' (polarCoord q).1 (polarCoord q).2
      = if j = j' then 1 else 0 :=
  zReal_orthonormal_area j j' hj hj'

/-- … for all pairs among the first 231 modes (n ≤ 20) -/
theorem zernike_orthonormal_area (j j' : Nat) (hj : 1 ≤ j) (hj' : 1 ≤ j') (hn : nollN j ≤ 20) (hn' : nollN j' ≤ 20) :
    (1 / Real.pi) * ∫ q in unitDisk, zReal j (polarCoord q).1 (polarCoord q).2 * zReal j' (polarCoord q).1 (polarCoord q).2
      = if j = j' then 1 else 0 := zReal_orthonormal_area j j' hj hj'

/-! ## coordinates: centroid origin, unit radius at the farthest sample, support only -/

/-- **the default polar origin is the centroid of the mask**, whatever the parity of the array size or the position of the mask:
the first moments of the default mesh coordinates vanish over the mask, and `rr(i) = i − (mean row index)` -/
theorem coords_origin_is_centroid {K : Type} [Field K] (mask : Arr Bool) (hc : ((maskMoments mask).1 : K) ≠ 0) :
    (∀ i : Int, zRR mask (zShift (K := K) mask) i = (i : K) - ((maskMoments mask).2.1 : K) / ((maskMoments mask).1 : K)) ∧
    (∀ j : Int, zCC mask (zShift (K := K) mask) j = (j : K) - ((maskMoments mask).2.2 : K) / ((maskMoments mask).1 : K)) ∧
    (∑ i ∈ range mask.s0.toNat, ∑ j ∈ range mask.s1.toNat,
      (if mask.get i j then zRR mask (zShift (K := K) mask) i else 0)) = 0 ∧
    (∑ i ∈ range mask.s0.toNat, ∑ j ∈ range mask.s1.toNat,
      (if mask.get i j then zCC mask (zShift (K := K) mask) j else 0)) = 0 := by
  obtain ⟨m0, m1, m2⟩ := maskMoments_cast (K := K) mask
  have hr := fun i : Int => meshCoord_zShiftAxis mask.s0 i ((maskMoments mask).2.1 / (maskMoments mask).1 : K)
  have hcc := fun j : Int => meshCoord_zShiftAxis mask.s1 j ((maskMoments mask).2.2 / (maskMoments mask).1 : K)
  refine ⟨hr, hcc, ?_, ?_⟩
  · simp only [zRR, zShift, hr, Int.cast_natCast]
    exact sum_ite_sub_eq_zero _ _ (fun i j => mask.get i j) (fun i _ => (i : K)) _ (by rw [← m0, ← m1, div_mul_cancel₀ _ hc])
  · simp only [zCC, zShift, hcc, Int.cast_natCast]
    exact sum_ite_sub_eq_zero _ _ (fun i j => mask.get i j) (fun _ j => (j : K)) _ (by rw [← m0, ← m2, div_mul_cancel₀ _ hc])

/-- **ρ = 1 at the farthest masked sample** and ρ ≤ 1 on the whole mask (any origin `s`, any radius function `sqrt`): when
some masked sample is away from the origin (`zRmax > 0`) -/
theorem rho_one_at_farthest {K : Type} [Field K] [LinearOrder K] [IsStrictOrderedRing K] (sqrt : K → K) (mask : Arr Bool)
    (s : K × K) (hpos : 0 < zRmax sqrt mask s) :
    (∃ i j : Nat, (i : Int) < mask.s0 ∧ (j : Int) < mask.s1 ∧ mask.get i j = true ∧ zRho sqrt mask s i j = 1) ∧
    (∀ i j : Nat, (i : Int) < mask.s0 → (j : Int) < mask.s1 → mask.get i j = true → zRho sqrt mask s i j ≤ 1) := by
  unfold zRho
  obtain ⟨i, j, hi, hj, hmask, e⟩ := zRmax_attained sqrt mask s hpos
  exact ⟨⟨i, j, hi, hj, hmask, by rw [e, div_self hpos.ne']⟩,
    fun i j hi hj hmask => (div_le_one hpos).2 (zRad_le_zRmax sqrt mask s hi hj hmask)⟩

/-- … and that sample really is a *farthest* one: if `sqrt` reflects order on non-negative arguments (as the real square root does),
a masked sample with ρ = 1 has the largest squared distance `rr² + cc²` from the origin among all masked samples -/
theorem rho_one_is_farthest {K : Type} [Field K] [LinearOrder K] [IsStrictOrderedRing K] (sqrt : K → K) (mask : Arr Bool)
    (s : K × K) (hpos : 0 < zRmax sqrt mask s)
    (hsqrt : ∀ a b : K, 0 ≤ a → 0 ≤ b → sqrt a ≤ sqrt b → a ≤ b)
    (i j : Nat) (hi : (i : Int) < mask.s0) (hj : (j : Int) < mask.s1) (hmask : mask.get i j = true)
    (hone : zRho sqrt mask s i j = 1)
    (i' j' : Nat) (hi' : (i' : Int) < mask.s0) (hj' : (j' : Int) < mask.s1) (hmask' : mask.get i' j' = true) :
    zRR mask s i' * zRR mask s i' + zCC mask s j' * zCC mask s j' ≤ zRR mask s i * zRR mask s i + zCC mask s j * zCC mask s j := by
  have le := zRad_le_zRmax sqrt mask s hi' hj' hmask'
  rw [← (div_eq_one_iff_eq hpos.ne').1 hone] at le
  exact hsqrt _ _ (add_nonneg (mul_self_nonneg _) (mul_self_nonneg _)) (add_nonneg (mul_self_nonneg _) (mul_self_nonneg _)) le

/-- **values are zero outside the mask**: the regenerated `Gen.zernCore` SELECTS with the mask (`np.where(mask, …, 0)`), so nothing evaluated outside the mask reaches the result — also at `Float` with non-finite coordinates there; the piston mode (j = 1)
is the mask itself. (The known finding is the one-sample mask, where rho = 0/0 AT the masked sample.) -/
theorem zero_outside_mask {K : Type} [Field K] (sqrtN : Nat → K) (cos sin : K → K) (j : Nat) (normalize : Bool) (rho theta : K) :
    zernAt sqrtN cos sin j normalize rho theta false = 0 ∧ zernAt sqrtN cos sin 1 normalize rho theta true = 1 :=
  ⟨zernAt_outside sqrtN cos sin j normalize rho theta, zernAt_one sqrtN cos sin normalize rho theta true⟩

/-- **the mask enters only through its support**: two weight arrays of the same shape that are non-zero at the same samples give
the same Boolean mask, hence the same moments, origin, coordinates and mode values (all of which are functions of that mask) -/
theorem depends_on_support_only {W : Type} [Zero W] [DecidableEq W] (x y : Arr W) (hs : x.s0 = y.s0 ∧ x.s1 = y.s1)
    (h : ∀ i j, x.get i j ≠ 0 ↔ y.get i j ≠ 0) : supportMask x = supportMask y := by
  unfold supportMask
  have : (fun i j => decide (x.get i j ≠ 0)) = fun i j => decide (y.get i j ≠ 0) := by
    funext i j; exact decide_eq_decide.2 (h i j)
  rw [hs.1, hs.2, this]

/-- in particular the support, hence everything computed from the mask, does not depend on the scale of the weights: multiplying a
weight array by any non-zero factor (nano-scale units, 1e-300, …) leaves the Boolean mask unchanged — no absolute tolerance may enter
the test `mask ≠ 0` -/
theorem support_scale_invariant {W : Type} [Field W] [DecidableEq W] (x : Arr W) (k : W) (hk : k ≠ 0) :
    supportMask ({ s0 := x.s0, s1 := x.s1, get := fun i j => x.get i j * k } : Arr W) = supportMask x :=
  depends_on_support_only _ x ⟨rfl, rfl⟩ (fun i j => by simp [hk])

/-- the piston mode is the constant 1 and every other mode has mean zero over the unit disk (n ≤ 20): the clause "unit mean square except
piston's constant 1" — `zernike_orthonormal` with j' = 1 -/
theorem piston_and_mean (j : Nat) (hj : 1 ≤ j) (hn : nollN j ≤ 20) (ρ θ : ℝ) :
    zReal 1 ρ θ = 1 ∧ diskMean (fun ρ θ => zReal j ρ θ) = if j = 1 then 1 else 0 := by
  have h1 : ∀ ρ θ : ℝ, zReal 1 ρ θ = 1 := fun ρ θ => zernAt_one _ _ _ true ρ θ true
  refine ⟨h1 ρ θ, ?_⟩
  have := zReal_orthonormal j 1 hj le_rfl
  simpa only [h1, mul_one] using this

/-- without normalisation a mode is bounded by its radial part: `|Z_j(ρ, θ)| ≤ |R_n^{|m|}(ρ)|` — with `radial_abs_le_one` below this gives
`|Z_j| ≤ 1` (`raw_mode_abs_le_one`, n ≤ 20; n ≤ 40 in the thorough module) -/
theorem raw_mode_le_radial (j : Nat) (ρ θ : ℝ) :
    |zernAt (fun k => Real.sqrt k) Real.cos Real.sin j false ρ θ true| ≤ |radialEval (nollN j) (nollM j).natAbs ρ| := by
  rw [zernAt_real, if_neg Bool.false_ne_true, one_mul, abs_mul]
  exact mul_le_of_le_one_right (abs_nonneg _) (abs_azim_le_one _ _)

/-- **the radial polynomials are bounded by 1 on [−1, 1]** (in particular on the pupil 0 ≤ ρ ≤ 1) for every valid (n, m) with n ≤ 20 — all
of the first 231 modes. Proof: `2^n R_n^m(cos θ) = Σ_i V_i cos (n−2i)θ` with integer weights `V_i`; that they are `≥ 0` is checked exactly by the
kernel (`cosCert_radial_40`), the identity and the inequality `|Σ V_i cos (n−2i)θ| ≤ Σ V_i = 2^n R_n^m(1)` are proved
(`abs_sum_le_of_cosCert`). The bound is attained: `R_n^m(1) = 1` (`radial_at_one`). -/
theorem radial_abs_le_one (n m : Nat) (hn : n ≤ 20) (hm : m ≤ n) (h : (n - m) % 2 = 0) (x : ℝ) (h0 : -1 ≤ x) (h1 : x ≤ 1) :
    |radialEval n m x| ≤ 1 :=
  abs_radialEval_le_one n m (by omega) hm h x h0 h1

/-- **without normalisation every mode is bounded by 1 on the unit disk**: `|Z_j(ρ, θ)| ≤ 1` for 0 ≤ ρ ≤ 1, every θ, for the modes with
radial order n ≤ 20 (j ≤ 231) -/
theorem raw_mode_abs_le_one (j : Nat) (hj : 1 ≤ j) (hn : nollN j ≤ 20) (ρ θ : ℝ) (h0 : 0 ≤ ρ) (h1 : ρ ≤ 1) :
    |zernAt (fun k => Real.sqrt k) Real.cos Real.sin j false ρ θ true| ≤ 1 := by
  obtain ⟨v1, v2, -⟩ := noll_valid j hj
  exact le_trans (raw_mode_le_radial j ρ θ) (radial_abs_le_one _ _ hn v1 v2 ρ (neg_one_lt_zero.le.trans h0) h1)

/-- **the hypotheses of the coordinate theorems are satisfiable** (`coords_origin_is_centroid`: non-empty mask in characteristic 0;
`rho_one_at_farthest` / `rho_one_is_farthest`: some masked sample away from the origin, a radius function that reflects order): the 2 × 3 mask
"first row and last column" over ℚ with the identity as radius function has 4 samples, `max(r·mask) = 13/8 > 0` about its centroid, and therefore a
masked sample with ρ = 1 -/
theorem coordinate_theorems_nonvacuous :
    ((maskMoments exMask).1 : ℚ) ≠ 0 ∧ 0 < zRmax (fun x : ℚ => x) exMask (zShift (K := ℚ) exMask) ∧
    (∀ a b : ℚ, 0 ≤ a → 0 ≤ b → (fun x : ℚ => x) a ≤ (fun x : ℚ => x) b → a ≤ b) ∧
    ∃ i j : Nat, (i : Int) < exMask.s0 ∧ (j : Int) < exMask.s1 ∧ exMask.get i j = true ∧
      zRho (fun x : ℚ => x) exMask (zShift (K := ℚ) exMask) i j = 1 := by
  obtain ⟨hm, hr⟩ := exMask_facts
  have hpos : 0 < zRmax (fun x : ℚ => x) exMask (zShift (K := ℚ) exMask) := by rw [hr]; norm_num
  refine ⟨by rw [hm]; norm_num, hpos, fun a b _ _ h => h, (rho_one_at_farthest _ exMask _ hpos).1⟩

/-- **the sign convention of the odd modes, as a theorem**: for odd j with m ≠ 0 the model (and the code it is regenerated from: `sin(m·θ)` with the
negative `m` of `zernike_index`) is `Z_j = −√2·√(n+1)·R_n^{|m|}(ρ)·sin(|m|θ)` — the opposite sign to Noll (1976). The property statement does
not fix this sign; orthonormality and the index map do not depend on it. -/
theorem odd_mode_sign_convention (j : ℕ) (hj : 1 ≤ j) (hodd : j % 2 = 1) (hm : nollM j ≠ 0) (ρ θ : ℝ) :
    zReal j ρ θ = -(Real.sqrt 2 * Real.sqrt ((nollN j + 1 : ℕ) : ℝ) * radialEval (nollN j) (nollM j).natAbs ρ
      * Real.sin (((nollM j).natAbs : ℝ) * θ)) := by
  obtain ⟨_, _, _, hneg, _⟩ := noll_valid j hj
  have hlt : nollM j < 0 := lt_of_le_of_ne (hneg hodd) hm
  rw [zReal_factor, azim, if_neg hm, if_neg (not_lt.2 hlt.le), normFac, if_neg hm,
    show (((nollM j).natAbs : ℕ) : ℝ) = -((nollM j : ℤ) : ℝ) by rw [Nat.cast_natAbs, abs_of_neg hlt, Int.cast_neg], neg_mul, Real.sin_neg]
  push_cast
  ring

/-- **the hypothesis of `coords_origin_is_centroid` is a statement about the input**: over a field of characteristic 0 the cast count of masked
samples is non-zero exactly when the mask has a sample inside the array -/
theorem centroid_hypothesis_iff_nonempty {K : Type} [Field K] [CharZero K] (mask : Arr Bool) :
    ((maskMoments mask).1 : K) ≠ 0 ↔ ∃ i j : Nat, i < mask.s0.toNat ∧ j < mask.s1.toNat ∧ mask.get i j = true := by
  rw [Nat.cast_ne_zero]
  simp only [maskMoments, sumRange_eq, ne_eq, Finset.sum_eq_zero_iff, Finset.mem_range, ite_eq_right_iff, one_ne_zero, imp_false,
    not_forall, not_not, exists_prop, exists_and_left]

/-- … so: for every NON-EMPTY mask (characteristic 0) the default polar origin is the centroid — first moments of the default mesh coordinates
over the mask vanish — with the hypothesis discharged from the input -/
theorem coords_origin_is_centroid_of_nonempty {K : Type} [Field K] [CharZero K] (mask : Arr Bool)
    (hne : ∃ i j : Nat, i < mask.s0.toNat ∧ j < mask.s1.toNat ∧ mask.get i j = true) :
    (∑ i ∈ range mask.s0.toNat, ∑ j ∈ range mask.s1.toNat,
      (if mask.get i j then zRR mask (zShift (K := K) mask) i else 0)) = 0 ∧
    (∑ i ∈ range mask.s0.toNat, ∑ j ∈ range mask.s1.toNat,
      (if mask.get i j then zCC mask (zShift (K := K) mask) j else 0)) = 0 :=
  (coords_origin_is_centroid mask ((centroid_hypothesis_iff_nonempty mask).2 hne)).2.2

/-- **where `zernike` takes its coordinates from** (the block between the mask cast and the index call, regenerated: `Gen.zernCoordSrc`):
without `rho` the coordinates are `zernike_coordinates(mask)` — default shift and no rotation, i.e. the centroid origin of
`coords_origin_is_centroid` — whatever `theta` is; `rho` without `theta` is refused (`ValueError`); with both, the caller's arrays are used
unchanged ("arbitrary caller-supplied polar coordinates") -/
theorem coordinate_source_dispatch (rhoNone thetaNone : Bool) :
    Gen.zernCoordSrc rhoNone thetaNone =
      if rhoNone = true then Gen.CoordSrc.default else if thetaNone = true then Gen.CoordSrc.refuse else Gen.CoordSrc.caller := by
  cases rhoNone <;> cases thetaNone <;> rfl

/-- **the centroid the default origin uses is the regenerated `util.centroid`**: `zernike_coordinates` calls `lentil.centroid(mask)` on the
boolean mask; the REGENERATED `Gen.centroid` (through `centroidRC`: normalisation by the total, `np.mgrid` grids, the two dot products, order of the
returned pair) applied to the mask as 0/1 samples returns exactly (Σ row indices / count, Σ column indices / count) of `maskMoments` — the pair the
model's default shift `zShift` (and with it `coords_origin_is_centroid`) is built from. Over any field. -/
theorem default_centroid_is_regenerated {K : Type} [Field K] (mask : Arr Bool) :
    let c := centroidRC (⟨mask.s0, mask.s1, fun i j => if mask.get i j then (1 : K) else 0⟩ : Arr K)
    c = (((maskMoments mask).2.1 : K) / ((maskMoments mask).1 : K), ((maskMoments mask).2.2 : K) / ((maskMoments mask).1 : K)) ∧
    zShift (K := K) mask = (Gen.zShiftAxis c.1 mask.s0, Gen.zShiftAxis c.2 mask.s1) := by
  have h : centroidRC (⟨mask.s0, mask.s1, fun i j => if mask.get i j then (1 : K) else 0⟩ : Arr K) =
      (((maskMoments mask).2.1 : K) / ((maskMoments mask).1 : K), ((maskMoments mask).2.2 : K) / ((maskMoments mask).1 : K)) := by
    rw [centroidRC_eq, centroidNumK_mask]
  refine ⟨h, ?_⟩
  simp only [h]
  rfl

/-- **`theta` and `angle` of `zernike_coordinates`, regenerated** (`Gen.zThetaArg`: the complex argument of `np.angle(-rr·e^{iα} + i·cc·e^{iα})`
split symbolically into real and imaginary part; `Gen.zAngle`: `α = (90 - rotate)·π/180`): the argument is `(-rr + i·cc)·(cos α + i·sin α)`, i.e.
real part `-(rr·cos α) - cc·sin α` and imaginary part `-(rr·sin α) + cc·cos α`; the model's `zTheta` (which the driver runs) is `atan2` of exactly
these; and `rotate = 0` gives `α = π/2` (the "90 degree offset" of the source comment), where the argument is `(-cc, -rr)` -/
theorem theta_regenerated {F : Type} [Field F] [LinearOrder F] [CharZero F] (rr cc ca sa rotate pi : F) :
    Gen.zThetaArg rr cc ca sa = (-(rr * ca) - cc * sa, -(rr * sa) + cc * ca) ∧
    (∀ (atan2 : F → F → F) (mask : Arr Bool) (s : F × F) (i j : Int),
      zTheta atan2 ca sa mask s i j =
        atan2 (Gen.zThetaArg (zRR mask s i) (zCC mask s j) ca sa).2 (Gen.zThetaArg (zRR mask s i) (zCC mask s j) ca sa).1) ∧
    Gen.zAngle rotate pi = (90 - rotate) * pi / 180 ∧ Gen.zAngle 0 pi = pi / 2 ∧
    Gen.zThetaArg rr cc 0 1 = (-cc, -rr) := by
  refine ⟨?_, fun _ _ _ _ _ => rfl, ?_, ?_, ?_⟩
  · unfold Gen.zThetaArg; ext <;> simp only <;> ring
  · unfold Gen.zAngle; push_cast; ring
  · unfold Gen.zAngle; push_cast; ring
  · unfold Gen.zThetaArg; ext <;> simp

/-- **the radius `r = np.abs(rr + 1j*cc)` of `zernike_coordinates`, regenerated** (`Gen.zRadArg`: real and imaginary part of the argument of
`np.abs`, split from the source expression): the model's `zRad` — which `rho`, `zRmax` and the theorems `rho_one_at_farthest` / `rho_one_is_farthest`
are about — is the modulus `sqrt(re² + im²)` of exactly that argument, i.e. the Euclidean distance `sqrt(rr² + cc²)` from the origin of the mesh -/
theorem radius_regenerated {F : Type} [Field F] [LinearOrder F] (sqrt : F → F) (mask : Arr Bool) (s : F × F) (i j : Int) :
    zRad sqrt mask s i j =
      sqrt ((Gen.zRadArg (zRR mask s i) (zCC mask s j)).1 * (Gen.zRadArg (zRR mask s i) (zCC mask s j)).1 +
            (Gen.zRadArg (zRR mask s i) (zCC mask s j)).2 * (Gen.zRadArg (zRR mask s i) (zCC mask s j)).2) :=
  rfl

end Lentil.C11
