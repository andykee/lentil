import LentilVerif.Lemmas.Geometry
import LentilVerif.Lemmas.GeometrySums
import LentilVerif.Lemmas.GeometryShapes
import LentilVerif.Lemmas.GeometryHex
import LentilVerif.Lemmas.GeometryHexGrid
import Mathlib.Analysis.SpecialFunctions.Trigonometric.Basic
/-! # C20 — array geometry helpers share one centre convention (index ⌊n/2⌋)

Property theorems only (helper lemmas live in `Lemmas/Geometry*.lean`). The index arithmetic of `util.pad` (2-D and cube
specialisations), `util.subarray`, `helper.boundary_slice`, `helper.slice_offset` and the hex-grid tables are the
*generated* kernel (`Gen.*`, re-translated from the source on every run); the array plumbing is `Model/Geometry.lean`.

Not proved here (checked on the real code by the oracle of tools/harness/c20.py only): segments are of equal area up to edge
sampling. Non-overlap for `seg_gap > 0` and border clearance for `pad ≥ 2` are proved on the real-valued model
(`hex_disjoint_pos_gap`, `hex_clear_of_border`); float rounding of the edge test is covered by the oracle only. -/
namespace Lentil.C20
open Lentil Finset
variable {K : Type}

/-! ## zero-padding / cropping -/

/-- the copy `padded[rmin1:rmax1, cmin1:cmax1] = array[rmin0:rmax0, cmin0:cmax0]` never leaves either array and both
slices have the same shape (so NumPy neither wraps a negative index, nor clips, nor refuses), 2-D arrays and cubes -/
theorem pad_slices_in_bounds (d m0 m1 S0 S1 : Int) (hm : 0 ≤ m0 ∧ 0 ≤ m1) (hS : 0 ≤ S0 ∧ 0 ≤ S1) :
    Gen.padIdx3 d m0 m1 S0 S1 = Gen.padIdx2 m0 m1 S0 S1 ∧
    (let ix := Gen.padIdx2 m0 m1 S0 S1
     (0 ≤ ix.1.1 ∧ ix.1.1 ≤ ix.1.2.1 ∧ ix.1.2.1 ≤ m0 ∧ 0 ≤ ix.1.2.2.1 ∧ ix.1.2.2.1 ≤ ix.1.2.2.2 ∧ ix.1.2.2.2 ≤ m1) ∧
     (0 ≤ ix.2.1 ∧ ix.2.1 ≤ ix.2.2.1 ∧ ix.2.2.1 ≤ S0 ∧ 0 ≤ ix.2.2.2.1 ∧ ix.2.2.2.1 ≤ ix.2.2.2.2 ∧ ix.2.2.2.2 ≤ S1) ∧
     ix.1.2.1 - ix.1.1 = ix.2.2.1 - ix.2.1 ∧ ix.1.2.2.2 - ix.1.2.2.1 = ix.2.2.2.2 - ix.2.2.2.1) := by
  refine ⟨padIdx3_eq_padIdx2 .., ?_⟩
  rw [padIdx2_eq]
  have r := padAxis_bounds m0 S0 hm.1 hS.1
  have c := padAxis_bounds m1 S1 hm.2 hS.2
  simp only
  omega

/-- **pad keeps the origin** (2-D, every mix of growing/shrinking axes and parities): the result is the source placed on
the infinite zero plane with its sample `⌊m/2⌋` at the origin, read back with the origin at index `⌊S/2⌋` — every copied
sample keeps its coordinate relative to the origin, everything else is zero -/
theorem pad_keeps_origin [Zero K] (a : Arr K) (S0 S1 i j : Int) (h0 : 0 ≤ a.s0) (h1 : 0 ≤ a.s1)
    (hi : 0 ≤ i ∧ i < S0) (hj : 0 ≤ j ∧ j < S1) :
    (pad2 a S0 S1).get i j = a.centred (i - S0 / 2) (j - S1 / 2) := pad2_get a S0 S1 i j hi hj

/-- in particular the origin sample `[⌊m0/2⌋, ⌊m1/2⌋]` of a non-empty source lands on `[⌊S0/2⌋, ⌊S1/2⌋]` -/
theorem pad_origin_sample [Zero K] (a : Arr K) (S0 S1 : Int) (h0 : 0 < a.s0) (h1 : 0 < a.s1) (hS0 : 0 < S0) (hS1 : 0 < S1) :
    (pad2 a S0 S1).get (S0 / 2) (S1 / 2) = a.get (a.s0 / 2) (a.s1 / 2) := by
  rw [pad2_get a S0 S1 _ _ (by omega) (by omega), Int.sub_self, Int.sub_self, Arr.centred_of_mem a (by omega) (by omega), Int.zero_add,
    Int.zero_add]

/-- the same for cubes (`array.ndim == 3`, slices along the first axis, possibly non-square): every slice is padded like a
2-D array and the depth is kept -/
theorem pad3_keeps_origin [Zero K] (a : Cube K) (S0 S1 k i j : Int) (h0 : 0 ≤ a.s0) (h1 : 0 ≤ a.s1)
    (hi : 0 ≤ i ∧ i < S0) (hj : 0 ≤ j ∧ j < S1) :
    (pad3 a S0 S1).d = a.d ∧ (pad3 a S0 S1).s0 = S0 ∧ (pad3 a S0 S1).s1 = S1 ∧
    (pad3 a S0 S1).get k i j = a.centred k (i - S0 / 2) (j - S1 / 2) := by
  refine ⟨rfl, rfl, rfl, ?_⟩
  rw [← Cube.slice_get, pad3_slice]
  exact pad2_get (a.slice k) S0 S1 i j hi hj

/-- **padding then cropping back is the identity** -/
theorem pad_crop_identity [Zero K] (a : Arr K) (S0 S1 i j : Int) (hS0 : a.s0 ≤ S0) (hS1 : a.s1 ≤ S1)
    (hi : 0 ≤ i ∧ i < a.s0) (hj : 0 ≤ j ∧ j < a.s1) :
    (pad2 (pad2 a S0 S1) a.s0 a.s1).get i j = a.get i j := by
  rw [pad2_get _ a.s0 a.s1 i j hi hj, pad2_centred a S0 S1 (by omega) (by omega), ← Arr.get_eq_centred a hi hj]

/-- padding then cropping back is the identity on every slice of a cube -/
theorem pad_crop_identity_cube [Zero K] (a : Cube K) (S0 S1 k i j : Int) (hS0 : a.s0 ≤ S0) (hS1 : a.s1 ≤ S1)
    (hi : 0 ≤ i ∧ i < a.s0) (hj : 0 ≤ j ∧ j < a.s1) :
    (pad3 (pad3 a S0 S1) a.s0 a.s1).get k i j = a.get k i j := by
  have h := pad_crop_identity (a.slice k) S0 S1 i j hS0 hS1 hi hj
  rwa [← pad3_slice, ← pad3_slice] at h

example : (pad2 (⟨3, 2, fun i j => 10 * i + j + 1⟩ : Arr Int) 4 5).get 2 2 = 12 := by decide
example : (pad2 (⟨4, 5, fun i j => 10 * i + j + 1⟩ : Arr Int) 3 2).get 1 1 = 23 := by decide

/-! ## `util.window` (decision tree regenerated from the source: `Gen.windowAct`) -/

/-- **the dispatch of `util.window`**, for all arguments: a one-element input is returned unchanged whatever `shape` and `slice`
are; with neither argument the input is returned; with `slice` the view `img[s0:s1, s2:s3]` is returned — when `shape` is given
too, only if `s1 - s0 = shape[0]` and `s3 - s2 = shape[1]` (otherwise `AssertionError`); with `shape` alone the input goes to
`lentil.pad`. It never falls off the end. -/
theorem window_dispatch (size : Int) (shNone slNone : Bool) (sh : Int × Int) (sl : Int × Int × Int × Int) :
    Gen.windowAct size shNone slNone sh sl =
      if size = 1 then .whole
      else if slNone = false then
        (if shNone = true ∨ (sl.2.1 - sl.1 = sh.1 ∧ sl.2.2.2 - sl.2.2.1 = sh.2)
         then .view sl.1 sl.2.1 sl.2.2.1 sl.2.2.2 else .refuse)
      else if shNone = true then .whole else .pad sh.1 sh.2 :=
  windowAct_eq size shNone slNone sh sl

/-- `window(img, shape=S)` **is the centred crop/pad**: the result has shape `S` and every sample keeps its coordinate relative
to the origin `⌊n/2⌋` (samples outside the source are zero) — the centre convention of `pad` carried through the dispatch -/
theorem window_shape_keeps_origin [Zero K] (a : Arr K) (S0 S1 : Int) (h0 : 0 ≤ a.s0) (h1 : 0 ≤ a.s1) (hs : a.s0 * a.s1 ≠ 1) :
    ∃ r, window a (some (S0, S1)) none = .ok r ∧ r.s0 = S0 ∧ r.s1 = S1 ∧
      ∀ i j, 0 ≤ i ∧ i < S0 → 0 ≤ j ∧ j < S1 → r.get i j = a.centred (i - S0 / 2) (j - S1 / 2) :=
  ⟨pad2 a S0 S1, by rw [window_eq, if_neg hs], rfl, rfl, fun i j hi hj => pad2_get a S0 S1 i j hi hj⟩

/-- `window(img, slice=(r0, r1, c0, c1))` for a slice inside the array **is exactly the requested index set**: shape
`(r1 - r0, c1 - c0)`, sample `(i, j)` = source sample `(r0 + i, c0 + j)`; when `shape` is given as well the call succeeds iff the
shape equals the slice's extent (and the result then has that shape) -/
theorem window_slice_indices [Zero K] (a : Arr K) (r0 r1 c0 c1 : Int) (hs : a.s0 * a.s1 ≠ 1)
    (hr : 0 ≤ r0 ∧ r0 ≤ r1 ∧ r1 ≤ a.s0) (hc : 0 ≤ c0 ∧ c0 ≤ c1 ∧ c1 ≤ a.s1) :
    (∃ r, window a none (some (r0, r1, c0, c1)) = .ok r ∧ r.s0 = r1 - r0 ∧ r.s1 = c1 - c0 ∧
      ∀ i j, r.get i j = a.get (r0 + i) (c0 + j)) ∧
    ∀ S0 S1 : Int,
      (r1 - r0 = S0 ∧ c1 - c0 = S1 →
        window a (some (S0, S1)) (some (r0, r1, c0, c1)) = window a none (some (r0, r1, c0, c1))) ∧
      (¬ (r1 - r0 = S0 ∧ c1 - c0 = S1) →
        window a (some (S0, S1)) (some (r0, r1, c0, c1)) = .error "AssertionError") := by
  have e := viewSlice_inside a hr hc
  refine ⟨⟨viewSlice a r0 r1 c0 c1, by rw [window_eq, if_neg hs], by rw [e], by rw [e], fun i j => by rw [e]⟩,
    fun S0 S1 => ⟨fun h => ?_, fun h => ?_⟩⟩
  · rw [window_eq, window_eq, if_neg hs, if_neg hs]; exact if_pos h
  · rw [window_eq, if_neg hs]; exact if_neg h

/-- a one-element input, and a call with neither `shape` nor `slice`, return the input unchanged -/
theorem window_passthrough [Zero K] (a : Arr K) (shape : Option (Int × Int)) (slice : Option (Int × Int × Int × Int)) :
    (a.s0 * a.s1 = 1 → window a shape slice = .ok a) ∧ window a none none = .ok a := by
  constructor
  · intro h; rw [window_eq, if_pos h]
  · rw [window_eq]; exact ite_self _

/-- cubes with `shape=`: every slice along the first axis is cropped/padded about its own origin `⌊n/2⌋`, the depth is kept -/
theorem window3_shape_keeps_origin [Zero K] (a : Cube K) (S0 S1 : Int) (h0 : 0 ≤ a.s0) (h1 : 0 ≤ a.s1) (hs : a.d * a.s0 * a.s1 ≠ 1) :
    ∃ r, window3Shape a S0 S1 = .ok r ∧ r.d = a.d ∧ r.s0 = S0 ∧ r.s1 = S1 ∧
      ∀ k i j, 0 ≤ i ∧ i < S0 → 0 ≤ j ∧ j < S1 → r.get k i j = a.centred k (i - S0 / 2) (j - S1 / 2) :=
  ⟨pad3 a S0 S1, by rw [window3Shape_eq, if_neg hs], rfl, rfl, rfl, fun k i j hi hj => (pad3_keeps_origin a S0 S1 k i j h0 h1 hi hj).2.2.2⟩

/-- **cubes with `slice=`**: the returned view addresses the LAST two axes (`Gen.windowSliceAxesFromEnd`, regenerated from the leading `...` of
`img[..., s0:s1, s2:s3]`), so for a cube `(depth, rows, cols)` — the convention of `pad` and of `window(shape=)` — a slice inside the array selects
`[:, r0:r1, c0:c1]`: the depth is kept, every depth slice is cut to rows `r0..r1-1` and columns `c0..c1-1`; with `shape` given as well the call
succeeds iff the shape equals the extent of the slice -/
theorem window3_slice_indices [Zero K] (a : Cube K) (r0 r1 c0 c1 : Int) (hs : a.d * a.s0 * a.s1 ≠ 1)
    (hr : 0 ≤ r0 ∧ r0 ≤ r1 ∧ r1 ≤ a.s0) (hc : 0 ≤ c0 ∧ c0 ≤ c1 ∧ c1 ≤ a.s1) :
    Gen.windowSliceAxesFromEnd = true ∧
    (∃ r, window3 a none (some (r0, r1, c0, c1)) = .ok r ∧ r.d = a.d ∧ r.s0 = r1 - r0 ∧ r.s1 = c1 - c0 ∧
      ∀ k i j, r.get k i j = a.get k (r0 + i) (c0 + j)) ∧
    ∀ S0 S1 : Int,
      (r1 - r0 = S0 ∧ c1 - c0 = S1 →
        window3 a (some (S0, S1)) (some (r0, r1, c0, c1)) = window3 a none (some (r0, r1, c0, c1))) ∧
      (¬ (r1 - r0 = S0 ∧ c1 - c0 = S1) →
        window3 a (some (S0, S1)) (some (r0, r1, c0, c1)) = .error "AssertionError") := by
  have e := viewSlice3_inside a hr hc
  refine ⟨rfl, ⟨viewSlice3 true a r0 r1 c0 c1, by rw [window3_eq, if_neg hs], by rw [e], by rw [e], by rw [e], fun k i j => by rw [e]⟩,
    fun S0 S1 => ⟨fun h => ?_, fun h => ?_⟩⟩
  · rw [window3_eq, window3_eq, if_neg hs, if_neg hs]; exact if_pos h
  · rw [window3_eq, if_neg hs]; exact if_neg h

example : (window3 (⟨3, 4, 5, fun k i j => 100 * k + 10 * i + j⟩ : Cube Int) none (some (1, 3, 2, 5))).toOption.map
    (fun r => (r.d, r.s0, r.s1, r.get 2 0 0)) = some (3, 2, 3, 212) := by decide

example : (window (⟨3, 4, fun i j => 10 * i + j⟩ : Arr Int) none (some (1, 3, 1, 4))).toOption.map (fun r => (r.s0, r.s1, r.get 0 0)) =
    some (2, 3, 11) := by decide
example : (window (⟨3, 4, fun i j => 10 * i + j⟩ : Arr Int) (some (2, 2)) (some (1, 3, 1, 4))).toOption.isNone = true := by decide

/-- **`util.centroid` regenerated** (`Gen.centroid`: normalisation `img / np.sum(img)`, the grids of `np.mgrid[0:nr, 0:nc]`, which grid each
`np.dot` pairs with the image and the order of the returned pair are re-translated from the source): the grid value of sample `(i, j)` is `i` in the
first and `j` in the second returned component, and over any field the returned pair is (row numerator / total, column numerator / total) of
`centroidNumK` — the quantities every centroid theorem of this file (and the default origin of C11) is stated about -/
theorem centroid_regenerated {F : Type} [Field F] (a : Arr F) :
    (∀ i j : Int, Gen.centroidGrid 0 i j = i ∧ Gen.centroidGrid 1 i j = j) ∧
    centroidRC a = ((centroidNumK a).1 / (centroidNumK a).2.2, (centroidNumK a).2.1 / (centroidNumK a).2.2) :=
  ⟨fun i j => ⟨by simp [Gen.centroidGrid], by simp [Gen.centroidGrid]⟩, centroidRC_eq a⟩

example : centroidRC (⟨2, 3, fun i j => if i = 0 ∨ j = 2 then 1 else 0⟩ : Arr ℚ) = (1 / 4, 5 / 4) := by decide +kernel

/-- **`util.rebin` regenerated** (`Gen.rebinReshape2`, `Gen.rebinSumAxes2`: the shape handed to `img.reshape` and the two summed axes are
re-translated from the source): whenever the model's `rebin` accepts (factor divides both axes) the reshape is legal (the product of the new
shape is the number of samples), the result shape is entries 0 and 2 of it, the summed axes are the two of length `factor` (last, then 1), and —
`reshape` keeping the C-order position — entry `(i, u, j, v)` of the reshaped array is source sample `(i·f + u, j·f + v)`: exactly the block the
model sums. So `rebin_preserves_sum` is about what this source line computes. -/
theorem rebin_regenerated [Add K] [Zero K] (a r : Arr K) (f : Nat) (hr : rebin a f = some r) :
    (Gen.rebinReshape2 a.s0 a.s1 f).foldl (· * ·) 1 = a.s0 * a.s1 ∧
    Gen.rebinSumAxes2 = [-1, 1] ∧
    r.s0 = (Gen.rebinReshape2 a.s0 a.s1 f)[0]! ∧ r.s1 = (Gen.rebinReshape2 a.s0 a.s1 f)[2]! ∧
    ∀ i j : Int, (r.get i j = sumRange f fun u => sumRange f fun v => a.get (i * f + u) (j * f + v)) ∧
      ∀ u v : Int, cFlat (Gen.rebinReshape2 a.s0 a.s1 f) [i, u, j, v] = (i * f + u) * a.s1 + (j * f + v) := by
  obtain ⟨⟨_, g0, g1⟩, rfl⟩ := rebin_eq_some hr
  have e0 : a.s0 / (f : Int) * f = a.s0 := Int.ediv_mul_cancel (Int.dvd_of_emod_eq_zero g0)
  have e1 : a.s1 / (f : Int) * f = a.s1 := Int.ediv_mul_cancel (Int.dvd_of_emod_eq_zero g1)
  refine ⟨?_, rfl, rfl, rfl, fun i j => ⟨rfl, fun u v => ?_⟩⟩
  · simp only [Gen.rebinReshape2, List.foldl_cons, List.foldl_nil]
    linear_combination (a.s1 / (f : Int) * f) * e0 + a.s0 * e1
  · simp only [cFlat, Gen.rebinReshape2, List.zip_cons_cons, List.zip_nil_right, List.foldl_cons, List.foldl_nil]
    linear_combination (i * f + u) * e1

/-- the cube branch (`img.ndim == 3`): the depth axis is kept in front, the summed axes are again the two of length `factor` (last, then 2), and
entry `(k, i, u, j, v)` of the reshaped cube is sample `(i·f + u, j·f + v)` of slice `k` -/
theorem rebin3_regenerated (d s0 s1 : Int) (f : Nat) (h0 : s0 % (f : Int) = 0) (h1 : s1 % (f : Int) = 0) :
    (Gen.rebinReshape3 d s0 s1 f).foldl (· * ·) 1 = d * s0 * s1 ∧
    Gen.rebinSumAxes3 = [-1, 2] ∧
    (Gen.rebinReshape3 d s0 s1 f)[0]! = d ∧ (Gen.rebinReshape3 d s0 s1 f)[1]! = s0 / f ∧ (Gen.rebinReshape3 d s0 s1 f)[3]! = s1 / f ∧
    ∀ k i u j v : Int, cFlat (Gen.rebinReshape3 d s0 s1 f) [k, i, u, j, v] = (k * s0 + (i * f + u)) * s1 + (j * f + v) := by
  have e0 : s0 / (f : Int) * f = s0 := Int.ediv_mul_cancel (Int.dvd_of_emod_eq_zero h0)
  have e1 : s1 / (f : Int) * f = s1 := Int.ediv_mul_cancel (Int.dvd_of_emod_eq_zero h1)
  refine ⟨?_, rfl, rfl, rfl, rfl, fun k i u j v => ?_⟩
  · simp only [Gen.rebinReshape3, List.foldl_cons, List.foldl_nil]
    linear_combination d * (s1 / (f : Int) * f) * e0 + d * s0 * e1
  · simp only [cFlat, Gen.rebinReshape3, List.zip_cons_cons, List.zip_nil_right, List.foldl_cons, List.foldl_nil]
    linear_combination k * (s1 / (f : Int) * f) * e0 + (k * s0 + (i * f + u)) * e1

example : rebin (⟨4, 6, fun i j => 10 * i + j⟩ : Arr Int) 2 ≠ none ∧ cFlat (Gen.rebinReshape2 4 6 2) [1, 1, 2, 0] = 3 * 6 + 4 := by decide

/-! ## sub-array extraction -/

/-- `subarray(a, (h, w), shift)` returns the `h × w` window whose sample `(i, j)` is the source sample at coordinate
`(i - ⌊h/2⌋ + shift₀, j - ⌊w/2⌋ + shift₁)` relative to the source's origin, and every such sample lies inside the source -/
theorem subarray_indices (a r : Arr K) (h w o0 o1 : Int) (hr : subarray a h w o0 o1 = .ok r) :
    r.s0 = h ∧ r.s1 = w ∧ ∀ i j, 0 ≤ i → i < h → 0 ≤ j → j < w →
      r.get i j = a.get (i - h / 2 + o0 + a.s0 / 2) (j - w / 2 + o1 + a.s1 / 2) ∧
      0 ≤ i - h / 2 + o0 + a.s0 / 2 ∧ i - h / 2 + o0 + a.s0 / 2 < a.s0 ∧
      0 ≤ j - w / 2 + o1 + a.s1 / 2 ∧ j - w / 2 + o1 + a.s1 / 2 < a.s1 := by
  rw [subarray_eq] at hr
  split at hr
  · cases hr
  · cases hr
    exact ⟨rfl, rfl, fun i j _ _ _ _ => ⟨rfl, by omega, by omega, by omega, by omega⟩⟩

/-- and it refuses (`ValueError`) exactly when some requested sample would lie outside the source -/
theorem subarray_refuses_iff (a : Arr K) (h w o0 o1 : Int) (hh : 0 < h) (hw : 0 < w) :
    (∃ r, subarray a h w o0 o1 = .ok r) ↔
      (∀ i, 0 ≤ i → i < h → 0 ≤ i - h / 2 + o0 + a.s0 / 2 ∧ i - h / 2 + o0 + a.s0 / 2 < a.s0) ∧
      (∀ j, 0 ≤ j → j < w → 0 ≤ j - w / 2 + o1 + a.s1 / 2 ∧ j - w / 2 + o1 + a.s1 / 2 < a.s1) := by
  rw [subarray_eq]
  split
  · refine ⟨fun ⟨r, hr⟩ => (by cases hr), fun ⟨hr, hc⟩ => ?_⟩
    have a0 := hr 0 (le_refl _) hh
    have a1 := hr (h - 1) (by omega) (by omega)
    have b0 := hc 0 (le_refl _) hw
    have b1 := hc (w - 1) (by omega) (by omega)
    omega
  · exact ⟨fun _ => ⟨fun i _ _ => by omega, fun j _ _ => by omega⟩, fun _ => ⟨_, rfl⟩⟩

example : ∃ r, subarray (⟨5, 4, fun i j => i + j⟩ : Arr Int) 2 3 1 0 = .ok r := ⟨_, rfl⟩

/-! ## bounding box, bounding slice and its offset -/

/-- `boundary` returns the bounding box of the samples above the threshold: inside the array, containing every such
sample, and tight (each of its four sides holds one) -/
theorem boundary_is_bbox (x : Arr Bool) (b : Extent) (h : boundary x = some b) :
    (0 ≤ b.rmin ∧ b.rmin ≤ b.rmax ∧ b.rmax < x.s0 ∧ 0 ≤ b.cmin ∧ b.cmin ≤ b.cmax ∧ b.cmax < x.s1) ∧
    (∀ i j : Nat, (i : Int) < x.s0 → (j : Int) < x.s1 → x.get i j = true →
      b.rmin ≤ i ∧ (i : Int) ≤ b.rmax ∧ b.cmin ≤ j ∧ (j : Int) ≤ b.cmax) ∧
    (∃ j : Nat, (j : Int) < x.s1 ∧ x.get b.rmin j = true) ∧ (∃ j : Nat, (j : Int) < x.s1 ∧ x.get b.rmax j = true) ∧
    (∃ i : Nat, (i : Int) < x.s0 ∧ x.get i b.cmin = true) ∧ (∃ i : Nat, (i : Int) < x.s0 ∧ x.get i b.cmax = true) :=
  boundary_bbox x b h

/-- `boundary` fails (NumPy: IndexError) exactly on an empty mask -/
theorem boundary_none_iff (x : Arr Bool) :
    boundary x = none ↔ ∀ i j : Nat, (i : Int) < x.s0 → (j : Int) < x.s1 → x.get i j = false := by
  constructor
  · intro h i j hi hj
    by_contra hx
    rw [Bool.not_eq_false] at hx
    have hr : rowAny x i = true := (anyBelow_iff _ _).2 ⟨j, by omega, hx⟩
    have hc : colAny x j = true := (anyBelow_iff _ _).2 ⟨i, by omega, hx⟩
    obtain ⟨r0, h1⟩ := firstTrue_exists (n := x.s0.toNat) (by omega) hr
    obtain ⟨r1, h2⟩ := lastTrue_exists (n := x.s0.toNat) (by omega) hr
    obtain ⟨c0, h3⟩ := firstTrue_exists (n := x.s1.toNat) (by omega) hc
    obtain ⟨c1, h4⟩ := lastTrue_exists (n := x.s1.toNat) (by omega) hc
    simp [boundary, h1, h2, h3, h4] at h
  · intro h
    cases hb : boundary x with
    | none => rfl
    | some b =>
      obtain ⟨⟨h0, _, _, _⟩, _, ⟨j, hj, hx⟩, _⟩ := boundary_is_bbox x b hb
      have := h b.rmin.toNat j (by omega) hj
      rw [Int.toNat_of_nonneg h0, hx] at this
      cases this

/-- **boundary_slice and slice_offset are consistent with the centre convention**: the padded bounding slice stays inside
the array, contains the bounding box, is the box grown by the pad except where clipped at the array border, and the window
it cuts, carried as a field with offset `slice_offset(slice, shape)`, occupies (in the extent convention of C06,
`array_extent`) exactly the pixels it was cut from, measured from the parent's origin sample `⌊S/2⌋` -/
theorem boundary_slice_offset_consistent (x : Arr Bool) (p0 p1 : Int) (sl : (Int × Int) × (Int × Int))
    (hp : 0 ≤ p0 ∧ 0 ≤ p1) (h : boundarySlice x p0 p1 = some sl) :
    ∃ b, boundary x = some b ∧
      (0 ≤ sl.1.1 ∧ sl.1.1 ≤ b.rmin ∧ b.rmax < sl.1.2 ∧ sl.1.2 ≤ x.s0 ∧ 0 ≤ sl.2.1 ∧ sl.2.1 ≤ b.cmin ∧ b.cmax < sl.2.2 ∧ sl.2.2 ≤ x.s1) ∧
      (sl.1.1 = 0 ∨ sl.1.1 = b.rmin - p0) ∧ (sl.1.2 = x.s0 ∨ sl.1.2 = b.rmax + p0 + 1) ∧
      (sl.2.1 = 0 ∨ sl.2.1 = b.cmin - p1) ∧ (sl.2.2 = x.s1 ∨ sl.2.2 = b.cmax + p1 + 1) ∧
      arrayExtent (sl.1.2 - sl.1.1) (sl.2.2 - sl.2.1) (Gen.sliceOffset sl.1.1 sl.1.2 sl.2.1 sl.2.2 x.s0 x.s1).1
          (Gen.sliceOffset sl.1.1 sl.1.2 sl.2.1 sl.2.2 x.s0 x.s1).2
        = ⟨sl.1.1 - x.s0 / 2, sl.1.2 - 1 - x.s0 / 2, sl.2.1 - x.s1 / 2, sl.2.2 - 1 - x.s1 / 2⟩ := by
  obtain ⟨b, hb, rfl⟩ := Option.map_eq_some_iff.1 h
  have sp := boundarySlice_spec b.rmin b.rmax b.cmin b.cmax x.s0 x.s1 p0 p1 (boundary_bbox x b hb).1 hp
  exact ⟨b, hb, sp.1, sp.2.1, sp.2.2.1, sp.2.2.2.1, sp.2.2.2.2.1, sliceOffset_extent ..⟩

example : boundarySlice (⟨3, 4, fun i j => decide (i = 1 ∧ j = 2)⟩ : Arr Bool) 1 0 = some ((0, 3), (2, 3)) := by decide

/-- **the bounding box does not depend on the physical scale of the data**: multiplying every sample and the threshold by the same
positive factor leaves the thresholded mask — hence `boundary`, `boundary_slice` and the offset — unchanged (no absolute tolerance may
enter the comparison `x > threshold`) -/
theorem boundary_scale_invariant {F : Type} [Field F] [LinearOrder F] [IsStrictOrderedRing F] (x : Arr F) (thr k : F) (hk : 0 < k) :
    gtMask ({ s0 := x.s0, s1 := x.s1, get := fun i j => x.get i j * k } : Arr F) (thr * k) = gtMask x thr ∧
    boundary (gtMask ({ s0 := x.s0, s1 := x.s1, get := fun i j => x.get i j * k } : Arr F) (thr * k)) = boundary (gtMask x thr) := by
  have h : gtMask ({ s0 := x.s0, s1 := x.s1, get := fun i j => x.get i j * k } : Arr F) (thr * k) = gtMask x thr := by
    unfold gtMask
    simp only [Arr.mk.injEq, true_and]
    funext i j
    exact decide_eq_decide.2 (mul_lt_mul_iff_left₀ hk)
  exact ⟨h, by rw [h]⟩

/-! ## rebinning and centroid -/

/-- **integer-factor rebinning preserves the sum** (whenever `reshape` accepts, i.e. the factor divides both axes) -/
theorem rebin_preserves_sum [AddCommMonoid K] (a r : Arr K) (f : ℕ) (h0 : 0 ≤ a.s0) (h1 : 0 ≤ a.s1)
    (h : rebin a f = some r) : r.total = a.total := by
  obtain ⟨⟨_, g0, g1⟩, rfl⟩ := rebin_eq_some h
  simp only [Arr.total_eq, sumRange_eq]
  rw [← toNat_ediv_mul h0 g0, ← toNat_ediv_mul h1 g1]
  simpa only [Nat.cast_add, Nat.cast_mul] using
    sum_blocks2 (a.s0 / (f : Int)).toNat (a.s1 / (f : Int)).toNat f (fun x y => a.get (x : Int) (y : Int))

/-- the cube branch of `rebin` preserves the sum of every slice and keeps the depth -/
theorem rebin3_preserves_sum [AddCommMonoid K] (a r : Cube K) (f : ℕ) (h0 : 0 ≤ a.s0) (h1 : 0 ≤ a.s1)
    (h : rebin3 a f = some r) : r.d = a.d ∧ ∀ k, (r.slice k).total = (a.slice k).total :=
  ⟨(rebin3_slice h 0).1, fun k => rebin_preserves_sum (a.slice k) _ f h0 h1 (rebin3_slice h k).2⟩

example : ((rebin (⟨4, 2, fun i j => i + 3 * j⟩ : Arr Int) 2).map fun r => (r.s0, r.s1, r.total)) = some (2, 1, 24) := by decide

/-- the centroid of a single sample of weight `v` at index `(p, q)` is `(p, q)` (rows first, zero-based): the numerators are
`p·v`, `q·v` over the total `v` -/
theorem centroid_of_indicator (s0 s1 p q : ℕ) (v : Int) (hp : p < s0) (hq : q < s1) :
    centroidNum ⟨s0, s1, fun i j => if i = p ∧ j = q then v else 0⟩ = ((p : Int) * v, (q : Int) * v, v) := by
  rw [← centroidNumK_int, centroidNumK_sums]
  have key : ∀ w : ℕ × ℕ → Int,
      ∑ x ∈ range s0 ×ˢ range s1, w x * (if (x.1 : Int) = p ∧ (x.2 : Int) = q then v else 0) = w (p, q) * v := by
    intro w
    rw [Finset.sum_eq_single (p, q)]
    · simp
    · intro x _ hx
      rw [if_neg fun h => hx (Prod.ext (by exact_mod_cast h.1) (by exact_mod_cast h.2)), mul_zero]
    · intro h; exact absurd (Finset.mem_product.2 ⟨Finset.mem_range.2 hp, Finset.mem_range.2 hq⟩) h
  refine Prod.ext (key fun x => x.1) (Prod.ext (key fun x => x.2) ?_)
  simpa using key fun _ => 1

/-- **the centroid is consistent with the centre convention**: an array that is unchanged by the half-turn about the sample
`(c₀, c₁)` (every non-zero sample has its mirror image `(2c₀ − i, 2c₁ − j)` inside the array, with the same value) has its centroid
at `(c₀, c₁)` — numerators `c₀·T`, `c₁·T` over the total `T`. With `c = ⌊n/2⌋` this is the origin sample of every drawn shape. -/
theorem centroid_of_half_turn_symmetric (n0 n1 c0 c1 : ℕ) (g : Int → Int → Int)
    (hsym : ∀ i j : ℕ, i < n0 → j < n1 → g i j ≠ 0 →
      i ≤ 2 * c0 ∧ j ≤ 2 * c1 ∧ 2 * c0 - i < n0 ∧ 2 * c1 - j < n1 ∧ g ((2 * c0 - i : ℕ) : Int) ((2 * c1 - j : ℕ) : Int) = g i j) :
    centroidNum ⟨n0, n1, g⟩ = ((c0 : Int) * (centroidNum ⟨n0, n1, g⟩).2.2, (c1 : Int) * (centroidNum ⟨n0, n1, g⟩).2.2,
      (centroidNum ⟨n0, n1, g⟩).2.2) := centroid_half_turn n0 n1 c0 c1 g hsym

/-- the centroid of the indicator of a set of samples is the mean position of the set (numerators `Σ_S i`, `Σ_S j`, total `|S|`) -/
theorem centroid_of_indicator_set (n0 n1 : ℕ) (S : Finset (ℕ × ℕ)) (hS : S ⊆ Finset.range n0 ×ˢ Finset.range n1)
    [DecidablePred (· ∈ S)] :
    centroidNum ⟨n0, n1, fun i j => if (i.toNat, j.toNat) ∈ S then 1 else 0⟩
      = (∑ p ∈ S, (p.1 : Int), ∑ p ∈ S, (p.2 : Int), (S.card : Int)) := by
  rw [← centroidNumK_int, centroidNumK_sums]
  simp [← Finset.sum_filter, Finset.filter_mem_eq_inter, Finset.inter_eq_right.2 hS]

example : centroidNum ⟨3, 5, fun i j => if (i = 0 ∧ j = 1) ∨ (i = 2 ∧ j = 3) ∨ (i = 1 ∧ j = 2) then 7 else 0⟩ = (1 * 21, 2 * 21, 21) := by decide

/-! ## hexagonal segment grid -/

/-- **tie to the source of `hex_ring`**: the model's ring IS the loop translation `Gen.hexRing` (the two nested `for` loops of the source as folds
over the state `(results, hex)`, statement by statement) with the translated `hex_neighbor`; it equals the recursive walk all ring lemmas are
proved about. Reordering the loop body, changing a bound or the neighbour rule changes the generated definition and breaks this theorem. -/
theorem hex_ring_translated (k : ℕ) :
    hexRing k = Gen.hexRing k ∧ hexRing k = (walkSides k 6).1 ∧
    ∀ (h : HexCell) (i : ℕ), hexNeighbor h i = Gen.hexAdd h (Gen.hexDirections.getD i (0, 0, 0)) :=
  ⟨rfl, hexRing_eq_walk k, fun _ _ => rfl⟩

/-- **tie to the source of the segment numbering of `hex_segments`**: the model's drawn segments are the statement-by-statement translation
`Gen.keptCells` of the centre test, the `seg` counter, the ring loops and the `seg not in drop` test; their numbers are `keptSegments` (the numbers
0 … 3k(k+1) not in `drop`, in order) and each drawn cell is the cell with that number in `segCells` (centre, then ring 1, ring 2, …). Moving
`seg += 1`, starting the count elsewhere or testing another number changes the generated definition and breaks this theorem. -/
theorem segment_numbering_translated (rings : ℕ) (drop : List ℕ) :
    keptCells rings drop = Gen.keptCells rings drop ∧
    (keptCells rings drop).map Prod.fst = keptSegments rings drop ∧
    ∀ p ∈ keptCells rings drop, (segCells rings)[p.1]? = some p.2 :=
  ⟨rfl, (keptCells_spec rings drop).1, (keptCells_spec rings drop).2⟩

/-- `hex_ring(k)` lists `6k` cells -/
theorem hex_ring_length (k : ℕ) : (hexRing k).length = 6 * k := hexRing_length k

/-- every cell of `hex_ring(k)` is a cube coordinate (`q + r + s = 0`) at cube distance exactly `k` from the centre:
all three coordinates lie in `[-k, k]` and one of them is `±k` -/
theorem hex_ring_cube_distance (k : ℕ) (c : HexCell) (hc : c ∈ hexRing k) :
    c.1 + c.2.1 + c.2.2 = 0 ∧ (-(k : Int) ≤ c.1 ∧ c.1 ≤ k) ∧ (-(k : Int) ≤ c.2.1 ∧ c.2.1 ≤ k) ∧ (-(k : Int) ≤ c.2.2 ∧ c.2.2 ≤ k) ∧
    (c.1 = k ∨ c.1 = -k ∨ c.2.1 = k ∨ c.2.1 = -k ∨ c.2.2 = k ∨ c.2.2 = -k) :=
  hexRing_cube k c hc

/-- the cells of a ring are pairwise distinct, and so are all cells of a `k`-ring aperture (cells of different rings lie at
different cube distances): distinct segment numbers are distinct grid cells -/
theorem hex_ring_distinct (k : ℕ) : (hexRing k).Nodup ∧ (segCells k).Nodup := ⟨hexRing_nodup k, segCells_nodup k⟩

/-- a `k`-ring aperture numbers `1 + 3k(k+1)` cells (centre = 0, then the rings in order) and draws exactly those whose
number is not in `drop`: their count is `1 + 3k(k+1)` minus the number of distinct in-range numbers dropped
(duplicates and out-of-range entries of `drop` do not matter) -/
theorem segment_count (k : ℕ) (drop : List ℕ) :
    (segCells k).length = 1 + 3 * k * (k + 1) ∧
    (keptSegments k drop).length
      = 1 + 3 * k * (k + 1) - ((List.range (1 + 3 * k * (k + 1))).filter fun s => drop.contains s).length := by
  refine ⟨segCells_length k, ?_⟩
  unfold keptSegments
  rw [segCells_length]
  have := List.length_eq_length_filter_add (l := List.range (1 + 3 * k * (k + 1))) (fun s => drop.contains s)
  rw [List.length_range] at this
  omega

example : (hexRing 2).length = 12 ∧ keptSegments 1 [0, 3, 3, 99] = [1, 2, 4, 5, 6] := by decide

/-! ## drawn shapes (over any linearly ordered field; the driver runs the same definitions at `Float`) -/
section Shapes
variable {K : Type} [Field K] [LinearOrder K] [IsStrictOrderedRing K]

/-- drawn shapes take values in [0, 1] (any parameters, antialiased or not) -/
theorem shape_range_01 (sqrt : K → K) (half : K) (n0 n1 : Int) (radius width height inner s0 s1 ca sa : K)
    (sinT cosT : Nat → K) (aa : Bool) (i j : Int) :
    (0 ≤ circleAt sqrt half n0 n1 radius s0 s1 aa i j ∧ circleAt sqrt half n0 n1 radius s0 s1 aa i j ≤ 1) ∧
    (0 ≤ rectangleAt half n0 n1 width height s0 s1 ca sa aa i j ∧ rectangleAt half n0 n1 width height s0 s1 ca sa aa i j ≤ 1) ∧
    (0 ≤ hexagonAt half inner sinT cosT n0 n1 s0 s1 aa i j ∧ hexagonAt half inner sinT cosT n0 n1 s0 s1 aa i j ≤ 1) := by
  refine ⟨?_, rectangleAt_mem01 .., ?_⟩
  · unfold circleAt; simp only
    cases aa
    · exact binarise_mem01 (clip01_mem _)
    · exact clip01_mem _
  · rcases hexagonAt_mem half inner sinT cosT n0 n1 s0 s1 aa i j with h | ⟨n, _, h⟩ <;> rw [h]
    · exact ⟨zero_le_one, le_rfl⟩
    · exact hexSide_mem ..

/-- without antialiasing every sample is 0 or 1 -/
theorem binary_without_aa (sqrt : K → K) (half : K) (n0 n1 : Int) (radius width height inner s0 s1 ca sa : K)
    (sinT cosT : Nat → K) (i j : Int) :
    (circleAt sqrt half n0 n1 radius s0 s1 false i j = 0 ∨ circleAt sqrt half n0 n1 radius s0 s1 false i j = 1) ∧
    (rectangleAt half n0 n1 width height s0 s1 ca sa false i j = 0 ∨ rectangleAt half n0 n1 width height s0 s1 ca sa false i j = 1) ∧
    (hexagonAt half inner sinT cosT n0 n1 s0 s1 false i j = 0 ∨ hexagonAt half inner sinT cosT n0 n1 s0 s1 false i j = 1) := by
  refine ⟨?_, rectangleAt_binary .., ?_⟩
  · unfold circleAt; simp only [Bool.false_eq_true, if_false]
    exact binarise_mem (clip01_mem _)
  · rcases hexagonAt_mem half inner sinT cosT n0 n1 s0 s1 false i j with h | ⟨n, _, h⟩ <;> rw [h]
    · exact Or.inr rfl
    · exact hexSide_binary ..

/-- shifting a shape by an integer vector `(d0, d1)` translates its samples exactly: the value at index `(i, j)` is the
value of the unshifted drawing at index `(i - d0, j - d1)` (same shape parameters, same array size) -/
theorem integer_shift_translates (sqrt : K → K) (half : K) (n0 n1 : Int) (radius width height inner s0 s1 ca sa : K)
    (sinT cosT : Nat → K) (aa : Bool) (i j d0 d1 : Int) :
    circleAt sqrt half n0 n1 radius (s0 + d0) (s1 + d1) aa i j = circleAt sqrt half n0 n1 radius s0 s1 aa (i - d0) (j - d1) ∧
    rectangleAt half n0 n1 width height (s0 + d0) (s1 + d1) ca sa aa i j
      = rectangleAt half n0 n1 width height s0 s1 ca sa aa (i - d0) (j - d1) ∧
    hexagonAt half inner sinT cosT n0 n1 (s0 + d0) (s1 + d1) aa i j = hexagonAt half inner sinT cosT n0 n1 s0 s1 aa (i - d0) (j - d1) := by
  refine ⟨?_, rectangleAt_shift .., ?_⟩
  · unfold circleAt; rw [meshCoord_shift, meshCoord_shift]
  · unfold hexagonAt; rw [meshCoord_shift, meshCoord_shift]

/-- `shape.spider` (one minus an offset rectangle) inherits the clauses: values in [0, 1], binary without antialiasing, and exact
translation under integer shifts -/
theorem spider_range_binary_shift (half sqrt2 : K) (n0 n1 : Int) (width s0 s1 ca sa : K) (aa : Bool) (i j d0 d1 : Int) :
    (0 ≤ spiderAt half sqrt2 n0 n1 width s0 s1 ca sa aa i j ∧ spiderAt half sqrt2 n0 n1 width s0 s1 ca sa aa i j ≤ 1) ∧
    (spiderAt half sqrt2 n0 n1 width s0 s1 ca sa false i j = 0 ∨ spiderAt half sqrt2 n0 n1 width s0 s1 ca sa false i j = 1) ∧
    spiderAt half sqrt2 n0 n1 width (s0 + d0) (s1 + d1) ca sa aa i j = spiderAt half sqrt2 n0 n1 width s0 s1 ca sa aa (i - d0) (j - d1) := by
  have key : ∀ r : K, r = 0 ∨ r = 1 → 1 - r = 0 ∨ 1 - r = 1 := by rintro r (rfl | rfl) <;> simp
  unfold spiderAt
  refine ⟨⟨sub_nonneg.2 (rectangleAt_mem01 ..).2, sub_le_self _ (rectangleAt_mem01 ..).1⟩, key _ (rectangleAt_binary ..), ?_⟩
  simp only
  rw [add_right_comm s0, add_right_comm s1, rectangleAt_shift]

/-- the mesh index map: index `i` carries coordinate `i - ⌊n/2⌋` (so the origin sample is index `⌊n/2⌋`), and the
half-turn about the origin sample, `i ↦ 2⌊n/2⌋ - i`, negates it -/
theorem mesh_origin_and_half_turn (n i : Int) :
    meshCoord n (n / 2) (0 : K) = 0 ∧ meshCoord n (2 * (n / 2) - i) (0 : K) = -meshCoord n i (0 : K) := by
  refine ⟨?_, meshCoord_half_turn n i⟩
  unfold meshCoord Gen.meshCoord; simp

/-- circles and rectangles (any rotation) centred on the origin sample are unchanged by the half-turn about it -/
theorem circle_rect_half_turn (sqrt : K → K) (half : K) (n0 n1 : Int) (radius width height ca sa : K) (aa : Bool) (i j : Int) :
    circleAt sqrt half n0 n1 radius 0 0 aa (2 * (n0 / 2) - i) (2 * (n1 / 2) - j) = circleAt sqrt half n0 n1 radius 0 0 aa i j ∧
    rectangleAt half n0 n1 width height 0 0 ca sa aa (2 * (n0 / 2) - i) (2 * (n1 / 2) - j)
      = rectangleAt half n0 n1 width height 0 0 ca sa aa i j := by
  refine ⟨?_, ?_⟩
  · unfold circleAt; simp only [meshCoord_half_turn, neg_mul_neg]
  · unfold rectangleAt; simp only [meshCoord_half_turn, absK_eq_abs, meshRot_neg, abs_neg]

/-- hexagons: the six edge normals are closed under negation (`normal (n+3) = -normal n`, true of the angles
`n·π/3 + φ`), hence the hexagon centred on the origin sample is unchanged by the half-turn -/
theorem hexagon_half_turn (half inner : K) (sinT cosT : Nat → K) (n0 n1 : Int) (aa : Bool) (i j : Int)
    (hs : ∀ n, n < 3 → sinT (n + 3) = -sinT n) (hc : ∀ n, n < 3 → cosT (n + 3) = -cosT n) :
    hexagonAt half inner sinT cosT n0 n1 0 0 aa (2 * (n0 / 2) - i) (2 * (n1 / 2) - j)
      = hexagonAt half inner sinT cosT n0 n1 0 0 aa i j := by
  refine hexagonAt_reindex (fun n => (n + 3) % 6) (fun n hn => by omega) fun n hn => ?_
  rw [meshCoord_half_turn, meshCoord_half_turn, antipodal_mod hs n hn, antipodal_mod hc n hn, neg_mul_neg, neg_mul_neg]

/-- mirror symmetry about the origin row when not rotated: circles, rectangles at angle 0 (`ca = 1`, `sa = 0`) and hexagons
(whose normal set is closed under `(s, c) ↦ (−s, c)`: `normal (5−n)` mirrors `normal n`, true of the angles `n·π/3 + π/6`
and `n·π/3`… up to the index permutation stated in the hypotheses) are unchanged by `i ↦ 2⌊n0/2⌋ − i` -/
theorem mirror_when_unrotated (sqrt : K → K) (half : K) (n0 n1 : Int) (radius width height inner : K) (sinT cosT : Nat → K)
    (perm : Nat → Nat) (hperm : perm 0 = 5 ∧ perm 1 = 4 ∧ perm 2 = 3 ∧ perm 3 = 2 ∧ perm 4 = 1 ∧ perm 5 = 0)
    (hs : ∀ n, n < 6 → sinT (perm n) = -sinT n) (hc : ∀ n, n < 6 → cosT (perm n) = cosT n) (aa : Bool) (i j : Int) :
    circleAt sqrt half n0 n1 radius 0 0 aa (2 * (n0 / 2) - i) j = circleAt sqrt half n0 n1 radius 0 0 aa i j ∧
    rectangleAt half n0 n1 width height 0 0 1 0 aa (2 * (n0 / 2) - i) j = rectangleAt half n0 n1 width height 0 0 1 0 aa i j ∧
    hexagonAt half inner sinT cosT n0 n1 0 0 aa (2 * (n0 / 2) - i) j = hexagonAt half inner sinT cosT n0 n1 0 0 aa i j := by
  refine ⟨?_, ?_, ?_⟩
  · unfold circleAt; simp only [meshCoord_half_turn, neg_mul_neg]
  · unfold rectangleAt; simp only [meshCoord_half_turn, absK_eq_abs, meshRot_unrotated, abs_neg]
  · refine hexagonAt_row_mirror perm (fun n hn => ?_) hs hc ..
    obtain ⟨p0, p1, p2, p3, p4, p5⟩ := hperm
    obtain rfl | rfl | rfl | rfl | rfl | rfl : n = 0 ∨ n = 1 ∨ n = 2 ∨ n = 3 ∨ n = 4 ∨ n = 5 := by omega
    all_goals simp [*]

/-- rotated hexagons (`θₙ = n·π/3`) are mirror symmetric about the origin row too: the mirror image of normal `n` is normal
`(6 − n) mod 6` (`θ ↦ −θ`), i.e. the permutation 0, 5, 4, 3, 2, 1 -/
theorem mirror_rotated_hexagon (half inner : K) (n0 n1 : Int) (sinT cosT : Nat → K)
    (perm : Nat → Nat) (hperm : perm 0 = 0 ∧ perm 1 = 5 ∧ perm 2 = 4 ∧ perm 3 = 3 ∧ perm 4 = 2 ∧ perm 5 = 1)
    (hs : ∀ n, n < 6 → sinT (perm n) = -sinT n) (hc : ∀ n, n < 6 → cosT (perm n) = cosT n) (aa : Bool) (i j : Int) :
    hexagonAt half inner sinT cosT n0 n1 0 0 aa (2 * (n0 / 2) - i) j = hexagonAt half inner sinT cosT n0 n1 0 0 aa i j := by
  refine hexagonAt_row_mirror perm (fun n hn => ?_) hs hc ..
  obtain ⟨p0, p1, p2, p3, p4, p5⟩ := hperm
  obtain rfl | rfl | rfl | rfl | rfl | rfl : n = 0 ∨ n = 1 ∨ n = 2 ∨ n = 3 ∨ n = 4 ∨ n = 5 := by omega
  all_goals simp [*]

/-- KNOWN FINDING (KF-C20-hex-gap0-shared-edge), witness on the model: with `seg_gap = 0` and no antialiasing the edge test
is the closed half-plane `rho ≤ inner` on both sides of a shared edge, so a pixel centre lying exactly on the common edge of two
neighbouring segments (here: row coordinate `inner` from the first centre, the neighbour's centre `2·inner` further along the
normal) passes the test of both — the segments are not disjoint. -/
theorem kf_hex_gap0_shared_edge (half inner c : K) :
    hexSide half inner false inner c 1 0 = 1 ∧ hexSide half inner false (inner - 2 * inner) c (-1) 0 = 1 := by
  rw [hexSide_eq_one_iff, hexSide_eq_one_iff]
  exact ⟨le_of_eq (by ring), le_of_eq (by ring)⟩

/-! ### cross-helper: `util.centroid` of a drawn shape is the origin sample -/

/-- **any image that is unchanged by the half-turn about the origin sample `(⌊n₀/2⌋, ⌊n₁/2⌋)` and is clear of the leading border row /
column when that axis is even** (the mirror image of index 0 on an even axis is index n: outside the array) has its weighted centroid
(`util.centroid`, any scalar: antialiased values included) at the origin sample: numerators `⌊n₀/2⌋·T`, `⌊n₁/2⌋·T` over the total `T` -/
theorem centroid_of_centred_image (n0 n1 : ℕ) (g : Int → Int → K)
    (hsym : ∀ i j : Int, g (2 * ((n0 : Int) / 2) - i) (2 * ((n1 : Int) / 2) - j) = g i j)
    (hr : n0 % 2 = 0 → ∀ j : Int, g 0 j = 0) (hc : n1 % 2 = 0 → ∀ i : Int, g i 0 = 0) :
    centroidNumK ⟨n0, n1, g⟩ = (((n0 / 2 : ℕ) : K) * (centroidNumK ⟨n0, n1, g⟩).2.2, ((n1 / 2 : ℕ) : K) * (centroidNumK ⟨n0, n1, g⟩).2.2,
      (centroidNumK ⟨n0, n1, g⟩).2.2) := by
  apply centroid_half_turn
  intro i j hi hj hne
  have hi0 : n0 % 2 = 0 → i ≠ 0 := fun h e => hne (by rw [e]; exact hr h j)
  have hj0 : n1 % 2 = 0 → j ≠ 0 := fun h e => hne (by rw [e]; exact hc h i)
  have hi2 : i ≤ 2 * (n0 / 2) := by omega
  have hj2 : j ≤ 2 * (n1 / 2) := by omega
  refine ⟨hi2, hj2, by omega, by omega, ?_⟩
  rw [Int.ofNat_sub hi2, Int.ofNat_sub hj2]
  exact hsym i j

/-- **the centroid of a drawn circle, rectangle (any rotation) or hexagon with zero shift is the origin sample `(⌊n₀/2⌋, ⌊n₁/2⌋)`** —
`util.centroid` and `shape.*` share the centre convention — whenever the shape is clear of the leading border row / column of an even axis
(`hex_clear_of_border` gives this for the segment arrays; a shape that touches the border is cropped asymmetrically) -/
theorem centroid_of_drawn_shapes (sqrt : K → K) (half inner : K) (sinT cosT : Nat → K) (n0 n1 : ℕ) (radius width height ca sa : K) (aa : Bool)
    (hs : ∀ n, n < 3 → sinT (n + 3) = -sinT n) (hcs : ∀ n, n < 3 → cosT (n + 3) = -cosT n) :
    let circ := fun i j : Int => circleAt sqrt half n0 n1 radius 0 0 aa i j
    let rect := fun i j : Int => rectangleAt half n0 n1 width height 0 0 ca sa aa i j
    let hex := fun i j : Int => hexagonAt half inner sinT cosT n0 n1 0 0 aa i j
    ∀ g ∈ [circ, rect, hex], (n0 % 2 = 0 → ∀ j : Int, g 0 j = 0) → (n1 % 2 = 0 → ∀ i : Int, g i 0 = 0) →
      centroidNumK ⟨n0, n1, g⟩ = (((n0 / 2 : ℕ) : K) * (centroidNumK ⟨n0, n1, g⟩).2.2, ((n1 / 2 : ℕ) : K) * (centroidNumK ⟨n0, n1, g⟩).2.2,
        (centroidNumK ⟨n0, n1, g⟩).2.2) := by
  intro circ rect hex g hg hr hc
  apply centroid_of_centred_image n0 n1 g _ hr hc
  simp only [List.mem_cons, List.mem_nil_iff, or_false] at hg
  rcases hg with rfl | rfl | rfl
  · intro i j; exact (circle_rect_half_turn sqrt half n0 n1 radius width height ca sa aa i j).1
  · intro i j; exact (circle_rect_half_turn sqrt half n0 n1 radius width height ca sa aa i j).2
  · intro i j; exact hexagon_half_turn half inner sinT cosT n0 n1 aa i j hs hcs

/-- **mirror symmetry about the origin COLUMN** (`j ↦ 2⌊n1/2⌋ − j`) of unrotated circles, rectangles and hexagons: the composition of the half-turn
(`circle_rect_half_turn`, `hexagon_half_turn`) with the row mirror (`mirror_when_unrotated`), under the same table hypotheses on the six edge normals -/
theorem column_mirror_when_unrotated (sqrt : K → K) (half : K) (n0 n1 : Int) (radius width height inner : K) (sinT cosT : Nat → K)
    (perm : Nat → Nat) (hperm : perm 0 = 5 ∧ perm 1 = 4 ∧ perm 2 = 3 ∧ perm 3 = 2 ∧ perm 4 = 1 ∧ perm 5 = 0)
    (hs : ∀ n, n < 6 → sinT (perm n) = -sinT n) (hc : ∀ n, n < 6 → cosT (perm n) = cosT n)
    (hs3 : ∀ n, n < 3 → sinT (n + 3) = -sinT n) (hc3 : ∀ n, n < 3 → cosT (n + 3) = -cosT n) (aa : Bool) (i j : Int) :
    circleAt sqrt half n0 n1 radius 0 0 aa i (2 * (n1 / 2) - j) = circleAt sqrt half n0 n1 radius 0 0 aa i j ∧
    rectangleAt half n0 n1 width height 0 0 1 0 aa i (2 * (n1 / 2) - j) = rectangleAt half n0 n1 width height 0 0 1 0 aa i j ∧
    hexagonAt half inner sinT cosT n0 n1 0 0 aa i (2 * (n1 / 2) - j) = hexagonAt half inner sinT cosT n0 n1 0 0 aa i j := by
  have turn := fun i j => circle_rect_half_turn sqrt half n0 n1 radius width height 1 0 aa i j
  have mirror := fun i j => mirror_when_unrotated sqrt half n0 n1 radius width height inner sinT cosT perm hperm hs hc aa i j
  exact ⟨column_mirror_of_half_turn_and_row_mirror _ _ _ (fun i j => (turn i j).1) (fun i j => (mirror i j).1) i j,
    column_mirror_of_half_turn_and_row_mirror _ _ _ (fun i j => (turn i j).2) (fun i j => (mirror i j).2.1) i j,
    column_mirror_of_half_turn_and_row_mirror _ _ _ (fun i j => hexagon_half_turn half inner sinT cosT n0 n1 aa i j hs3 hc3)
      (fun i j => (mirror i j).2.2) i j⟩

end Shapes

/-- **non-vacuity of `centroid_of_centred_image` / `centroid_of_drawn_shapes`**: the 2 × 2 binary rectangle on a 6 × 6 array (even axes) over ℚ has
row 0 and column 0 empty, is half-turn symmetric, and its centroid numerators are `3·T`, `3·T` — the origin sample ⌊6/2⌋ = 3 -/
theorem centroid_of_drawn_rectangle_instance :
    (∀ j : Int, exRect 0 j = 0) ∧ (∀ i : Int, exRect i 0 = 0) ∧
    centroidNumK ⟨6, 6, exRect⟩ = (((3 : ℕ) : ℚ) * (centroidNumK ⟨6, 6, exRect⟩).2.2, ((3 : ℕ) : ℚ) * (centroidNumK ⟨6, 6, exRect⟩).2.2,
      (centroidNumK ⟨6, 6, exRect⟩).2.2) := by
  refine ⟨fun j => (exRect_border 0 j).1, fun i => (exRect_border i 0).2, ?_⟩
  exact centroid_of_centred_image 6 6 exRect
    (fun i j => (circle_rect_half_turn (fun x => x) (1 / 2 : ℚ) 6 6 0 2 2 1 0 false i j).2)
    (fun _ j => (exRect_border 0 j).1) (fun _ i => (exRect_border i 0).2)


/-- **segments do not overlap when the gap is positive** (judged on non-antialiased masks, both orientations): two segments
drawn by `hex_segments` at distinct grid cells `a ≠ b` (cube coordinates, `q + r + s = 0`) never both contain a pixel.
`hh` stands for `√3/2`: `inner = R·hh`, the centres are `hex_to_rc(cell, R + g/2)` with constants `√3 = 2·hh`, `√3/2 = hh`, `3/2`, and
the edge normals are the tables of `hexagon_normal_tables`. Separating axis: along the normal `n` that sees the largest difference
of cube coordinates the centres are `≥ 2·(R + g/2)·hh = 2·inner + g·hh` apart, while a common pixel would force `≤ 2·inner`. -/
theorem hex_disjoint_pos_gap {K : Type} [Field K] [LinearOrder K] [IsStrictOrderedRing K]
    (half hh R g : K) (sinT cosT : Nat → K) (n : Int) (a b : HexCell) (i j : Int) (rotate : Bool)
    (hhpos : 0 < hh) (hR : 0 ≤ R) (hg : 0 < g)
    (hT : if rotate then
            (sinT 0 = 0 ∧ cosT 0 = 1 ∧ sinT 1 = hh ∧ cosT 1 = 1 / 2 ∧ sinT 2 = hh ∧ cosT 2 = -(1 / 2) ∧
             sinT 3 = 0 ∧ cosT 3 = -1 ∧ sinT 4 = -hh ∧ cosT 4 = -(1 / 2) ∧ sinT 5 = -hh ∧ cosT 5 = 1 / 2)
          else
            (sinT 0 = 1 / 2 ∧ cosT 0 = hh ∧ sinT 1 = 1 ∧ cosT 1 = 0 ∧ sinT 2 = 1 / 2 ∧ cosT 2 = -hh ∧
             sinT 3 = -(1 / 2) ∧ cosT 3 = -hh ∧ sinT 4 = -1 ∧ cosT 4 = 0 ∧ sinT 5 = -(1 / 2) ∧ cosT 5 = hh))
    (ha : a.1 + a.2.1 + a.2.2 = 0) (hb : b.1 + b.2.1 + b.2.2 = 0) (hab : a ≠ b) :
    ¬ (hexagonAt half (R * hh) sinT cosT n n (hexToRC (2 * hh) hh (3 / 2) a (R + g / 2) rotate).1
          (hexToRC (2 * hh) hh (3 / 2) a (R + g / 2) rotate).2 false i j = 1 ∧
       hexagonAt half (R * hh) sinT cosT n n (hexToRC (2 * hh) hh (3 / 2) b (R + g / 2) rotate).1
          (hexToRC (2 * hh) hh (3 / 2) b (R + g / 2) rotate).2 false i j = 1) := by
  cases rotate
  · exact hex_disjoint_unrotated half hh R g sinT cosT n a b i j hhpos hg hT ha hb hab
  · rw [hexagonAt_rotated, hexagonAt_rotated]
    exact hex_disjoint_unrotated half hh R g _ _ n _ _ j i hhpos hg (HexNormalsRotated.transpose hT) (by simp only; omega) (by simp only; omega)
      fun h => hab (by simp only [Prod.mk.injEq, neg_inj] at h; exact Prod.ext h.2.1 (Prod.ext h.1 h.2.2))

/-- **segments are clear of the array border** (default `pad ≥ 2`, both orientations, any gap ≥ 0): a pixel of the segment drawn at a
cell within cube distance `k = rings` has row and column index in `[1, size − 2]`, where `size` is any integer at least
`(2k+1)·2·inner + 2k·g + 2·pad` (the code takes the ceiling of exactly that). `hh` stands for `√3/2` and only `5/6 ≤ hh ≤ 1` is used
(`sqrt3_half_in_range`). Extents: a hexagon reaches `inner` across its flats and `R` across its vertices; the centres lie within
`2k·(R+g/2)·hh` resp. `(3/2)k·(R+g/2)` of the array centre `⌊size/2⌋`. -/
theorem hex_clear_of_border {K : Type} [Field K] [LinearOrder K] [IsStrictOrderedRing K]
    (half hh R g pad : K) (sinT cosT : Nat → K) (size : Int) (k : Nat) (a : HexCell) (i j : Int) (rotate : Bool)
    (hh56 : 5 / 6 ≤ hh) (hh1 : hh ≤ 1) (hR : 0 ≤ R) (hg : 0 ≤ g) (hpad : 2 ≤ pad) (hk : 1 ≤ k)
    (hsize : ((2 * k + 1 : ℕ) : K) * (R * hh) * 2 + ((2 * k : ℕ) : K) * g + pad * 2 ≤ (size : K))
    (hT : if rotate then
            (sinT 0 = 0 ∧ cosT 0 = 1 ∧ sinT 1 = hh ∧ cosT 1 = 1 / 2 ∧ sinT 2 = hh ∧ cosT 2 = -(1 / 2) ∧
             sinT 3 = 0 ∧ cosT 3 = -1 ∧ sinT 4 = -hh ∧ cosT 4 = -(1 / 2) ∧ sinT 5 = -hh ∧ cosT 5 = 1 / 2)
          else
            (sinT 0 = 1 / 2 ∧ cosT 0 = hh ∧ sinT 1 = 1 ∧ cosT 1 = 0 ∧ sinT 2 = 1 / 2 ∧ cosT 2 = -hh ∧
             sinT 3 = -(1 / 2) ∧ cosT 3 = -hh ∧ sinT 4 = -1 ∧ cosT 4 = 0 ∧ sinT 5 = -(1 / 2) ∧ cosT 5 = hh))
    (hcell : a ∈ segCells k)
    (hin : hexagonAt half (R * hh) sinT cosT size size (hexToRC (2 * hh) hh (3 / 2) a (R + g / 2) rotate).1
          (hexToRC (2 * hh) hh (3 / 2) a (R + g / 2) rotate).2 false i j = 1) :
    (1 ≤ i ∧ i ≤ size - 2) ∧ (1 ≤ j ∧ j ≤ size - 2) :=
  hex_border half hh R 0 g pad sinT cosT size k a i j rotate hh56 hh1 hR le_rfl one_pos hg hpad hk hsize hT
    (segCells_cube k a hcell).1 (segCells_cube k a hcell).2 (by rwa [add_zero])

/-- **the ANTIALIASED segments — the library default `antialias=True` — are clear of the array border too** (`pad ≥ 2`, both orientations, any
gap ≥ 0): every pixel with a non-zero antialiased value of the segment at a cell within cube distance `k = rings` has row and column index in
`[1, size − 2]`. The antialiased edge profile `clip(inner + 1/2 − ρ)` reaches half a pixel beyond the flats and at most `(1/2)/(√3/2) ≤ 3/5` of a
pixel beyond the vertices; `pad ≥ 2` leaves room for that. -/
theorem hex_clear_of_border_antialiased {K : Type} [Field K] [LinearOrder K] [IsStrictOrderedRing K]
    (half hh R g pad : K) (hhalf : half = 1 / 2) (sinT cosT : Nat → K) (size : Int) (k : Nat) (a : HexCell) (i j : Int) (rotate : Bool)
    (hh56 : 5 / 6 ≤ hh) (hh1 : hh ≤ 1) (hR : 0 ≤ R) (hg : 0 ≤ g) (hpad : 2 ≤ pad) (hk : 1 ≤ k)
    (hsize : ((2 * k + 1 : ℕ) : K) * (R * hh) * 2 + ((2 * k : ℕ) : K) * g + pad * 2 ≤ (size : K))
    (hT : if rotate then
            (sinT 0 = 0 ∧ cosT 0 = 1 ∧ sinT 1 = hh ∧ cosT 1 = 1 / 2 ∧ sinT 2 = hh ∧ cosT 2 = -(1 / 2) ∧
             sinT 3 = 0 ∧ cosT 3 = -1 ∧ sinT 4 = -hh ∧ cosT 4 = -(1 / 2) ∧ sinT 5 = -hh ∧ cosT 5 = 1 / 2)
          else
            (sinT 0 = 1 / 2 ∧ cosT 0 = hh ∧ sinT 1 = 1 ∧ cosT 1 = 0 ∧ sinT 2 = 1 / 2 ∧ cosT 2 = -hh ∧
             sinT 3 = -(1 / 2) ∧ cosT 3 = -hh ∧ sinT 4 = -1 ∧ cosT 4 = 0 ∧ sinT 5 = -(1 / 2) ∧ cosT 5 = hh))
    (hcell : a ∈ segCells k)
    (hin : 0 < hexagonAt half (R * hh) sinT cosT size size (hexToRC (2 * hh) hh (3 / 2) a (R + g / 2) rotate).1
          (hexToRC (2 * hh) hh (3 / 2) a (R + g / 2) rotate).2 true i j) :
    (1 ≤ i ∧ i ≤ size - 2) ∧ (1 ≤ j ∧ j ≤ size - 2) := by
  have hhalf_lt : half < hh := hhalf ▸ lt_of_lt_of_le (by norm_num) hh56
  have hhpos : 0 < hh := lt_of_lt_of_le (by norm_num) hh56
  have hin1 := hexagonAt_aa_pos half (R * hh) sinT cosT size size _ _ i j hin
  rw [show R * hh + half = (R + half / hh) * hh by rw [add_mul, div_mul_cancel₀ _ hhpos.ne']] at hin1
  exact hex_border half hh R (half / hh) g pad sinT cosT size k a i j rotate hh56 hh1 hR
    (div_nonneg (hhalf ▸ by norm_num) hhpos.le) ((div_lt_one hhpos).2 hhalf_lt) hg hpad hk hsize hT
    (segCells_cube k a hcell).1 (segCells_cube k a hcell).2 hin1

/-- **the two segment theorems over the code's own expressions.** `Gen.hexInner`, `Gen.hexSizeArg`, `Gen.hexPitch` and `Gen.hexToRC` are
re-translated from `hex_segments` / `hex_to_xy` / `hex_to_rc` on every run and are what the driver executes; with `sqrtN 3 = 2·hh`
(`hh = √3/2`) they are the closed forms used above (`genHexToRC_eq` … `genHexSizeArg_eq`), so: segments at distinct cells of a gap > 0 aperture share no pixel,
and — for `pad ≥ 2`, any `ceil` with `x ≤ ceil x` — every pixel of every segment of a k-ring aperture lies in `[1, size − 2]` for the size
the code computes. An edit of the pitch, the size formula or the cell-to-centre map changes these definitions and breaks this theorem. -/
theorem hex_segments_code {K : Type} [Field K] [LinearOrder K] [IsStrictOrderedRing K]
    (ceil : K → Int) (hceil : ∀ x : K, x ≤ ((ceil x : Int) : K)) (sqrtN : ℕ → K)
    (half hh R g : K) (pad : Nat) (sinT cosT : Nat → K) (k : Nat) (a b : HexCell) (i j : Int) (rotate : Bool)
    (hs : sqrtN 3 = 2 * hh) (hh56 : 5 / 6 ≤ hh) (hh1 : hh ≤ 1) (hR : 0 ≤ R)
    (hT : if rotate then
            (sinT 0 = 0 ∧ cosT 0 = 1 ∧ sinT 1 = hh ∧ cosT 1 = 1 / 2 ∧ sinT 2 = hh ∧ cosT 2 = -(1 / 2) ∧
             sinT 3 = 0 ∧ cosT 3 = -1 ∧ sinT 4 = -hh ∧ cosT 4 = -(1 / 2) ∧ sinT 5 = -hh ∧ cosT 5 = 1 / 2)
          else
            (sinT 0 = 1 / 2 ∧ cosT 0 = hh ∧ sinT 1 = 1 ∧ cosT 1 = 0 ∧ sinT 2 = 1 / 2 ∧ cosT 2 = -hh ∧
             sinT 3 = -(1 / 2) ∧ cosT 3 = -hh ∧ sinT 4 = -1 ∧ cosT 4 = 0 ∧ sinT 5 = -(1 / 2) ∧ cosT 5 = hh)) :
    let n := hexSegmentsSize ceil sqrtN k pad R g
    let seg := fun (c : HexCell) => hexagonAt half (Gen.hexInner sqrtN R) sinT cosT n n
      (Gen.hexToRC sqrtN c (Gen.hexPitch R g) rotate).1 (Gen.hexToRC sqrtN c (Gen.hexPitch R g) rotate).2 false i j
    (0 < g → a.1 + a.2.1 + a.2.2 = 0 → b.1 + b.2.1 + b.2.2 = 0 → a ≠ b → ¬ (seg a = 1 ∧ seg b = 1)) ∧
    (0 ≤ g → 2 ≤ pad → 1 ≤ k → a ∈ segCells k → seg a = 1 → (1 ≤ i ∧ i ≤ n - 2) ∧ (1 ≤ j ∧ j ≤ n - 2)) := by
  intro n seg
  have hhpos : 0 < hh := lt_of_lt_of_le (by norm_num) hh56
  simp only [seg, genHexInner_eq hs, genHexPitch_eq, genHexToRC_eq hs]
  refine ⟨fun hg ha hb hab => hex_disjoint_pos_gap half hh R g sinT cosT n a b i j rotate hhpos hR hg hT ha hb hab,
    fun hg hpad hk hcell hin => ?_⟩
  refine hex_clear_of_border half hh R g (pad : K) sinT cosT n k a i j rotate hh56 hh1 hR hg (by exact_mod_cast hpad) hk ?_ hT hcell hin
  rw [← genHexSizeArg_eq hs]
  exact hceil _

/-- KNOWN FINDING (KF-C20-hex-gap0-shared-edge), witness at a concrete pixel of the model: for an integer circumradius `R`, gap 0 and no
antialiasing, the pixel `R` columns right of the centre sample (`(⌊n/2⌋, ⌊n/2⌋ + R)`, the right-hand vertex of the central hexagon) is
drawn both by the central segment and by its neighbour at cell `(1, 0, −1)` — the two masks overlap -/
theorem kf_hex_gap0_shared_vertex_pixel {K : Type} [Field K] [LinearOrder K] [IsStrictOrderedRing K]
    (half hh : K) (sinT cosT : Nat → K) (n : Int) (R : ℕ) (hhpos : 0 < hh)
    (hT : sinT 0 = 1 / 2 ∧ cosT 0 = hh ∧ sinT 1 = 1 ∧ cosT 1 = 0 ∧ sinT 2 = 1 / 2 ∧ cosT 2 = -hh ∧
          sinT 3 = -(1 / 2) ∧ cosT 3 = -hh ∧ sinT 4 = -1 ∧ cosT 4 = 0 ∧ sinT 5 = -(1 / 2) ∧ cosT 5 = hh) :
    hexagonAt half ((R : K) * hh) sinT cosT n n 0 0 false (n / 2) (n / 2 + R) = 1 ∧
    hexagonAt half ((R : K) * hh) sinT cosT n n (hexToRC (2 * hh) hh (3 / 2) (1, 0, -1) ((R : K) + 0 / 2) false).1
      (hexToRC (2 * hh) hh (3 / 2) (1, 0, -1) ((R : K) + 0 / 2) false).2 false (n / 2) (n / 2 + R) = 1 := by
  have hRh : (0 : K) ≤ R * hh := mul_nonneg (Nat.cast_nonneg R) hhpos.le
  -- the pixel is the vertex `(0, R)` of the central hexagon and the vertex `(R·hh, −R/2)` of its neighbour: each strip coordinate is `0` or `±R·hh`
  have v : ∀ x : K, x = R * hh ∨ x = 0 ∨ x = -(R * hh) → |x| ≤ R * hh := by
    rintro x (rfl | rfl | rfl)
    · exact (abs_of_nonneg hRh).le
    · rwa [abs_zero]
    · rw [abs_neg]; exact (abs_of_nonneg hRh).le
  have hc := meshCoord_add_half (K := K) n 0
  rw [add_zero] at hc
  rw [hexagonAt_unrotated_iff hT, hexagonAt_unrotated_iff hT, hexToRC_unrotated, hc, hc, meshCoord_add_half, meshCoord_add_half]
  exact ⟨⟨v _ (.inl (by push_cast; ring)), v _ (.inr (.inl (by push_cast; ring))), v _ (.inr (.inr (by push_cast; ring)))⟩,
    v _ (.inr (.inl (by push_cast; ring))), v _ (.inl (by push_cast; ring)), v _ (.inl (by push_cast; ring))⟩

/-- the real constant: `5/6 ≤ √3/2 ≤ 1` -/
theorem sqrt3_half_in_range : (5 : ℝ) / 6 ≤ √3 / 2 ∧ √3 / 2 ≤ 1 ∧ 0 < √3 / 2 := by
  have h1 : (5 : ℝ) / 3 ≤ √3 := Real.le_sqrt_of_sq_le (by norm_num)
  have h2 : √3 ≤ 2 := Real.sqrt_le_iff.2 ⟨by norm_num, by norm_num⟩
  exact ⟨by linarith, by linarith, by positivity⟩

/-- the edge-normal tables assumed by `hex_disjoint_pos_gap` are the sines and cosines `lentil.hexagon` evaluates, with
`hh = √3/2`: `θₙ = n·π/3 + π/6` (unrotated) and `θₙ = n·π/3` (rotated) -/
theorem hexagon_normal_tables :
    (let s := fun n : ℕ => Real.sin ((n : ℝ) * Real.pi / 3 + Real.pi / 6)
     let c := fun n : ℕ => Real.cos ((n : ℝ) * Real.pi / 3 + Real.pi / 6)
     s 0 = 1 / 2 ∧ c 0 = √3 / 2 ∧ s 1 = 1 ∧ c 1 = 0 ∧ s 2 = 1 / 2 ∧ c 2 = -(√3 / 2) ∧
     s 3 = -(1 / 2) ∧ c 3 = -(√3 / 2) ∧ s 4 = -1 ∧ c 4 = 0 ∧ s 5 = -(1 / 2) ∧ c 5 = √3 / 2) ∧
    (let s := fun n : ℕ => Real.sin ((n : ℝ) * Real.pi / 3)
     let c := fun n : ℕ => Real.cos ((n : ℝ) * Real.pi / 3)
     s 0 = 0 ∧ c 0 = 1 ∧ s 1 = √3 / 2 ∧ c 1 = 1 / 2 ∧ s 2 = √3 / 2 ∧ c 2 = -(1 / 2) ∧
     s 3 = 0 ∧ c 3 = -1 ∧ s 4 = -(√3 / 2) ∧ c 4 = -(1 / 2) ∧ s 5 = -(√3 / 2) ∧ c 5 = 1 / 2) :=
  ⟨hexNormalsUnrotated_real, hexNormalsRotated_real⟩

/-- the edge normals `lentil.hexagon` actually uses, `θₙ = n·π/3 + φ` (φ = π/6, or 0 when rotated), satisfy the hypotheses of
`hexagon_half_turn`: `sin θₙ₊₃ = −sin θₙ`, `cos θₙ₊₃ = −cos θₙ` -/
theorem hexagon_normals_closed_under_negation (φ : ℝ) (n : ℕ) :
    Real.sin (((n + 3 : ℕ) : ℝ) * Real.pi / 3 + φ) = -Real.sin ((n : ℝ) * Real.pi / 3 + φ) ∧
    Real.cos (((n + 3 : ℕ) : ℝ) * Real.pi / 3 + φ) = -Real.cos ((n : ℝ) * Real.pi / 3 + φ) := by
  have e : ((n + 3 : ℕ) : ℝ) * Real.pi / 3 + φ = ((n : ℝ) * Real.pi / 3 + φ) + Real.pi := by push_cast; ring
  rw [e, Real.sin_add_pi, Real.cos_add_pi]; exact ⟨rfl, rfl⟩

/-- and, unrotated (φ = π/6), the hypotheses of `mirror_when_unrotated`: `θ₅₋ₙ = 2π − θₙ` -/
theorem hexagon_normals_mirror (n : ℕ) (hn : n < 6) :
    Real.sin (((5 - n : ℕ) : ℝ) * Real.pi / 3 + Real.pi / 6) = -Real.sin ((n : ℝ) * Real.pi / 3 + Real.pi / 6) ∧
    Real.cos (((5 - n : ℕ) : ℝ) * Real.pi / 3 + Real.pi / 6) = Real.cos ((n : ℝ) * Real.pi / 3 + Real.pi / 6) := by
  have e : ((5 - n : ℕ) : ℝ) * Real.pi / 3 + Real.pi / 6 = 2 * Real.pi - ((n : ℝ) * Real.pi / 3 + Real.pi / 6) := by
    rw [Nat.cast_sub (by omega)]; push_cast; ring
  rw [e, Real.sin_two_pi_sub, Real.cos_two_pi_sub]; exact ⟨rfl, rfl⟩


/-- … and, rotated (φ = 0), the hypotheses of `mirror_rotated_hexagon`: `θ_{(6−n) mod 6} ≡ −θₙ` -/
theorem hexagon_normals_mirror_rotated (n : ℕ) (hn : n < 6) :
    Real.sin ((((6 - n) % 6 : ℕ) : ℝ) * Real.pi / 3) = -Real.sin ((n : ℝ) * Real.pi / 3) ∧
    Real.cos ((((6 - n) % 6 : ℕ) : ℝ) * Real.pi / 3) = Real.cos ((n : ℝ) * Real.pi / 3) := by
  obtain rfl | hpos := Nat.eq_zero_or_pos n
  · simp
  · have e : (((6 - n) % 6 : ℕ) : ℝ) * Real.pi / 3 = 2 * Real.pi - (n : ℝ) * Real.pi / 3 := by
      rw [Nat.mod_eq_of_lt (by omega), Nat.cast_sub (by omega)]; push_cast; ring
    rw [e, Real.sin_two_pi_sub, Real.cos_two_pi_sub]; exact ⟨rfl, rfl⟩

/-! ## across helpers: one centre convention -/

/-- **cropping is sub-array extraction**: for a target no larger than the source, `subarray(a, (h, w))` (shift 0) succeeds and is `pad(a, (h, w))` -/
theorem subarray_eq_pad_crop [Zero K] (a : Arr K) (h w : Int) (hh : 0 < h) (hw : 0 < w) (h0 : h ≤ a.s0) (h1 : w ≤ a.s1) :
    ∃ r, subarray a h w 0 0 = .ok r ∧ r.s0 = h ∧ r.s1 = w ∧
      ∀ i j, 0 ≤ i → i < h → 0 ≤ j → j < w → r.get i j = (pad2 a h w).get i j := by
  rw [subarray_eq, if_neg (by omega)]
  refine ⟨_, rfl, rfl, rfl, fun i j i0 i1 j0 j1 => ?_⟩
  rw [pad2_get a h w i j ⟨i0, i1⟩ ⟨j0, j1⟩, Arr.centred_of_mem a (by omega) (by omega)]
  simp only [Int.add_zero]

section
variable [Field K] [LinearOrder K] [IsStrictOrderedRing K]

/-- **drawing and padding commute** (the shapes and `pad` share the centre convention): a circle / rectangle / hexagon drawn on an
`n0 × n1` array and then padded or cropped to `S0 × S1` equals, wherever `pad` copies a sample, the same shape drawn directly on
`S0 × S1` -/
theorem shape_pad_commute (sqrt : K → K) (half : K) (n0 n1 S0 S1 : Int) (radius width height inner s0 s1 ca sa : K)
    (sinT cosT : Nat → K) (aa : Bool) (i j : Int) (h0 : 0 ≤ n0) (h1 : 0 ≤ n1) (hi : 0 ≤ i ∧ i < S0) (hj : 0 ≤ j ∧ j < S1)
    (hin : 0 ≤ i - S0 / 2 + n0 / 2 ∧ i - S0 / 2 + n0 / 2 < n0 ∧ 0 ≤ j - S1 / 2 + n1 / 2 ∧ j - S1 / 2 + n1 / 2 < n1) :
    (pad2 ⟨n0, n1, fun i j => circleAt sqrt half n0 n1 radius s0 s1 aa i j⟩ S0 S1).get i j = circleAt sqrt half S0 S1 radius s0 s1 aa i j ∧
    (pad2 ⟨n0, n1, fun i j => rectangleAt half n0 n1 width height s0 s1 ca sa aa i j⟩ S0 S1).get i j
      = rectangleAt half S0 S1 width height s0 s1 ca sa aa i j ∧
    (pad2 ⟨n0, n1, fun i j => hexagonAt half inner sinT cosT n0 n1 s0 s1 aa i j⟩ S0 S1).get i j
      = hexagonAt half inner sinT cosT S0 S1 s0 s1 aa i j := by
  have m0 : ∀ s : K, meshCoord n0 (i - S0 / 2 + n0 / 2) s = meshCoord S0 i s := meshCoord_congr (by omega)
  have m1 : ∀ s : K, meshCoord n1 (j - S1 / 2 + n1 / 2) s = meshCoord S1 j s := meshCoord_congr (by omega)
  have key : ∀ f : Int → Int → K, (pad2 ⟨n0, n1, f⟩ S0 S1).get i j = f (i - S0 / 2 + n0 / 2) (j - S1 / 2 + n1 / 2) :=
    fun f => (pad2_get ⟨n0, n1, f⟩ S0 S1 i j hi hj).trans (Arr.centred_of_mem _ ⟨hin.1, hin.2.1⟩ ⟨hin.2.2.1, hin.2.2.2⟩)
  refine ⟨?_, ?_, ?_⟩ <;> rw [key]
  · unfold circleAt; simp only [m0, m1]
  · unfold rectangleAt; simp only [m0, m1]
  · unfold hexagonAt; simp only [m0, m1]
end

end Lentil.C20
