import LentilVerif.Lemmas.PlaneType
/-! C08 — the plane-type state machine follows the documented table.
Every definition named `Gen.*` below is regenerated from /repo on each run: `codeMul`/`codePropagate`/`classPtype`/… from
the Python sources, `docMul`/`docPropagate`/`docClassPtype` from the RST tables. -/
namespace Lentil.C08
open Gen Lentil.PT

/-- all 15 cells: the product either has the documented type or is refused with TypeError exactly where the
documentation says "Not allowed" -/
theorem mul_table_eq_doc : ∀ w p, codeMul w p = docMul w p :=
  fun w p => congrFun (congrFun codeMul_eq_doc w) p

/-- a refused product is refused with TypeError, never anything else -/
theorem mul_refusal_is_TypeError : ∀ w p e, codeMul w p = .refused e → e = .typeError := by
  intro w p e h; cases w <;> cases p <;> cases h <;> rfl

/-- far-field propagation is permitted exactly from a pupil or an image and turns one into the other; from `none` it is
refused with TypeError; and this is what the documentation tabulates -/
theorem propagate_typing :
    codePropagate .pupil = .ok .image ∧ codePropagate .image = .ok .pupil ∧ codePropagate .none = .refused .typeError
    ∧ (∀ w w', codePropagate w = .ok w' → (w = .pupil ∧ w' = .image) ∨ (w = .image ∧ w' = .pupil))
    ∧ (∀ w, codePropagate w = docPropagate w) := by
  refine ⟨rfl, rfl, rfl, ?_, congrFun codePropagate_eq_doc⟩
  intro w w'; cases w <;> cases w' <;> simp [codePropagate]

theorem step_eq_doc : ∀ w op, codeStep w op = docStep w op := by
  intro w op; rw [codeStep, docStep, codeMul_eq_doc, codePropagate_eq_doc]

/-- for EVERY program (any length) from every start type, the code machine and the documented machine produce the same
trace of types and refusals -/
theorem run_eq_doc : ∀ (prog : List Op) (w : WType), codeRun w prog = docRun w prog := by
  intro prog w; rw [codeRun, docRun, codeMul_eq_doc, codePropagate_eq_doc]

/-- … and end in the same type -/
theorem final_eq_doc : ∀ (prog : List Op) (w : WType),
    finalWith codeMul codePropagate w prog = finalWith docMul docPropagate w prog := by
  intro prog w; rw [codeMul_eq_doc, codePropagate_eq_doc]

/- Full-strength statement (FALSE on the current tree, known finding KF-C08-rotate-flip): `∀ c, classConforms c = true`,
   i.e. every documented class has its documented ptype, acts as the documented table says and is applicable. -/

/-- every public plane class conforms to the documentation, except possibly Rotate and Flip (known finding).
Proved by evaluation over the generated class table, whatever classes it lists: it keeps holding when Rotate/Flip are
fixed upstream or when a (conforming) class is added or documented. -/
theorem all_documented_classes_apply_partial :
    ∀ c, classConforms c = true ∨ c = .Rotate ∨ c = .Flip := by
  intro c
  cases c <;> first | exact Or.inl rfl | exact Or.inr (Or.inl rfl) | exact Or.inr (Or.inr rfl)

/-- the undocumented public classes (Grism, LensletArray) behave as their documented base classes -/
theorem undocumented_classes_follow_base :
    (∀ w, classMul .Grism w = classMul .DispersiveTilt w) ∧ (∀ w, classMul .LensletArray w = classMul .Plane w) := by
  constructor <;> intro w <;> cases w <;> rfl

/-- class-level programs: for every program whose planes are table-driven (decidable per class on the generated table; see
`table_driven_all_but_rotate_flip`: today all public classes but the broken Rotate/Flip; Image's forced `image` coincides with
the table), the trace is the documented one -/
theorem class_run_eq_doc_partial : ∀ (prog : List COp) (w : WType),
    (∀ c, COp.mul c ∈ prog → classTableDriven c = true) →
    classRun w prog = docRun w (prog.map COp.toOp) := by
  intro prog
  induction prog with
  | nil => intro w _; rfl
  | cons op rest ih =>
    intro w h
    have hs : classStep w op = stepWith docMul docPropagate w op.toOp := by
      cases op with
      | prop => exact propagate_typing.2.2.2.2 w
      | mul c => exact classTableDriven_spec c (h c List.mem_cons_self) w
    simp only [classRun, docRun, runWith, List.map_cons, hs]
    exact congrArg _ (ih _ fun c hc => h c (List.mem_cons_of_mem _ hc))

/-- which classes go through the documented table unchanged: every public class except (today) Rotate and Flip —
by evaluation over the generated class table -/
theorem table_driven_all_but_rotate_flip : ∀ c, classTableDriven c = true ∨ c = .Rotate ∨ c = .Flip := by
  intro c
  cases c <;> first | exact Or.inl rfl | exact Or.inr (Or.inl rfl) | exact Or.inr (Or.inr rfl)

/-- class-level programs without Rotate/Flip: the trace is the documented one, for every program and start type -/
theorem class_run_eq_doc : ∀ (prog : List COp) (w : WType),
    (∀ c, COp.mul c ∈ prog → c ≠ .Rotate ∧ c ≠ .Flip) →
    classRun w prog = docRun w (prog.map COp.toOp) := by
  intro prog w h
  exact class_run_eq_doc_partial prog w fun c hc => (table_driven_all_but_rotate_flip c).resolve_right (not_or.mpr (h c hc))

/-- "a refused operation leaves both operands unchanged", structural part: no `multiply` of a public class writes an
attribute of the plane or of the wavefront argument before it delegates to `Plane.multiply` (whose first statement is the
ptype check — enforced by the generator). `Gen.classWritesBeforeSuper` is regenerated from the override bodies. -/
theorem no_write_before_guard : ∀ c, classWritesBeforeSuper c = [] := by
  intro c; cases c <;> rfl

/-- a plane type supplied by the CALLER (`C(…, ptype=p)`, table `Gen.classPtypeWith` regenerated from the constructor chain
`C.__init__ → … → Plane.__init__`): a class either refuses the keyword for every `p` (TypeError at construction: Pupil and
Image fix their type and would hand `ptype` to `Plane.__init__` twice, Rotate and Flip take no such keyword) or takes EXACTLY
the type it is given (Plane, LensletArray and the tilt family Tilt/DispersiveTilt/Grism, whose default `tilt` applies only
when none is given) — no constructor turns a supplied type into another one, so the plane then behaves as the row `p` of the
table (`mul_refused_iff`, `mul_result_type`), and the documented default of every accepting class is among the types it accepts -/
theorem caller_ptype_table :
    (∀ c p q, classPtypeWith c p = some q → q = p) ∧
    (∀ p, classPtypeWith .Plane p = some p ∧ classPtypeWith .LensletArray p = some p ∧ classPtypeWith .Tilt p = some p ∧
          classPtypeWith .DispersiveTilt p = some p ∧ classPtypeWith .Grism p = some p) ∧
    (∀ p, classPtypeWith .Pupil p = none ∧ classPtypeWith .Image p = none ∧ classPtypeWith .Rotate p = none ∧
          classPtypeWith .Flip p = none) ∧
    (∀ c p, (classPtypeWith c p).isSome → classPtypeWith c (classPtype c) = some (classPtype c)) := by
  have h2 : ∀ p, classPtypeWith .Plane p = some p ∧ classPtypeWith .LensletArray p = some p ∧ classPtypeWith .Tilt p = some p ∧
      classPtypeWith .DispersiveTilt p = some p ∧ classPtypeWith .Grism p = some p := by
    intro p; cases p <;> exact ⟨rfl, rfl, rfl, rfl, rfl⟩
  have h3 : ∀ p, classPtypeWith .Pupil p = none ∧ classPtypeWith .Image p = none ∧ classPtypeWith .Rotate p = none ∧
      classPtypeWith .Flip p = none := by
    intro p; cases p <;> exact ⟨rfl, rfl, rfl, rfl⟩
  -- the other two clauses follow per class from these two rows of the table
  refine ⟨?_, h2, h3, ?_⟩
  · intro c p q h; cases c <;> simp only [h2 p, h3 p, Option.some.injEq, reduceCtorEq] at h <;> exact h.symm
  · intro c p h; cases c <;> first | rfl | simp [h3 p] at h

/-- "a refused operation leaves both operands unchanged", structural part for PROPAGATION: neither `propagate_dft` nor
`propagate_fft` writes an attribute or item of its `wavefront` operand, calls an in-place mutator on it, or hands it to a
helper that does (followed into `_has_tilt`), up to and including the `_propagate_ptype` call that raises the TypeError of a
refused propagation — so a refusal by type happens before anything was done to the wavefront. The two lists are regenerated
from the statements of lentil/propagate.py that precede the type check (also through a local alias `x = wavefront`). -/
theorem propagate_no_write_before_guard :
    propDftEffectsBeforeTypeCheck = [] ∧ propFftEffectsBeforeTypeCheck = [] := ⟨rfl, rfl⟩

/-- `propagate_fft` types exactly like `propagate_dft` on a wavefront without fitted tilt, and refuses a tilt-carrying
wavefront of every type with NotImplementedError (checked before the type) — the "dft or fft" of diffraction.rst -/
theorem fft_typing :
    (∀ w, codePropagateFft false w = codePropagate w) ∧ (∀ w, codePropagateFft true w = .refused .notImplementedError) := by
  constructor <;> intro w <;> cases w <;> rfl

/-- KNOWN FINDING witness (KF-C08-rotate-flip), stated so that it stays true when the defect is fixed upstream: IF
`lentil.Rotate` / `lentil.Flip` do not conform, THEN it is because they are not constructed with their documented ptype
or because every application is refused (today: ptype `none` instead of `transform`, and AttributeError on every
wavefront type; today's facts are in the generated `classPtype`/`classMissing` tables and replayed on the real code by
the harness's `replay_finding`) -/
theorem kf_rotate_flip_unusable : ∀ c, (c = .Rotate ∨ c = .Flip) → classConforms c = false →
    docClassPtype c ≠ some (classPtype c) ∨ ∀ w, (classMul c w).isOk = false := by
  intro c hc
  rcases hc with rfl | rfl <;> intro h <;>
    first
    | (left; decide)
    | (right; intro w; cases w <;> rfl)
    | (exfalso; revert h; decide)

/-! ### structure of the generated table (each fact is evaluated on `Gen.codeMul` / `Gen.codePropagate`: an edit of
`_mul_ptype_table` or `_propagate_ptype` that changes it stops the proof) -/

/-- the plane type as a wavefront type, for the two plane types that set one -/
def PType.sets : PType → Option WType
  | .pupil => some .pupil
  | .image => some .image
  | _ => none

/-- "Not allowed", characterised: a product is refused exactly when the wavefront already has a type (pupil or image) and the
plane is an untyped `none` plane or a plane of the OTHER type; an untyped wavefront accepts every plane, and tilt / transform
planes are accepted by every wavefront — whatever ptype the caller constructs the plane with, only this pair matters -/
theorem mul_refused_iff : ∀ w p, (∃ e, codeMul w p = .refused e) ↔
    w ≠ .none ∧ (p = .none ∨ ∃ t, PType.sets p = some t ∧ t ≠ w) := by
  intro w p; cases w <;> cases p <;> simp [codeMul, PType.sets]

/-- the type after an accepted product: a typed wavefront keeps its type; an untyped wavefront takes the type of a pupil or
image plane and stays untyped under every other plane -/
theorem mul_result_type : ∀ w p w', codeMul w p = .ok w' →
    w' = (if w = .none then (PType.sets p).getD .none else w) := by
  intro w p w' h; cases w <;> cases p <;> cases h <;> rfl

/-- a wavefront that is pupil or image is not taken back to `none` by one accepted step (a product or a propagation) -/
theorem typed_wavefront_stays_typed : ∀ w op w', w ≠ .none → codeStep w op = .ok w' → w' ≠ .none := by
  intro w op w' hw h
  cases op with
  | mul p => rw [mul_result_type w p w' h, if_neg hw]; exact hw
  | prop => rcases propagate_typing.2.2.2.1 w w' h with ⟨-, rfl⟩ | ⟨-, rfl⟩ <;> exact nofun

/-- tilt and transform planes never change the type and are never refused -/
theorem tilt_transform_neutral : ∀ w, codeMul w .tilt = .ok w ∧ codeMul w .transform = .ok w := by
  intro w; cases w <;> exact ⟨rfl, rfl⟩

/-- applying an accepted plane type a second time is accepted and changes nothing more -/
theorem mul_idempotent : ∀ w p w', codeMul w p = .ok w' → codeMul w' p = .ok w' := by
  intro w p w' h; cases w <;> cases p <;> cases h <;> rfl

/-- far-field propagation is an involution on the types it accepts: pupil → image → pupil -/
theorem propagate_involutive : ∀ w w', codePropagate w = .ok w' → codePropagate w' = .ok w := by
  intro w w' h; cases w <;> cases h <;> rfl

/-- tilt / transform multiplications can be dropped from ANY program without changing the type it ends in (they are neutral
and never refused): the type bookkeeping of a system does not depend on where its tilts, rotations and flips stand -/
theorem neutral_planes_can_be_dropped : ∀ (prog : List Op) (w : WType),
    finalWith codeMul codePropagate w prog
      = finalWith codeMul codePropagate w (prog.filter fun op => op ≠ .mul .tilt ∧ op ≠ .mul .transform) := by
  refine finalWith_filter _ _ _ fun w op hk => ?_
  by_cases h1 : op = .mul .tilt
  · rw [h1, stepWith, (tilt_transform_neutral w).1, next]
  · obtain rfl : op = .mul .transform := by simpa [h1] using hk
    rw [stepWith, (tilt_transform_neutral w).2, next]

/-- the documented way to build a system is accepted, for ANY number of tilt-type planes (Tilt, DispersiveTilt, Grism) in the
pupil and in the image space: Pupil, tilts…, propagate, tilts…, Image — every step is accepted from an untyped wavefront and the
wavefront ends as an image -/
theorem standard_system_accepted (t₁ t₂ : List PlaneClass) (h₁ : ∀ c ∈ t₁, classPtype c = .tilt ∧ classCustomMul c = false ∧ classForce c = none)
    (h₂ : ∀ c ∈ t₂, classPtype c = .tilt ∧ classCustomMul c = false ∧ classForce c = none) :
    classRun .none ([.mul .Pupil] ++ t₁.map .mul ++ [.prop] ++ t₂.map .mul ++ [.mul .Image])
      = [.ok .pupil] ++ t₁.map (fun _ => .ok .pupil) ++ [.ok .image] ++ t₂.map (fun _ => .ok .image) ++ [.ok .image] := by
  have hn : ∀ w c, classPtype c = .tilt ∧ classCustomMul c = false ∧ classForce c = none → classMul c w = .ok w := by
    rintro w c ⟨hp, hc, hf⟩
    simp only [classMul, hc, hp, (tilt_transform_neutral w).1, hf]; rfl
  simp only [List.append_assoc, List.singleton_append]
  show Res.ok .pupil :: classRun .pupil (t₁.map .mul ++ .prop :: (t₂.map .mul ++ [.mul .Image])) = _
  rw [classRun_neutral _ _ _ fun c hc => hn _ c (h₁ c hc)]
  show Res.ok .pupil :: (_ ++ Res.ok .image :: classRun .image (t₂.map .mul ++ [.mul .Image])) = _
  rw [classRun_neutral _ _ _ fun c hc => hn _ c (h₂ c hc)]
  rfl

/-- the three tilt-type classes of today's table satisfy the hypotheses of `standard_system_accepted` -/
example : ∀ c ∈ [PlaneClass.Tilt, .DispersiveTilt, .Grism], classPtype c = .tilt ∧ classCustomMul c = false ∧ classForce c = none := by
  decide

/-- a refused step leaves the wavefront TYPE where it was, and a program of refused steps only ends where it started. This is
`refusal_preserves_state` (Lemmas/PlaneType.lean), a fact about how the MODEL threads the state through a program (`next`); that the
implementation leaves both operands unchanged on a refusal is carried by `no_write_before_guard` (structure) and the snapshot
oracle (values), not by this theorem. -/
theorem refused_steps_keep_type :
    (∀ w op e, codeStep w op = .refused e → next w (codeStep w op) = w)
    ∧ (∀ (prog : List Op) (w : WType), (∀ r ∈ codeRun w prog, ∃ e, r = .refused e) →
        finalWith codeMul codePropagate w prog = w) := refusal_preserves_state

/-- non-vacuity: a concrete mixed program with accepted and refused steps -/
example : codeRun .none [.mul .pupil, .mul .tilt, .prop, .mul .pupil, .mul .transform, .prop, .mul .none]
    = [.ok .pupil, .ok .pupil, .ok .image, .refused .typeError, .ok .image, .ok .pupil, .refused .typeError] := rfl

/-- the same at class level: a plain `Plane` (ptype `none`) after the pupil is refused, the rest of the standard system accepted -/
example : classRun .none [.mul .Pupil, .mul .Tilt, .mul .Plane, .prop, .mul .Image]
    = [.ok .pupil, .ok .pupil, .refused .typeError, .ok .image, .ok .image] := rfl

end Lentil.C08
