import LentilVerif.Lemmas.SpectrumBin
/-! C15 — integration, binning, crop/trim/pad/append/resample keep the spectrum well-formed.
All statements are about `Model/Spectrum.lean` (tied to lentil.radiometry.Spectrum by the per-step correspondence). -/
namespace Lentil.C15
open Lentil.Spec

theorem wf_crop (lo hi : ℚ) (s : Spectrum) (h : WF s) : WF (crop lo hi s).1 := by
  rw [crop_eq_maskS lo hi h]
  exact (h.maskS _).maskS _

theorem wf_trim (tol : ℚ) (s : Spectrum) (h : WF s) : WF (trim tol s).1 :=
  trim_elim (Q := fun o => WF o.1) tol s (fun _ => h) h.slice

theorem wf_append (o s : Spectrum) (ho : o.wave.length = o.value.length) (h : WF s) : WF (append o s).1 :=
  append_elim (Q := fun r => WF r.1) o s h fun hv => .of_valid hv (by simp [h.2, ho])

theorem wf_pad (e0 e1 : ℚ) (sm : Option ℚ) (edge : Bool) (vL vR : ℚ) (s : Spectrum) (h : WF s) :
    WF (pad e0 e1 sm edge vL vR s).1 :=
  pad_elim (Q := fun r => WF r.1) e0 e1 sm edge vL vR s (fun _ => h) fun _ _ _ _ hv => .of_valid hv (by simp [h.2])

theorem wf_resample (xs : List ℚ) (fl fr : ℚ) (s : Spectrum) (h : WF s) : WF (resample xs fl fr s).1 :=
  resample_elim (Q := fun r => WF r.1) xs fl fr s (fun _ => h) fun hv => .of_valid hv (by simp)

/-- an appended spectrum is itself a `Spectrum` object, hence has one value per wavelength -/
def OpOK : Op → Prop
  | .append o => o.wave.length = o.value.length
  | _ => True

/-- every operation keeps the invariant — whether it is accepted or refused (`(step s op).2` is the exception) -/
theorem wf_step (s : Spectrum) (op : Op) (hop : OpOK op) (h : WF s) : WF (step s op).1 := by
  cases op with
  | crop lo hi => exact wf_crop lo hi s h
  | trim tol => exact wf_trim tol s h
  | append o => exact wf_append o s hop h
  | pad e0 e1 sm ed vl vr => exact wf_pad e0 e1 sm ed vl vr s h
  | resample xs fl fr => exact wf_resample xs fl fr s h

/-- … hence every history of crop/trim/pad/append/resample, of any length, with refusals anywhere, leaves a strictly
increasing wavelength grid with one value per wavelength -/
theorem wf_history : ∀ (ops : List Op) (s : Spectrum), (∀ op ∈ ops, OpOK op) → WF s → WF (run s ops)
  | [], _, _, h => h
  | op :: rest, s, hop, h =>
    wf_history rest _ (fun o ho => hop o (List.mem_cons_of_mem _ ho)) (wf_step s op (hop op List.mem_cons_self) h)

/-- crop and trim never alter the samples they retain: the (wavelength, value) pairs afterwards are a sub-sequence of
the pairs before (same order, values copied) -/
theorem crop_retained_samples_unaltered (lo hi : ℚ) (s : Spectrum) :
    (List.zip (crop lo hi s).1.wave (crop lo hi s).1.value).Sublist (List.zip s.wave s.value) :=
  crop_elim (Q := fun r => (List.zip r.1.wave r.1.value).Sublist _) lo hi s (fun _ => .refl _)
    (fun _ _ _ => zip_cropStage_sublist _ _ s)
    fun _ _ _ _ => (zip_cropStage_sublist _ _ _).trans (zip_cropStage_sublist _ _ s)

theorem trim_retained_samples_unaltered (tol : ℚ) (s : Spectrum) :
    (List.zip (trim tol s).1.wave (trim tol s).1.value).Sublist (List.zip s.wave s.value) :=
  trim_elim (Q := fun r => (List.zip r.1.wave r.1.value).Sublist _) tol s (fun _ => .refl _) fun a b =>
    zip_slice_sublist a b _ _

/-- pad and append keep the old samples as one contiguous block of the new spectrum -/
theorem append_retained_samples_unaltered (o s : Spectrum) (h : s.wave.length = s.value.length) :
    List.zip s.wave s.value <+: List.zip (append o s).1.wave (append o s).1.value :=
  append_elim (Q := fun r => _ <+: List.zip r.1.wave r.1.value) o s (List.prefix_refl _) fun _ => by
    rw [List.zip_append h]; exact List.prefix_append _ _

theorem pad_retained_samples_unaltered (e0 e1 : ℚ) (sm : Option ℚ) (edge : Bool) (vL vR : ℚ) (s : Spectrum)
    (h : s.wave.length = s.value.length) :
    List.zip s.wave s.value <:+: List.zip (pad e0 e1 sm edge vL vR s).1.wave (pad e0 e1 sm edge vL vR s).1.value :=
  pad_elim (Q := fun r => _ <:+: List.zip r.1.wave r.1.value) e0 e1 sm edge vL vR s (fun _ => List.infix_refl _)
    fun _ _ _ _ _ => by
      rw [List.zip_append (by simp [h]), List.zip_append (by simp)]
      exact ⟨_, _, rfl⟩

/-- a refused append/resample/trim leaves the spectrum exactly as it was (crop can refuse only on an empty grid) -/
theorem refusal_leaves_spectrum (s : Spectrum) :
    (∀ o e, (append o s).2 = some e → (append o s).1 = s) ∧
    (∀ xs fl fr e, (resample xs fl fr s).2 = some e → (resample xs fl fr s).1 = s) ∧
    (∀ tol e, (trim tol s).2 = some e → (trim tol s).1 = s) :=
  ⟨fun o e => append_elim (Q := fun r => r.2 = some e → r.1 = s) o s (fun _ => rfl) nofun,
   fun xs fl fr e => resample_elim (Q := fun r => r.2 = some e → r.1 = s) xs fl fr s (fun _ _ => rfl) fun _ => nofun,
   fun tol e => trim_elim (Q := fun r => r.2 = some e → r.1 = s) tol s (fun _ _ => rfl) fun _ _ => nofun⟩

/-- … the same for pad; and crop: when crop raises (IndexError on an empty or emptied grid) the spectrum it leaves is the
input cropped at the lower limit — in particular still a selection of the input's samples (`crop_retained_samples_unaltered`)
— and crop on an already empty spectrum leaves it as it was -/
theorem refusal_leaves_spectrum_pad_crop (s : Spectrum) :
    (∀ e0 e1 sm ed vl vr e, (pad e0 e1 sm ed vl vr s).2 = some e → (pad e0 e1 sm ed vl vr s).1 = s) ∧
    (∀ lo hi, s.wave = [] → crop lo hi s = (s, some .indexError)) ∧
    (∀ lo hi e, (crop lo hi s).2 = some e → e = .indexError ∧ (crop lo hi s).1.wave = []) :=
  ⟨fun e0 e1 sm ed vl vr e => pad_elim (Q := fun r => r.2 = some e → r.1 = s) e0 e1 sm ed vl vr s (fun _ _ => rfl)
    fun _ _ _ _ _ => nofun, fun lo hi h => by simp [crop, h], fun lo hi e =>
    crop_elim (Q := fun r => r.2 = some e → e = .indexError ∧ r.1.wave = []) lo hi s
      (fun hw h => ⟨(Option.some.inj h).symm, hw⟩) (fun _ _ hw h => ⟨(Option.some.inj h).symm, hw⟩) fun _ _ _ _ => nofun⟩

/-! ### integration -/

/-- integration (trapezoid rule) is linear in the values -/
theorem trapz_linear (ca cb : ℚ) : ∀ (w v1 v2 : List ℚ), v1.length = v2.length →
    trapz w (List.zipWith (fun a b => ca * a + cb * b) v1 v2) = ca * trapz w v1 + cb * trapz w v2 := by
  intro w v1 v2 h
  obtain ⟨P, rfl, rfl⟩ := exists_pairs h
  rw [List.zipWith_map, List.zipWith_self]
  exact trapz_map_linear ca cb _ _ w P

/-- … additive over adjacent intervals that meet at a sample point -/
theorem trapz_additive_at_sample (m y : ℚ) (w2 v2 : List ℚ) : ∀ (w1 v1 : List ℚ), w1.length = v1.length →
    trapz (w1 ++ m :: w2) (v1 ++ y :: v2) = trapz (w1 ++ [m]) (v1 ++ [y]) + trapz (m :: w2) (y :: v2) := by
  intro w1 v1 h
  obtain ⟨P, rfl, rfl⟩ := exists_pairs h
  exact trapz_append_at_sample m y w2 v2 P

/-- … and exact for data that is linear in the wavelength: ∫(aλ+b) = a(λ_end²−λ_0²)/2 + b(λ_end−λ_0) -/
theorem trapz_exact_linear_segment (a b : ℚ) : ∀ (xs : List ℚ) (x0 : ℚ),
    trapz (x0 :: xs) ((x0 :: xs).map fun x => a * x + b)
      = a * (((x0 :: xs).getLast (by simp)) ^ 2 - x0 ^ 2) / 2 + b * ((x0 :: xs).getLast (by simp) - x0) := by
  intro xs
  induction xs with
  | nil => intro x0; simp [trapz]
  | cons x1 xs ih =>
    intro x0
    have := ih x1
    simp only [List.map_cons, trapz, List.getLast_cons_cons] at this ⊢
    rw [this]; ring

/-- `integrate` is linear in the values (same wavelengths, same limits) -/
theorem integrate_linear (ca cb a b : ℚ) (w v1 v2 : List ℚ) (h1 : w.length = v1.length) (h2 : w.length = v2.length) :
    integrate ⟨w, List.zipWith (fun x y => ca * x + cb * y) v1 v2⟩ a b
      = ca * integrate ⟨w, v1⟩ a b + cb * integrate ⟨w, v2⟩ a b := by
  obtain ⟨V, rfl, rfl⟩ := exists_pairs (h1.symm.trans h2)
  obtain ⟨L, rfl, rfl⟩ := exists_pairs (v := V) (h1.trans (by simp))
  simp only [integrate, List.zipWith_map, List.zipWith_self, List.map_map, keepMask_map_map]
  exact trapz_map_linear ca cb _ _ _ _

/-- integration is additive over adjacent intervals that meet at a sample point: for a well-formed spectrum whose grid is
`w1 ++ m :: w2` (values `v1 ++ y :: v2`), `integrate s a m + integrate s m b = integrate s a b` whenever a ≤ m ≤ b -/
theorem integrate_additive_at_sample (w1 w2 v1 v2 : List ℚ) (m y a b : ℚ)
    (hs : StrictInc (w1 ++ m :: w2)) (hl1 : w1.length = v1.length) (hl2 : w2.length = v2.length) (ham : a ≤ m) (hmb : m ≤ b) :
    integrate ⟨w1 ++ m :: w2, v1 ++ y :: v2⟩ a m + integrate ⟨w1 ++ m :: w2, v1 ++ y :: v2⟩ m b
      = integrate ⟨w1 ++ m :: w2, v1 ++ y :: v2⟩ a b := by
  obtain ⟨P1, rfl, rfl⟩ := exists_pairs hl1
  obtain ⟨P2, rfl, rfl⟩ := exists_pairs hl2
  have hsp := List.pairwise_append.mp hs
  have h1lt : ∀ x ∈ P1, x.1 < m := fun x hx => hsp.2.2 x.1 (List.mem_map_of_mem hx) m (by simp)
  have h2gt : ∀ x ∈ P2, m < x.1 := fun x hx => (List.pairwise_cons.mp hsp.2.1).1 x.1 (List.mem_map_of_mem hx)
  have e : (⟨P1.map Prod.fst ++ m :: P2.map Prod.fst, P1.map Prod.snd ++ y :: P2.map Prod.snd⟩ : Spectrum)
      = ⟨(P1 ++ (m, y) :: P2).map Prod.fst, (P1 ++ (m, y) :: P2).map Prod.snd⟩ := by simp
  simp only [e, integrate_pairs, List.filter_append, List.filter_cons, Gen.integrateKeeps, ge_iff_le, ham, hmb, le_refl,
    decide_true, Bool.and_self, if_true]
  -- [a, m] keeps nothing of the right block, [m, b] nothing of the left; elsewhere the tests agree with that of [a, b]
  have n2 : P2.filter (fun x => decide (a ≤ x.1) && decide (x.1 ≤ m)) = [] :=
    List.filter_eq_nil_iff.2 fun x hx => by simp [not_le.2 (h2gt x hx)]
  have n1 : P1.filter (fun x => decide (m ≤ x.1) && decide (x.1 ≤ b)) = [] :=
    List.filter_eq_nil_iff.2 fun x hx => by simp [not_le.2 (h1lt x hx)]
  have c1 : P1.filter (fun x => decide (a ≤ x.1) && decide (x.1 ≤ m)) = P1.filter fun x => decide (a ≤ x.1) && decide (x.1 ≤ b) :=
    List.filter_congr fun x hx => by simp [(h1lt x hx).le, (h1lt x hx).le.trans hmb]
  have c2 : P2.filter (fun x => decide (m ≤ x.1) && decide (x.1 ≤ b)) = P2.filter fun x => decide (a ≤ x.1) && decide (x.1 ≤ b) :=
    List.filter_congr fun x hx => by simp [(h2gt x hx).le, ham.trans (h2gt x hx).le]
  rw [n2, n1, c1, c2]
  simp only [List.map_append, List.map_cons, List.map_nil, List.nil_append]
  exact (trapz_additive_at_sample m y _ _ _ _ (by simp)).symm

theorem linePrim_is_primitive (x0 y0 x1 y1 x h : ℚ) :
    linePrim x0 y0 x1 y1 (x + h) - linePrim x0 y0 x1 y1 x = h * lineThrough x0 y0 x1 y1 x + (y1 - y0) / (x1 - x0) * h ^ 2 / 2 := by
  simp only [linePrim, lineThrough]; ring

/-- exact integral of the piecewise-linear interpolant through the samples: Σ over segments of ∫ line -/
def pwLinearIntegral : List ℚ → List ℚ → ℚ
  | x0 :: x1 :: xs, y0 :: y1 :: ys =>
      (linePrim x0 y0 x1 y1 x1 - linePrim x0 y0 x1 y1 x0) + pwLinearIntegral (x1 :: xs) (y1 :: ys)
  | _, _ => 0

/-- the trapezoid rule is exact for piecewise-linear data: on a strictly increasing grid it equals the exact integral of
the piecewise-linear function through the samples (segment by segment, via a primitive of each segment's line) -/
theorem trapz_exact_piecewise_linear : ∀ (w v : List ℚ), StrictInc w → trapz w v = pwLinearIntegral w v
  | x0 :: x1 :: xs, y0 :: y1 :: ys, hs => by
    have hd : x1 - x0 ≠ 0 := (sub_pos.2 (List.rel_of_pairwise_cons hs List.mem_cons_self)).ne'
    rw [trapz, pwLinearIntegral, trapz_exact_piecewise_linear _ _ hs.of_cons]
    congr 1
    simp only [linePrim]
    field_simp
    ring
  | [], _, _ | [_], _, _ | _ :: _ :: _, [], _ | _ :: _ :: _, [_], _ => rfl

/-- … hence `integrate s a b` is the exact integral of the piecewise-linear interpolant through the samples it keeps -/
theorem integrate_exact_piecewise_linear (s : Spectrum) (h : WF s) (a b : ℚ) :
    integrate s a b = pwLinearIntegral (keepMask (s.wave.map (Gen.integrateKeeps a b)) s.wave)
      (keepMask (s.wave.map (Gen.integrateKeeps a b)) s.value) :=
  trapz_exact_piecewise_linear _ _ (h.maskS _).1

/-! ### binning -/

theorem binRaw_length_trapz (s : Spectrum) (sym : Bool) (fl fr : ℚ) (c bins : List ℚ)
    (h : binRaw s false sym fl fr c = .ok bins) : bins.length = c.length :=
  binRaw_length h

/-- one bin per centre for both rules, with or without power preservation -/
theorem bin_length (s : Spectrum) (simps sym intC : Bool) (fl fr : ℚ) (pp : Option (Option ℚ)) (c bins : List ℚ)
    (h : bin s simps sym fl fr pp c intC = .ok bins) : bins.length = c.length := by
  obtain ⟨raw, hraw, rfl | ⟨_, _, _, rfl⟩⟩ := bin_eq_ok h
  · exact binRaw_length hraw
  · rw [List.length_map, binRaw_length hraw]

/-- trapezoid binning returns one value per requested centre (both end treatments, with or without power preservation) -/
theorem bin_length_trapz (s : Spectrum) (sym : Bool) (fl fr : ℚ) (pp : Option (Option ℚ)) (c bins : List ℚ)
    (h : bin s false sym fl fr pp c = .ok bins) : bins.length = c.length :=
  bin_length s false sym false fl fr pp c bins h

/-- Simpson binning also returns one value per requested centre (both end treatments, float or integer-dtype centres) -/
theorem binRaw_length_simps (s : Spectrum) (sym intC : Bool) (fl fr : ℚ) (c bins : List ℚ)
    (h : binRaw s true sym fl fr c intC = .ok bins) : bins.length = c.length :=
  binRaw_length h

theorem bin_simps_nonneg (s : Spectrum) (hwf : WF s) (hv : ∀ v ∈ s.value, 0 ≤ v) (sym : Bool) (fl fr : ℚ)
    (hfl : 0 ≤ fl) (hfr : 0 ≤ fr) (c : List ℚ) (hc : StrictInc c) (bins : List ℚ)
    (h : bin s true sym fl fr none c = .ok bins) : ∀ b ∈ bins, 0 ≤ b :=
  binRaw_nonneg hwf hv hfl hfr hc (bin_none h)

/-- Simpson binning (symmetric ends, float centres, no power preservation) of a non-negative spectrum is non-negative: the
weights (x₂−x₀)/6·(1, 4, 1) of the chained rule are positive on increasing sample points — for any increasing centres, in
particular the uniform ones of the property's Simpson clause. (`ends='inside'`: `bin_simps_nonneg_inside`; integer-dtype
centres and the scipy normalisation under preserve_power are not covered: oracle only.) -/
theorem bin_simps_nonneg_symmetric (s : Spectrum) (hwf : WF s) (hv : ∀ v ∈ s.value, 0 ≤ v) (fl fr : ℚ)
    (hfl : 0 ≤ fl) (hfr : 0 ≤ fr) (c : List ℚ) (hc : StrictInc c) (bins : List ℚ)
    (h : bin s true true fl fr none c = .ok bins) : ∀ b ∈ bins, 0 ≤ b :=
  bin_simps_nonneg s hwf hv true fl fr hfl hfr c hc bins h

/-- … and with `ends='inside'` (float centres, no power preservation): the two quarter points the code inserts after the first
and before the last centre keep the sample points non-decreasing, so the weights stay positive and the bins of a non-negative
spectrum non-negative — Simpson non-negativity holds for BOTH end treatments (`bin_simps_nonneg`) -/
theorem bin_simps_nonneg_inside (s : Spectrum) (hwf : WF s) (hv : ∀ v ∈ s.value, 0 ≤ v) (fl fr : ℚ)
    (hfl : 0 ≤ fl) (hfr : 0 ≤ fr) (c : List ℚ) (hc : StrictInc c) (bins : List ℚ)
    (h : bin s true false fl fr none c = .ok bins) : ∀ b ∈ bins, 0 ≤ b :=
  bin_simps_nonneg s hwf hv false fl fr hfl hfr c hc bins h

/-- trapezoid binning is exact for a spectrum that is linear across every bin: if the samples lie on the line a·λ + b and
all bin edges lie inside the sampled range, bin k is the exact integral ∫ (a·λ + b) dλ over [e_k, e_{k+1}]
(`exactBins a b edges`: a(e_{k+1}² − e_k²)/2 + b(e_{k+1} − e_k)) — both end treatments -/
theorem bin_trapz_exact_linear (s : Spectrum) (a b lo hi : ℚ) (hval : s.value = s.wave.map fun t => a * t + b)
    (hs : StrictInc s.wave) (h2 : 2 ≤ s.wave.length) (hlo : s.wave.head? = some lo) (hhi : s.wave.getLast? = some hi)
    (sym : Bool) (fl fr : ℚ) (c : List ℚ) (hedges : ∀ e ∈ trapzEdges sym c, lo ≤ e ∧ e ≤ hi) (bins : List ℚ)
    (h : bin s false sym fl fr none c = .ok bins) : bins = exactBins a b (trapzEdges sym c) := by
  obtain ⟨-, -, rfl⟩ := binRaw_eq_ok (bin_none h)
  rw [if_neg Bool.false_ne_true, sample_linear s a b lo hi hval hs h2 hlo hhi fl fr _ hedges, trapzBins_linear]

/-- Simpson binning is exact for linear spectra on UNIFORM centres (symmetric ends, float centres, no power preservation): if
the samples lie on the line a·λ + b, the centres have a constant step h and every sample point of the rule lies inside the
sampled range, bin k is the exact integral ∫ (a·λ + b) dλ over the k-th bin [e_k, e_{k+1}] — the same `exactBins` over the same
edges as the trapezoid rule (`bin_trapz_exact_linear`). Uniformity is what makes each centre the mid-point of its bin. -/
theorem bin_simps_exact_linear_uniform (s : Spectrum) (a b lo hi : ℚ) (hval : s.value = s.wave.map fun t => a * t + b)
    (hs : StrictInc s.wave) (h2 : 2 ≤ s.wave.length) (hlo : s.wave.head? = some lo) (hhi : s.wave.getLast? = some hi)
    (fl fr h : ℚ) (c : List ℚ) (hu : UniformStep h c) (hpts : ∀ e ∈ simpsPoints true c, lo ≤ e ∧ e ≤ hi) (bins : List ℚ)
    (hb : bin s true true fl fr none c = .ok bins) : bins = exactBins a b (trapzEdges true c) := by
  obtain ⟨-, -, rfl⟩ := binRaw_eq_ok (bin_none hb)
  obtain ⟨hm, he⟩ := simpsPoints_uniform h c hu
  rw [if_pos rfl, sample_linear s a b lo hi hval hs h2 hlo hhi fl fr _ hpts, simpsBins_linear a b _ hm, he]

/-- non-vacuity of `bin_simps_exact_linear_uniform`: 2λ+1 on [500, 520], centres 503, 506, 509, 512 (step 3) -/
example : UniformStep 3 [503, 506, 509, 512] ∧ (∀ e ∈ simpsPoints true [503, 506, 509, 512], (500 : ℚ) ≤ e ∧ e ≤ 520) ∧
    bin ⟨[500, 520], [1001, 1041]⟩ true true 0 0 none [503, 506, 509, 512] = .ok (exactBins 2 1 (trapzEdges true [503, 506, 509, 512])) := by
  refine ⟨by norm_num [UniformStep], by decide +kernel, by decide +kernel⟩

/-- exactness PER BIN (the clause "exact for spectra that are linear across each bin"): when the two edges of bin k lie in one
data segment [x_i, x_{i+1}] of a well-formed spectrum — the interpolant is affine across the bin, whatever the spectrum does
elsewhere — the trapezoid bin is the exact integral of that segment's line over the bin (increment of its primitive) -/
theorem bin_trapz_exact_per_bin (s : Spectrum) (hwf : WF s) (sym : Bool) (fl fr : ℚ) (c bins : List ℚ)
    (h : bin s false sym fl fr none c = .ok bins) (k i : ℕ) (e0 e1 a b ya yb : ℚ)
    (he0 : (trapzEdges sym c)[k]? = some e0) (he1 : (trapzEdges sym c)[k + 1]? = some e1)
    (ha : s.wave[i]? = some a) (hb : s.wave[i + 1]? = some b) (hya : s.value[i]? = some ya) (hyb : s.value[i + 1]? = some yb)
    (h0 : a ≤ e0) (h01 : e0 ≤ e1) (h1 : e1 ≤ b) :
    bins[k]? = some (linePrim a ya b yb e1 - linePrim a ya b yb e0) := by
  obtain ⟨-, -, rfl⟩ := binRaw_eq_ok (bin_none h)
  rw [if_neg Bool.false_ne_true, trapzBins_map_getElem _ _ k e0 e1 he0 he1,
    interpAt_on_segment hwf.1 fl fr ha hb hya hyb h0 (h01.trans h1),
    interpAt_on_segment hwf.1 fl fr ha hb hya hyb (h0.trans h01) h1, trapzTerm_line]

/-- non-negativity of `bin` itself (trapezoid rule): a well-formed spectrum with non-negative values and non-negative
fill, strictly increasing centres ⇒ every bin is non-negative — without power preservation, and with it (the
normalisation integral `integrate s (min c) (max c)` and the raw sum are both non-negative). The zero-raw-sum case (dark
spectrum, or every edge outside the data with fill 0) is covered: the code's guard leaves the raw (all-zero) bins as they are. -/
theorem bin_trapz_nonneg (s : Spectrum) (hwf : WF s) (hv : ∀ v ∈ s.value, 0 ≤ v) (sym : Bool) (fl fr : ℚ)
    (hfl : 0 ≤ fl) (hfr : 0 ≤ fr) (c : List ℚ) (hc : StrictInc c) (pp : Bool) (bins : List ℚ)
    (h : bin s false sym fl fr (if pp then some none else none) c = .ok bins) : ∀ b ∈ bins, 0 ≤ b := by
  obtain ⟨raw, hraw, hbins⟩ := bin_eq_ok h
  have hraw0 := binRaw_nonneg hwf hv hfl hfr hc hraw
  obtain rfl | ⟨given, hpp, -, rfl⟩ := hbins
  · exact hraw0
  · obtain rfl : given = none := by cases pp <;> simp_all
    refine List.forall_mem_map.2 fun r hr => mul_nonneg (hraw0 r hr) (div_nonneg ?_ (sumL_nonneg _ hraw0))
    simp only [binNorm]
    split
    · exact integrate_nonneg hwf hv _ _
    · exact le_rfl

/-- with power preservation the trapezoid bins sum to the spectrum's (trapezoid) integral over the span of the centres,
`integrate s (min centres) (max centres)`, whenever the un-normalised bins do not sum to zero; when they do (dark spectrum,
every edge outside the data) the bins returned are the un-normalised ones, unchanged (and so still sum to zero) -/
theorem bin_preserve_power_sum (s : Spectrum) (sym : Bool) (fl fr : ℚ) (c raw : List ℚ) (a b : ℚ)
    (hraw : binRaw s false sym fl fr c = .ok raw) (ha : minL c = some a) (hb : maxL c = some b) :
    ∃ bins, bin s false sym fl fr (some none) c = .ok bins ∧
      (sumL raw ≠ 0 → sumL bins = integrate s a b) ∧ (sumL raw = 0 → bins = raw) := by
  have := bin_preserve_power hraw none
  rwa [show binNorm s c none = integrate s a b by simp only [binNorm, ha, hb]] at this

/-- power preservation with a supplied integral `I` (the Simpson case: `I` comes from `scipy.integrate.simpson`, not
modelled): the normalised bins of either rule sum to `I` whenever the un-normalised bins do not sum to zero; when they do,
the un-normalised bins are returned unchanged -/
theorem bin_preserve_power_sum_given (s : Spectrum) (simps sym intC : Bool) (fl fr I : ℚ) (c raw : List ℚ)
    (hraw : binRaw s simps sym fl fr c intC = .ok raw) :
    ∃ bins, bin s simps sym fl fr (some (some I)) c intC = .ok bins ∧
      (sumL raw ≠ 0 → sumL bins = I) ∧ (sumL raw = 0 → bins = raw) :=
  bin_preserve_power hraw (some I)

/-! ### crop, trim, append, pad; known findings; ties to the source lines -/

/-- crop keeps exactly the samples inside the closed requested range (whether or not it then raises on an emptied grid) -/
theorem crop_keeps_exactly_closed_range (lo hi : ℚ) (s : Spectrum) (h : WF s) :
    ∀ x, x ∈ (crop lo hi s).1.wave ↔ x ∈ s.wave ∧ lo ≤ x ∧ x ≤ hi := by
  intro x
  rw [crop_eq_maskS lo hi h, maskS_wave, maskS_wave, List.mem_filter, List.mem_filter]
  simp [Gen.cropDropLow, Gen.cropDropHigh, and_assoc]

/-- trim keeps exactly the samples from the first to the last one whose value, relative to the maximum, exceeds the
tolerance; when no sample does, the call raises IndexError and the spectrum is left as it was -/
theorem trim_first_to_last_above_tol (tol : ℚ) (s : Spectrum) (m : ℚ)
    (hz : s.value.all (· == 0) = false) (hm : maxL s.value = some m) (hpos : 0 < m) :
    (∃ a b, trim tol s = (⟨slice a b s.wave, slice a b s.value⟩, none) ∧
       (∃ v, s.value[a]? = some v ∧ v / m > tol) ∧ (∀ j, j < a → ∀ v, s.value[j]? = some v → ¬ v / m > tol) ∧
       (∃ v, s.value[b]? = some v ∧ v / m > tol) ∧ (∀ j, b < j → ∀ v, s.value[j]? = some v → ¬ v / m > tol))
    ∨ (trim tol s = (s, some .indexError) ∧ ∀ v ∈ s.value, ¬ v / m > tol) := by
  have hnp : Gen.trimRefuses m = false := by simp [Gen.trimRefuses, hpos]
  simp only [trim, hz, hm, hnp, Bool.false_eq_true, if_false]
  cases hf : firstIdx (fun v : ℚ => Gen.trimAbove v m tol) s.value with
  | none => exact .inr ⟨rfl, firstIdx_none (P := fun v => v / m > tol) hf⟩
  | some a =>
    cases hl : lastIdx (fun v : ℚ => Gen.trimAbove v m tol) s.value with
    | none => exact .inr ⟨rfl, lastIdx_none (P := fun v => v / m > tol) hl⟩
    | some b =>
      have h1 := firstIdx_spec (P := fun v => v / m > tol) hf
      have h2 := lastIdx_spec (P := fun v => v / m > tol) hl
      exact .inl ⟨a, b, rfl, h1.1, h1.2, h2.1, h2.2⟩

/-- crop does not depend on the absolute size of the wavelength numbers: rescaling the grid and both limits by k > 0
(a change of unit, metres instead of nanometres) rescales the kept wavelengths, keeps the same samples and raises in the
same cases — no absolute tolerance can enter -/
theorem crop_scale_covariant (k lo hi : ℚ) (hk : 0 < k) (s : Spectrum) :
    crop (lo * k) (hi * k) (scaleS k s) = (scaleS k (crop lo hi s).1, (crop lo hi s).2) := by
  rw [crop_eq_stages, crop_eq_stages, scaleS_wave, List.head?_map]
  cases s.wave.head? with
  | none => rfl
  | some w0 =>
    -- the scaling moves out of the first stage; guards and tests are homogeneous (`cropOps_scale`)
    simp only [Option.map_some, cropStage_scale, cropOps_scale hk, scaleS_wave, List.getLast?_map]
    cases (cropStage (Gen.cropLowGuard lo w0) (fun w => !Gen.cropDropLow lo w) s).wave.getLast? with
    | none => rfl
    | some wl => simp only [Option.map_some, cropOps_scale hk]

/-- KNOWN FINDING witness (KF-C15-bin-integer-centres): with centres given as an integer-dtype array the Simpson grid
is an integer array and its mid-points are truncated; for the linear spectrum 2λ+1 on [500, 520] and centres
503, 506, 509, 512 the bins are not the exact integrals 3021, 3039, 3057, 3075 (which float centres give) -/
theorem kf_bin_integer_centres :
    bin ⟨[500, 520], [1001, 1041]⟩ true true 0 0 none [503, 506, 509, 512] (intC := false) = .ok [3021, 3039, 3057, 3075] ∧
    bin ⟨[500, 520], [1001, 1041]⟩ true true 0 0 none [503, 506, 509, 512] (intC := true) ≠ .ok [3021, 3039, 3057, 3075] := by
  constructor <;> decide +kernel

/-- KNOWN FINDING witness (KF-C15-bin-raw-sum-zero-nonzero-integral): the trapezoid rule samples the spectrum only at the bin
edges; for the values 1, 0, 1, 0, 1 on 0..4 and centres 0, 2, 4 the edges −1, 1, 3, 5 fall on zeros of the spectrum or outside
the data: the un-normalised bins are [0, 0, 0], so (guarded rescaling, `bin_preserve_power_sum`: raw sum = 0 → bins = raw) the
power-preserving bins are [0, 0, 0] too — although the spectrum's integral over the span of the centres is 2. No rescaling can
preserve the power here. -/
theorem kf_bin_raw_sum_zero_nonzero_integral :
    binRaw ⟨[0, 1, 2, 3, 4], [1, 0, 1, 0, 1]⟩ false true 0 0 [0, 2, 4] = .ok [0, 0, 0] ∧
    bin ⟨[0, 1, 2, 3, 4], [1, 0, 1, 0, 1]⟩ false true 0 0 (some none) [0, 2, 4] = .ok [0, 0, 0] ∧
    integrate ⟨[0, 1, 2, 3, 4], [1, 0, 1, 0, 1]⟩ 0 4 = 2 := by
  refine ⟨?_, ?_, ?_⟩ <;> decide +kernel

/-- `append`'s overlap guard in the model is the comparison regenerated from the source line
`if np.any(other.wave <= self.wave): raise ValueError()` (`Gen.appendRefusesAt`), in every NumPy broadcasting case -/
theorem append_guard_is_code (o w : List ℚ) :
    anyLeBroadcast o w =
      if o.length = w.length then some ((List.zipWith Gen.appendRefusesAt o w).any id)
      else if o.length = 1 then some (w.any (fun b => Gen.appendRefusesAt o.head! b))
      else if w.length = 1 then some (o.any (fun a => Gen.appendRefusesAt a w.head!))
      else none := rfl

/-- the regenerated element test refuses a wavelength that merely TOUCHES the paired one (closed comparison): an
accepted append never repeats a wavelength -/
theorem append_guard_refuses_touching (ow sw : ℚ) : Gen.appendRefusesAt ow sw = true ↔ ow ≤ sw := by
  simp [Gen.appendRefusesAt]

/-- a single appended sample (`other.wave` of length 1, broadcast against the whole grid) is refused as soon as it does
not lie strictly beyond EVERY wavelength of the spectrum — stated on the regenerated comparison through the model -/
theorem append_single_refused (x v : ℚ) (s : Spectrum) (hl : s.wave.length ≠ 1) (b : ℚ) (hb : b ∈ s.wave) (hx : x ≤ b) :
    append ⟨[x], [v]⟩ s = (s, some .valueError) := by
  have hany : (s.wave.any fun b => Gen.appendRefusesAt x b) = true :=
    List.any_eq_true.mpr ⟨b, hb, (append_guard_refuses_touching x b).mpr hx⟩
  have hl' : ¬ (1 = s.wave.length) := fun h => hl h.symm
  simp only [append, append_guard_is_code, List.length_singleton, hl', if_false, if_true, List.head!_cons, hany]

/-- `trim` keeps the slice `[index_min : index_max + 1]` of the source (`Gen.trimSliceStart/Stop`, regenerated from the two
slice assignments of `Spectrum.trim`): the model's `slice a b` is Python's `l[start:stop]` for those bounds -/
theorem trim_slice_is_code (a b : Nat) (l : List ℚ) :
    slice a b l = (l.drop (Gen.trimSliceStart a b).toNat).take
      ((Gen.trimSliceStop a b).toNat - (Gen.trimSliceStart a b).toNat) := by
  have h1 : (Gen.trimSliceStart a b).toNat = a := by simp only [Gen.trimSliceStart]; omega
  have h2 : (Gen.trimSliceStop a b).toNat = b + 1 := by simp only [Gen.trimSliceStop]; omega
  rw [h1, h2]; rfl

/-- `bin` with ends="inside": the edges / sample points the model uses are those of the source. Trapezoid: first and last edge
are the first and last centre (`Gen.binInsideEdgeLo/Hi`); Simpson: one quarter point is inserted after the first and one
before the last point (`Gen.binInsideLo/Hi`, regenerated from the two `np.insert` statements, positions 1 and -1) — shown on
two and three centres with arbitrary values -/
theorem bin_inside_points_are_code (c0 c1 c2 : ℚ) :
    trapzEdges false [c0, c1] = [Gen.binInsideEdgeLo c0, Gen.binMid c0 c1, Gen.binInsideEdgeHi c1] ∧
    trapzEdges false [c0, c1, c2] = [Gen.binInsideEdgeLo c0, Gen.binMid c0 c1, Gen.binMid c1 c2, Gen.binInsideEdgeHi c2] ∧
    simpsPoints false [c0, c1] =
      [c0, Gen.binInsideLo c0 (Gen.binMid c0 c1), Gen.binMid c0 c1, Gen.binInsideHi c1 (Gen.binMid c0 c1), c1] ∧
    simpsPoints false [c0, c1, c2] =
      [c0, Gen.binInsideLo c0 (Gen.binMid c0 c1), Gen.binMid c0 c1, c1, Gen.binMid c1 c2,
       Gen.binInsideHi c2 (Gen.binMid c1 c2), c2] := ⟨rfl, rfl, rfl, rfl⟩

/-- the two inserted Simpson points lie strictly inside the half-interval they split, so the sample grid of ends="inside"
stays strictly increasing and inside the span of the centres -/
theorem bin_inside_quarter_points (x0 x1 xl xp : ℚ) (h0 : x0 < x1) (hl : xp < xl) :
    x0 < Gen.binInsideLo x0 x1 ∧ Gen.binInsideLo x0 x1 < x1 ∧ xp < Gen.binInsideHi xl xp ∧ Gen.binInsideHi xl xp < xl := by
  simp only [Gen.binInsideLo, Gen.binInsideHi]
  refine ⟨by linarith, by linarith, by linarith, by linarith⟩

/-- `pad` places its new samples as the source does: the left block is `np.linspace(ends[0], minwave, nleft)` without its LAST
point, the right block `np.linspace(maxwave, ends[1], nright)` without its FIRST (`Gen.padLeft*/padRight*`), and the point
removed from each block is exactly the spectrum's own end sample — so no wavelength is duplicated and none of the new
points is lost -/
theorem pad_placement_is_code (e0 e1 mn mx : ℚ) (n : ℕ) (hn : 2 ≤ n) :
    Gen.padLeftDeleted = -1 ∧ Gen.padRightDeleted = 0 ∧
    (linspace (Gen.padRightStart e0 e1 mn mx) (Gen.padRightStop e0 e1 mn mx) n).head? = some mx ∧
    (linspace (Gen.padLeftStart e0 e1 mn mx) (Gen.padLeftStop e0 e1 mn mx) n).getLast? = some mn ∧
    (linspace (Gen.padLeftStart e0 e1 mn mx) (Gen.padLeftStop e0 e1 mn mx) n).head? = some e0 ∧
    (linspace (Gen.padRightStart e0 e1 mn mx) (Gen.padRightStop e0 e1 mn mx) n).getLast? = some e1 :=
  ⟨rfl, rfl, linspace_head? _ _ (by omega), linspace_getLast? _ _ hn, linspace_head? _ _ (by omega),
    linspace_getLast? _ _ hn⟩

/-- `integrate()` with its DEFAULT bounds (`start=None`, `end=None`: `Gen.integrateDefaultStart/End`, regenerated from the two
`if … is None` statements) keeps every sample of a well-formed spectrum, i.e. is the trapezoid sum over the whole grid —
the integral the clause "the bins sum to the spectrum's integral" and the additivity/linearity theorems refer to -/
theorem integrate_default_is_whole (s : Spectrum) (h : WF s) (a b : ℚ) (ha : s.wave.head? = some a)
    (hb : s.wave.getLast? = some b) :
    integrate s (Gen.integrateDefaultStart a b) (Gen.integrateDefaultEnd a b) = trapz s.wave s.value := by
  show trapz (maskS _ s).wave (maskS _ s).value = _
  rw [maskS_eq_self h.2 _ fun w hw => by
    simp [Gen.integrateKeeps, Gen.integrateDefaultStart, Gen.integrateDefaultEnd, head_le_of_strictInc h.1 ha w hw,
      le_getLast_of_strictInc h.1 hb w hw]]

/-- instance: four samples, no bounds given -/
example : integrate ⟨[1, 2, 4, 8], [5, 6, 7, 8]⟩ (Gen.integrateDefaultStart 1 8) (Gen.integrateDefaultEnd 1 8)
    = trapz [1, 2, 4, 8] [5, 6, 7, 8] := by decide +kernel

/-- non-vacuity of `append_single_refused`, and the accepted counterpart -/
example : append ⟨[4], [1]⟩ ⟨[1, 2, 4], [5, 6, 7]⟩ = (⟨[1, 2, 4], [5, 6, 7]⟩, some .valueError) ∧
    append ⟨[5], [1]⟩ ⟨[1, 2, 4], [5, 6, 7]⟩ = (⟨[1, 2, 4, 5], [5, 6, 7, 1]⟩, none) := by
  refine ⟨?_, ?_⟩ <;> decide +kernel

/-- non-vacuity: a history with an accepted crop, a refused append and an accepted pad -/
example : run ⟨[1, 2, 4, 8], [5, 6, 7, 8]⟩ [.crop 2 5, .append ⟨[3, 9], [1, 1]⟩, .pad 1 6 none false 0 0]
    = ⟨[1, 2, 4, 6], [0, 6, 7, 0]⟩ := by decide +kernel

end Lentil.C15
