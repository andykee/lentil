import LentilVerif.Model.PlaneMeta
import LentilVerif.Lemmas.PlaneAlg
import LentilVerif.Lemmas.ChainExtents
import LentilVerif.Props.C06
import LentilVerif.Lemmas.PlaneComplex
import LentilVerif.Lemmas.PlaneLoop
import LentilVerif.Gen.PlaneLoop
import LentilVerif.Gen.PlaneGeom
import LentilVerif.Lemmas.Canvas
/-! # C07 — wavefront views agree with each other and planes act as pointwise phasors

Regenerated from lentil/plane.py, wavefront.py and helper.py on every run: `Gen.mulPixelscale??`, `Gen.sliceOffset`, the hand-over of
`multiply` (`Gen.planeMultiplyHandover/Shape/PixelscaleArgs`, `Gen.pupil/imageMultiplyHandover`, `Gen.wavefrontInitFocal`),
`Gen.insertWiring`, the loop body of `Plane.multiply` (`Gen.planeLoop*`) and `Gen.planeShape/Size/SliceKind`. -/
namespace Lentil.C07
open Lentil

/-! ## Pixel scales -/

/-- `_mul_pixelscale` refuses (raises `ValueError`) exactly when both scales are defined and differ; otherwise it returns
the defined one (or `None` when neither is) -/
theorem pixelscale_refusal (a b : Option (Int × Int)) :
    mulPixelscale a b =
      match a, b with
      | some x, some y => if x = y then .ok (some x) else .error "ValueError"
      | some x, none => .ok (some x)
      | none, y => .ok y := by
  rcases a with _ | ⟨x0, x1⟩ <;> rcases b with _ | ⟨y0, y1⟩
  · rfl
  · rfl
  · rfl
  · by_cases h : x0 = y0 ∧ x1 = y1 <;> simp [mulPixelscale, Gen.mulPixelscalePP, Except.map, h]

/-- **the refusal does not depend on the unit of length**: re-expressing both pixel scales through any injective map of the
scale values (e.g. metres → nanometres) refuses exactly the same pairs and returns the re-expressed result. In particular
no pair of *different* scales is ever accepted because it is small or nearly equal — what a tolerance-based comparison
(`np.allclose`, absolute 1e-8) would do at nanometre scales. -/
theorem pixelscale_refusal_unit_free (f : Int → Int) (hf : Function.Injective f) (a b : Option (Int × Int)) :
    mulPixelscale (a.map fun p => (f p.1, f p.2)) (b.map fun p => (f p.1, f p.2))
      = match mulPixelscale a b with
        | .ok r => .ok (r.map fun p => (f p.1, f p.2))
        | .error e => .error e := by
  rw [pixelscale_refusal, pixelscale_refusal]
  rcases a with _ | ⟨x0, x1⟩ <;> rcases b with _ | ⟨y0, y1⟩ <;> simp only [Option.map_none, Option.map_some]
  by_cases h : (x0, x1) = (y0, y1)
  · rw [if_pos h, if_pos (by exact congrArg (Prod.map f f) h)]
    rfl
  · rw [if_neg h, if_neg]
    exact fun hh => h (hf.prodMap hf hh)

/-! ## Metadata hand-over -/
section handover
variable {K R M : Type} [Zero K] [Mul K] [FocalLike M]

/-- **what `Plane.multiply` hands over** (about the *generated* `Gen.planeMultiplyHandover`, `planeMultiplyPixelscaleArgs`,
`planeMultiplyShape`, and `Gen.wavefrontInitFocal` of `Wavefront.__init__`, read off the source on every run): the new wavefront
gets the incoming wavefront's wavelength, its focal length if that is truthy and `inf` otherwise, the reconciled pixel scale `_mul_pixelscale(plane, wavefront)`, the plane's shape unless that is `()`, and
the data of `planeMultiply` at the incoming wavelength -/
theorem plane_multiply_handover (phOf : M → R → K) (p : PlaneM K R) (ppx : Option (Int × Int)) (w : Wf K M) :
    planeMultiplyW phOf p ppx w = (mulPixelscale ppx w.pixelscale).map fun px =>
      { wavelength := w.wavelength, focal := (if FocalLike.truthy w.focal then w.focal else FocalLike.inf), pixelscale := px,
        shape := (match p.shape with | none => w.shape | some s => some s),
        data := planeMultiply (phOf w.wavelength) p w.data } := by
  unfold planeMultiplyW
  simp only [Gen.planeMultiplyPixelscaleArgs, Gen.planeMultiplyHandover, Gen.planeMultiplyShape, Gen.wavefrontInitFocal, Wf.ofHandover]
  congr 1
  funext px
  cases p.shape <;> rfl

theorem planeMultiplyW_ok (phOf : M → R → K) (p : PlaneM K R) (ppx : Option (Int × Int)) (w w' : Wf K M)
    (h : planeMultiplyW phOf p ppx w = .ok w') :
    w'.wavelength = w.wavelength ∧ w'.focal = (if FocalLike.truthy w.focal then w.focal else FocalLike.inf) ∧
      w'.data = planeMultiply (phOf w.wavelength) p w.data := by
  rw [plane_multiply_handover] at h
  cases hp : mulPixelscale ppx w.pixelscale with
  | error e => rw [hp] at h; simp [Except.map] at h
  | ok px => rw [hp] at h; simp only [Except.map, Except.ok.injEq] at h; subst h; exact ⟨rfl, rfl, rfl⟩

/-- passing through a plane leaves the wavelength unchanged, whatever the plane; the focal length passes through unchanged when
it is truthy, and a falsy one (`None`, `0`) becomes `inf` (the constructor's "plane wave" default) -/
theorem plane_keeps_wavelength (phOf : M → R → K) (p : PlaneM K R) (ppx : Option (Int × Int)) (w w' : Wf K M)
    (h : planeMultiplyW phOf p ppx w = .ok w') :
    w'.wavelength = w.wavelength ∧ (FocalLike.truthy w.focal = true → w'.focal = w.focal) ∧
      (FocalLike.truthy w.focal = false → w'.focal = FocalLike.inf) := by
  obtain ⟨hwl, hfo, _⟩ := planeMultiplyW_ok phOf p ppx w w' h
  exact ⟨hwl, fun ht => by rw [hfo, if_pos ht], fun hf => by rw [hfo, hf]; rfl⟩

/-- a pupil hands over its focal length (and still leaves the wavelength alone); the data are those of `Plane.multiply` -/
theorem pupil_sets_focal_length (phOf : M → R → K) (p : PlaneM K R) (ppx : Option (Int × Int)) (fl : M) (w w' : Wf K M)
    (h : pupilMultiplyW phOf p ppx fl w = .ok w') :
    w'.focal = fl ∧ w'.wavelength = w.wavelength ∧
      ∃ w'', planeMultiplyW phOf p ppx w = .ok w'' ∧ w'.data = w''.data ∧ w'.shape = w''.shape ∧ w'.pixelscale = w''.pixelscale := by
  unfold pupilMultiplyW at h
  cases hp : planeMultiplyW phOf p ppx w with
  | error e => rw [hp] at h; simp [Except.map] at h
  | ok w2 =>
    rw [hp] at h
    simp only [Except.map, Except.ok.injEq, Gen.pupilMultiplyHandover, Wf.ofHandover, Wf.handover] at h; subst h
    exact ⟨rfl, (plane_keeps_wavelength phOf p ppx w w2 hp).1, w2, rfl, rfl, rfl, rfl⟩

/-- **`Image.multiply` changes only the plane type** (about the *generated* `Gen.imageMultiplyHandover`, read off the
source on every run): wavelength, focal length, pixel scale and shape of `Plane.multiply`'s result pass through, the
plane type becomes the given value (`lentil.image`) — for every record and every type of plane-type values -/
theorem image_multiply_handover {M P S T : Type} (h : Gen.WfHandover M P S T) (img : T) :
    (Gen.imageMultiplyHandover h img).wavelength = h.wavelength ∧ (Gen.imageMultiplyHandover h img).focal_length = h.focal_length ∧
    (Gen.imageMultiplyHandover h img).pixelscale = h.pixelscale ∧ (Gen.imageMultiplyHandover h img).shape = h.shape ∧
    (Gen.imageMultiplyHandover h img).ptype = img := ⟨rfl, rfl, rfl, rfl, rfl⟩

/-- hence an image plane acts on the modelled state exactly like `Plane.multiply` -/
theorem image_multiply_eq_plane (phOf : M → R → K) (p : PlaneM K R) (ppx : Option (Int × Int)) (w : Wf K M) :
    imageMultiplyW phOf p ppx w = planeMultiplyW phOf p ppx w := by
  unfold imageMultiplyW
  cases planeMultiplyW phOf p ppx w with
  | error e => rfl
  | ok w' => rfl

/-- the plane with default attributes and no pixel scale leaves wavelength, (truthy) focal length, pixel scale and shape alone -/
theorem default_plane_keeps_metadata [One K] (phOf : M → R → K) (o : R) (w : Wf K M) (ht : FocalLike.truthy w.focal = true) :
    ∃ w', planeMultiplyW phOf ⟨.scalar 1, .scalar o, .scalar true⟩ none w = .ok w' ∧ w'.wavelength = w.wavelength ∧
      w'.focal = w.focal ∧ w'.pixelscale = w.pixelscale ∧ w'.shape = w.shape := by
  rw [plane_multiply_handover, pixelscale_refusal]
  exact ⟨_, rfl, rfl, if_pos ht, rfl, rfl⟩

/-- every kind of step (Plane, Pupil, Image) keeps the wavelength and multiplies the data with phasors at the incoming wavelength -/
theorem step_keeps_wavelength (phOf : M → R → K) (s : WStep K R M) (w w' : Wf K M) (h : s.apply phOf w = .ok w') :
    w'.wavelength = w.wavelength ∧ w'.data = planeMultiply (phOf w.wavelength) s.planeM w.data := by
  cases s with
  | plane p px => exact ⟨(planeMultiplyW_ok phOf p px w w' h).1, (planeMultiplyW_ok phOf p px w w' h).2.2⟩
  | pupil p px fl =>
    obtain ⟨_, hwl, w'', hw'', hdat, _, _⟩ := pupil_sets_focal_length phOf p px fl w w' h
    exact ⟨hwl, hdat.trans (planeMultiplyW_ok phOf p px w w'' hw'').2.2⟩
  | image p px =>
    have h2 := planeMultiplyW_ok phOf p px w w' (by rw [← image_multiply_eq_plane]; exact h)
    exact ⟨h2.1, h2.2.2⟩

/-- **along any chain of planes the wavelength never changes, and every phasor is built with that one wavelength**: if the chain
`w * s1 * s2 * …` (Plane / Pupil / Image steps in any order) is not refused, the result has the initial wavelength and its fields
are those of `chainMultiply` with `exp(2πi·opd/λ)` at the INITIAL wavelength in every plane -/
theorem chain_keeps_wavelength (phOf : M → R → K) (steps : List (WStep K R M)) (w w' : Wf K M) (h : runW phOf steps w = .ok w') :
    w'.wavelength = w.wavelength ∧ w'.data = chainMultiply (phOf w.wavelength) (steps.map WStep.planeM) w.data := by
  induction steps generalizing w with
  | nil => simp only [runW, Except.ok.injEq] at h; subst h; exact ⟨rfl, rfl⟩
  | cons s r ih =>
    unfold runW at h
    cases hs : s.apply phOf w with
    | error e => rw [hs] at h; simp at h
    | ok w1 =>
      rw [hs] at h
      obtain ⟨h1, h2⟩ := step_keeps_wavelength phOf s w w1 hs
      obtain ⟨h3, h4⟩ := ih w1 h
      refine ⟨h3.trans h1, ?_⟩
      rw [h4, h1, h2]
      rfl

/-- the multiplication is refused exactly when `_mul_pixelscale` refuses -/
theorem plane_refuses_iff (phOf : M → R → K) (p : PlaneM K R) (ppx : Option (Int × Int)) (w : Wf K M) :
    (∃ e, planeMultiplyW phOf p ppx w = .error e) ↔ ∃ x y, ppx = some x ∧ w.pixelscale = some y ∧ x ≠ y := by
  rw [plane_multiply_handover, pixelscale_refusal]
  rcases ppx with _ | x <;> rcases hw : w.pixelscale with _ | y <;> simp [Except.map]
  by_cases h : x = y <;> simp [h]

end handover

/-! ## A plane multiplies the embedded field pointwise by its phasor -/
section phasor
variable {K R : Type} [NonUnitalNonAssocSemiring K]

/-- **`Plane.multiply` multiplies the total embedded field by the sum of the plane's phasors**, at every pixel of the
infinite plane, for any number of incoming fields and segments of any shapes and offsets (products that do not overlap
are dropped by the code and contribute 0 here). One-element operands act as constants (`Fld.sem`): this is how the
fresh wavefront (a single `1`) takes the shape of the first plane. Excluded: a pair in which *both* the field and the
phasor have one element (known finding KF-C07-one-pixel-segment). -/
theorem plane_multiply_total (ph : R → K) (p : PlaneM K R) (data : List (Fld K))
    (hd : ∀ f ∈ data, 0 < f.arr.s0 ∧ 0 < f.arr.s1) (hq : ∀ q ∈ planePhasors ph p, 0 < q.arr.s0 ∧ 0 < q.arr.s1)
    (h1 : ∀ f ∈ data, ∀ q ∈ planePhasors ph p, (f.size1 && q.size1) = false) (r c : Int) :
    sumList (planeMultiply ph p data) (fun g => g.emb r c)
      = sumList data (fun f => f.sem r c) * sumList (planePhasors ph p) (fun q => q.sem r c) := by
  unfold planeMultiply
  rw [sumList_flatMap, ← sumList_mul_right]
  apply sumList_congr
  intro f hf
  rw [sumList_filterMap_emb, ← sumList_mul_left]
  exact sumList_congr _ _ _ fun q hq' => C06.mul_sem f q (h1 f hf q hq') (hd f hf) (hq q hq') r c

theorem plane_multiply_ok (ph : R → K) (p : PlaneM K R) (hp : p.ok) (data : List (Fld K))
    (hd : ∀ f ∈ data, 0 < f.arr.s0 ∧ 0 < f.arr.s1) (r c : Int) :
    sumList (planeMultiply ph p data) (fun g => g.emb r c) = sumList data (fun f => f.sem r c) * planeT ph p r c := by
  have hq := (phasors_ok ph p hp).2
  exact plane_multiply_total ph p data hd hq.pos (fun f _ q hq' => by rw [(hq q hq').1, Bool.and_false]) r c

/-- **array mask**: the total field after the plane is the total field before it times
`amplitude * exp(2 pi i opd / wavelength)` where a segment's mask is set and times `0` everywhere else — for scalar or
array amplitude and OPD (`Attr`), one or many segments, any bounding slices that cover the masks (overlapping or not).
Hypothesis `hbig`: no segment's bounding box is a single pixel (known finding KF-C07-one-pixel-segment). -/
theorem plane_multiply_pointwise (ph : R → K) (amp : Attr K) (opd : Attr R) (S0 S1 : Int) (l : List Seg)
    (hc : ∀ g ∈ l, g.covers S0 S1)
    (hbig : ∀ g ∈ l, g.s.r0 < g.s.r1 ∧ g.s.c0 < g.s.c1 ∧ ¬ (g.s.r1 - g.s.r0 = 1 ∧ g.s.c1 - g.s.c0 = 1))
    (data : List (Fld K)) (hd : ∀ f ∈ data, 0 < f.arr.s0 ∧ 0 < f.arr.s1) (r c : Int) :
    sumList (planeMultiply ph ⟨amp, opd, .segs S0 S1 l⟩ data) (fun g => g.emb r c)
      = sumList data (fun f => f.sem r c) * sumList l (fun g => segFactor ph amp opd S0 S1 g.m r c) := by
  have hl : SegsOK S0 S1 l := fun g hg => ⟨hc g hg, hbig g hg⟩
  rw [plane_multiply_ok ph ⟨amp, opd, .segs S0 S1 l⟩ hl data hd, planeT_segs ph amp opd S0 S1 l hl]

/-- the hypothesis `covers` of `plane_multiply_pointwise` holds for every plane the constructor builds: the model of
`boundary_slice` (first/last row and column with a set entry) returns slices inside the array that contain the mask's
support — so for constructed planes the only remaining hypothesis is `hbig` (no one-pixel bounding box) -/
theorem constructed_plane_covers (s0 s1 : Int) (ms : List (Int → Int → Bool)) (S0 S1 : Int) (l : List Seg)
    (h : mkMask s0 s1 ms = some (.segs S0 S1 l)) : S0 = s0 ∧ S1 = s1 ∧ ∀ g ∈ l, g.covers s0 s1 := by
  obtain ⟨h0, h1, hl⟩ := mkMask_segs s0 s1 ms S0 S1 l h
  exact ⟨h0, h1, fun g hg => bboxSlice_covers s0 s1 g.m g.s (hl g hg)⟩

/-- the literal statement for a monolithic plane (one mask): inside the mask the field is multiplied by
`amplitude * exp(2 pi i opd / wavelength)`, outside by `0` -/
theorem plane_multiply_monolithic (ph : R → K) (amp : Attr K) (opd : Attr R) (S0 S1 : Int) (g : Seg)
    (hc : g.covers S0 S1) (hbig : g.s.r0 < g.s.r1 ∧ g.s.c0 < g.s.c1 ∧ ¬ (g.s.r1 - g.s.r0 = 1 ∧ g.s.c1 - g.s.c0 = 1))
    (data : List (Fld K)) (hd : ∀ f ∈ data, 0 < f.arr.s0 ∧ 0 < f.arr.s1) (r c : Int) :
    sumList (planeMultiply ph ⟨amp, opd, .segs S0 S1 [g]⟩ data) (fun g => g.emb r c)
      = sumList data (fun f => f.sem r c) *
        (if 0 ≤ r + S0 / 2 ∧ r + S0 / 2 < S0 ∧ 0 ≤ c + S1 / 2 ∧ c + S1 / 2 < S1 ∧ g.m (r + S0 / 2) (c + S1 / 2) = true
         then amp.at (r + S0 / 2) (c + S1 / 2) * ph (opd.at (r + S0 / 2) (c + S1 / 2)) else 0) := by
  rw [plane_multiply_pointwise ph amp opd S0 S1 [g] (List.forall_mem_singleton.mpr hc) (List.forall_mem_singleton.mpr hbig) data hd r c,
    sumList_singleton]
  rfl

/-- non-vacuity: a 2×3 segment of a 5×5 plane satisfies `covers` and `hbig`, and on the fresh wavefront the theorem gives
amplitude 2 at a masked pixel -/
example : Witness.g2.covers 5 5 ∧ sumList (planeMultiply Witness.ph1 ⟨.scalar 2, .scalar 0, .segs 5 5 [Witness.g2]⟩ [Witness.w0])
    (fun g => g.emb 0 0) = 2 := ⟨Witness.g2_ok.1, by rfl⟩

/-- **known finding KF-C07-one-pixel-segment, on the model** (the negation of `plane_multiply_pointwise` without `hbig`):
a segment whose bounding box is the single pixel (1, 1) of a 5×5 plane — global coordinate (-1, -1) — has transmission 1
there and 0 at (1, 1); yet on the fresh wavefront the product is dropped altogether, and on a 5×5 field of ones the total
at (1, 1), outside the mask, is 1 instead of 0 (the 1×1 phasor is broadcast as a scalar by `Field.__mul__`). -/
theorem kf_one_pixel_segment :
    Witness.g1.covers 5 5 ∧
    segFactor Witness.ph1 (.scalar 1) (.scalar 0) 5 5 Witness.g1.m (-1) (-1) = 1 ∧
    segFactor Witness.ph1 (.scalar 1) (.scalar 0) 5 5 Witness.g1.m 1 1 = 0 ∧
    planeMultiply Witness.ph1 ⟨.scalar 1, .scalar 0, .segs 5 5 [Witness.g1]⟩ [Witness.w0] = [] ∧
    sumList (planeMultiply Witness.ph1 ⟨.scalar 1, .scalar 0, .segs 5 5 [Witness.g1]⟩ [Witness.ones55]) (fun q => q.emb 1 1) = 1 :=
  ⟨Witness.g1_covers, by rfl, by rfl, by rfl, by rfl⟩

/-- **scalar (0-d) mask, scalar or array amplitude / OPD**: the single phasor is
`amplitude * mask * exp(2 pi i opd / wavelength)` on the centred grid of the array attribute and `0` outside it; when
both attributes are scalars it is a constant on the whole plane. (Array attribute of shape `(1, 1)`: one-element scope
exclusion.) With `plane_multiply_total` this covers every scalar/array combination of amplitude, OPD and mask. -/
theorem scalar_mask_phasor (ph : R → K) (amp : Attr K) (opd : Attr R) (on : Bool) (r c : Int) :
    planePhasors ph ⟨amp, opd, .scalar on⟩ = [scalarPhasor ph amp opd on] ∧
    (scalarPhasor ph amp opd on).sem r c =
      if attrShape amp opd = (1, 1) then maskMul on (amp.at 0 0) * ph (opd.at 0 0)
      else if 0 ≤ r + (attrShape amp opd).1 / 2 ∧ r + (attrShape amp opd).1 / 2 < (attrShape amp opd).1 ∧
              0 ≤ c + (attrShape amp opd).2 / 2 ∧ c + (attrShape amp opd).2 / 2 < (attrShape amp opd).2
           then maskMul on (amp.at (r + (attrShape amp opd).1 / 2) (c + (attrShape amp opd).2 / 2))
                  * ph (opd.at (r + (attrShape amp opd).1 / 2) (c + (attrShape amp opd).2 / 2))
           else 0 := by
  refine ⟨rfl, ?_⟩
  have hsz : (scalarPhasor ph amp opd on).size1 = true ↔ attrShape amp opd = (1, 1) := by
    rw [Fld.size1_iff, Prod.ext_iff]
    rfl
  by_cases h1 : attrShape amp opd = (1, 1)
  · rw [if_pos h1, Fld.sem_of_size1_true _ (hsz.mpr h1)]
    rfl
  · rw [if_neg h1, Fld.sem_of_size1_false _ (Bool.eq_false_iff.mpr fun h => h1 (hsz.mp h)), Fld.emb_apply]
    simp only [scalarPhasor, Int.sub_zero]

end phasor

/-! ## The phase factor is `exp(+2πi·OPD/λ)` -/
section exponential
open Complex
attribute [local instance] PlaneC.realLikeReal PlaneC.cxLikeComplex

/-- the model's phase factor `planePh` (the definition the driver runs at `Float`), instantiated at `ℝ`/`ℂ`, **is**
`exp(+2πi · opd / wavelength)`: positive sign, full `2π`, division by the wavelength -/
theorem planePh_eq_exp (wavelength opd : ℝ) :
    (planePh wavelength opd : ℂ) = Complex.exp (2 * Real.pi * Complex.I * ((opd : ℂ) / (wavelength : ℂ))) := by
  show Complex.exp (((2 * Real.pi * opd / wavelength : ℝ) : ℂ) * Complex.I) = _
  congr 1
  push_cast
  ring

theorem planePh_eq_exp_fun (wavelength : ℝ) :
    (planePh wavelength : ℝ → ℂ) = fun o : ℝ => Complex.exp (2 * Real.pi * Complex.I * ((o : ℂ) / (wavelength : ℂ))) :=
  funext (planePh_eq_exp wavelength)

/-- **the phasor statement with the explicit exponential** (`K = ℂ`, OPD and wavelength real): after a plane with one
mask the total field at every pixel is the total incoming field times `amplitude · exp(+2πi·OPD/λ)` inside the mask and
times `0` outside — `λ` being the *wavefront's* wavelength (`planeMultiplyW` passes `w.wavelength` to `planePh`) -/
theorem plane_multiply_exp (wavelength : ℝ) (amp : Attr ℂ) (opd : Attr ℝ) (S0 S1 : Int) (g : Seg)
    (hc : g.covers S0 S1) (hbig : g.s.r0 < g.s.r1 ∧ g.s.c0 < g.s.c1 ∧ ¬ (g.s.r1 - g.s.r0 = 1 ∧ g.s.c1 - g.s.c0 = 1))
    (data : List (Fld ℂ)) (hd : ∀ f ∈ data, 0 < f.arr.s0 ∧ 0 < f.arr.s1) (r c : Int) :
    sumList (planeMultiply (planePh wavelength) ⟨amp, opd, .segs S0 S1 [g]⟩ data) (fun g => g.emb r c)
      = sumList data (fun f => f.sem r c) *
        (if 0 ≤ r + S0 / 2 ∧ r + S0 / 2 < S0 ∧ 0 ≤ c + S1 / 2 ∧ c + S1 / 2 < S1 ∧ g.m (r + S0 / 2) (c + S1 / 2) = true
         then amp.at (r + S0 / 2) (c + S1 / 2) *
              Complex.exp (2 * Real.pi * Complex.I * (((opd.at (r + S0 / 2) (c + S1 / 2) : ℝ) : ℂ) / (wavelength : ℂ)))
         else 0) := by
  rw [plane_multiply_monolithic (planePh wavelength) amp opd S0 S1 g hc hbig data hd r c, planePh_eq_exp]

/-- the same for any number of segments (scalar or array amplitude / OPD): every segment contributes
`amplitude · exp(+2πi·OPD/λ)` on its mask and `0` elsewhere -/
theorem plane_multiply_exp_segments (wavelength : ℝ) (amp : Attr ℂ) (opd : Attr ℝ) (S0 S1 : Int) (l : List Seg)
    (hc : ∀ g ∈ l, g.covers S0 S1)
    (hbig : ∀ g ∈ l, g.s.r0 < g.s.r1 ∧ g.s.c0 < g.s.c1 ∧ ¬ (g.s.r1 - g.s.r0 = 1 ∧ g.s.c1 - g.s.c0 = 1))
    (data : List (Fld ℂ)) (hd : ∀ f ∈ data, 0 < f.arr.s0 ∧ 0 < f.arr.s1) (r c : Int) :
    sumList (planeMultiply (planePh wavelength) ⟨amp, opd, .segs S0 S1 l⟩ data) (fun g => g.emb r c)
      = sumList data (fun f => f.sem r c) *
        sumList l (fun g => segFactor (fun o : ℝ => Complex.exp (2 * Real.pi * Complex.I * ((o : ℂ) / (wavelength : ℂ))))
          amp opd S0 S1 g.m r c) := by
  rw [plane_multiply_pointwise (planePh wavelength) amp opd S0 S1 l hc hbig data hd r c, planePh_eq_exp_fun]

/-- and for a scalar (0-d) mask: the single phasor is `amplitude · mask · exp(+2πi·OPD/λ)` on the grid of the array attribute -/
theorem scalar_mask_phasor_exp (wavelength : ℝ) (amp : Attr ℂ) (opd : Attr ℝ) (on : Bool) (r c : Int)
    (hsh : attrShape amp opd ≠ (1, 1))
    (hin : 0 ≤ r + (attrShape amp opd).1 / 2 ∧ r + (attrShape amp opd).1 / 2 < (attrShape amp opd).1 ∧
           0 ≤ c + (attrShape amp opd).2 / 2 ∧ c + (attrShape amp opd).2 / 2 < (attrShape amp opd).2) :
    (scalarPhasor (planePh wavelength) amp opd on).sem r c
      = maskMul on (amp.at (r + (attrShape amp opd).1 / 2) (c + (attrShape amp opd).2 / 2)) *
        Complex.exp (2 * Real.pi * Complex.I *
          (((opd.at (r + (attrShape amp opd).1 / 2) (c + (attrShape amp opd).2 / 2) : ℝ) : ℂ) / (wavelength : ℂ))) := by
  rw [(scalar_mask_phasor (planePh wavelength) amp opd on r c).2, if_neg hsh, if_pos hin, planePh_eq_exp]

/-- **scale covariance of the phase factor**: OPD and wavelength enter only through their ratio — multiplying both by any
`k ≠ 0` (a change of the unit of length) leaves the factor unchanged. So an OPD of 5 nm at λ = 500 nm acts exactly like
5 mm at λ = 500 mm: no absolute OPD size is "flat". -/
theorem planePh_scale (k wavelength opd : ℝ) (hk : k ≠ 0) :
    (planePh (k * wavelength) (k * opd) : ℂ) = planePh wavelength opd := by
  show Complex.exp (((2 * Real.pi * (k * opd) / (k * wavelength) : ℝ) : ℂ) * Complex.I)
      = Complex.exp (((2 * Real.pi * opd / wavelength : ℝ) : ℂ) * Complex.I)
  have : 2 * Real.pi * (k * opd) / (k * wavelength) = 2 * Real.pi * opd / wavelength := by
    rw [show 2 * Real.pi * (k * opd) = k * (2 * Real.pi * opd) by ring, mul_div_mul_left _ _ hk]
  rw [this]

/-- hence the phasors of a plane are unchanged when every OPD value and the wavelength are multiplied by `k ≠ 0` -/
theorem plane_phasors_scale (k wavelength : ℝ) (hk : k ≠ 0) (amp : Attr ℂ) (opd : Attr ℝ) (mask : MaskM) (data : List (Fld ℂ)) :
    planeMultiply (fun o => (planePh (k * wavelength) (k * o) : ℂ)) ⟨amp, opd, mask⟩ data
      = planeMultiply (planePh wavelength) ⟨amp, opd, mask⟩ data := by
  have : (fun o => (planePh (k * wavelength) (k * o) : ℂ)) = planePh wavelength := by
    funext o; exact planePh_scale k wavelength o hk
  rw [this]

/-- and the wavefront-level multiplication uses exactly this factor with the wavefront's own wavelength -/
theorem plane_uses_wavefront_wavelength [FocalLike ℝ] (p : PlaneM ℂ ℝ) (ppx : Option (Int × Int)) (w w' : Wf ℂ ℝ)
    (h : planeMultiplyW (fun wl o => planePh wl o) p ppx w = .ok w') :
    w'.data = planeMultiply (planePh w.wavelength) p w.data :=
  (planeMultiplyW_ok _ p ppx w w' h).2.2

end exponential

/-! ## The default plane is the identity -/
section identity
variable {K R : Type} [MulZeroOneClass K]

/-- **the fresh wavefront through an all-scalar plane** (scalar amplitude, scalar OPD, 0-d mask — e.g. `Plane(amplitude=2)`): the
single one-element field at the origin is multiplied by `amplitude · mask · exp(2πi·opd/λ)` and stays where it is -/
theorem fresh_times_scalar_plane (ph : R → K) (a : K) (o : R) (on : Bool) (w0 : Fld K) (h0 : w0.size1 = true)
    (hoff : w0.o0 = 0 ∧ w0.o1 = 0) :
    planeMultiply ph ⟨.scalar a, .scalar o, .scalar on⟩ [w0]
      = [{ arr := { s0 := 1, s1 := 1, get := fun _ _ => w0.arr.get 0 0 * (maskMul on a * ph o) }, o0 := w0.o0, o1 := w0.o1 }] := by
  have hq1 : (scalarPhasor ph (.scalar a) (.scalar o) on).size1 = true := rfl
  have hm := Fld.mul_scalar_scalar w0 (scalarPhasor ph (.scalar a) (.scalar o) on) (by rw [h0, hq1]; rfl)
  have hoff' : w0.o0 = (scalarPhasor ph (.scalar a) (.scalar o) on).o0 ∧ w0.o1 = (scalarPhasor ph (.scalar a) (.scalar o) on).o1 := hoff
  rw [if_pos hoff'] at hm
  simp only [planeMultiply, planePhasors, List.flatMap_cons, List.flatMap_nil, List.append_nil, List.filterMap_cons,
    List.filterMap_nil, hm]
  rfl

/-- **a plane with default attributes changes nothing**: `Plane()` has amplitude 1, OPD 0 and a 0-d mask, its phasor is
the one-element field `1 * 1 * exp(0) = 1` (`hph`), and every field comes out with the same extent and the same samples.
(A one-element field must sit at offset (0, 0), as the fresh wavefront's does — one-element scope note.) -/
theorem default_plane_identity (ph : R → K) (o : R) (hph : ph o = 1) (f : Fld K)
    (hpos : 0 < f.arr.s0 ∧ 0 < f.arr.s1) (hsz : f.size1 = true → f.o0 = 0 ∧ f.o1 = 0) :
    ∃ p, planeMultiply ph ⟨.scalar 1, .scalar o, .scalar true⟩ [f] = [p] ∧ p.extent = f.extent ∧
      ∀ r c, p.emb r c = f.emb r c := by
  cases hf : f.size1 with
  | false =>
    exact ⟨f, planeMultiply_default_id ph o hph [f] (List.forall_mem_singleton.mpr ⟨hf, f.extent_valid_iff.mpr hpos⟩), rfl,
      fun _ _ => rfl⟩
  | true =>
    have hs := (Fld.size1_iff f).mp hf
    refine ⟨_, fresh_times_scalar_plane ph 1 o true f hf (hsz hf), ?_, fun r c => ?_⟩
    · simp only [Fld.extent, hs.1, hs.2]
    · rw [Fld.emb_apply, Fld.emb_apply]
      simp only [hs.1, hs.2, maskMul, if_true, hph, mul_one]
      split
      · next h => congr 1 <;> omega
      · rfl

/-- the default plane on a whole list of array fields: the list comes back unchanged (literally: same shapes, offsets, samples) -/
theorem default_plane_identity_list (ph : R → K) (o : R) (hph : ph o = 1) (data : List (Fld K))
    (hd : ∀ f ∈ data, f.size1 = false ∧ (0 < f.arr.s0 ∧ 0 < f.arr.s1)) :
    planeMultiply ph ⟨.scalar 1, .scalar o, .scalar true⟩ data = data :=
  planeMultiply_default_id ph o hph data (fun f hf => ⟨(hd f hf).1, f.extent_valid_iff.mpr (hd f hf).2⟩)

/-- **a plane with default attributes changes nothing — the whole wavefront**: `Wavefront * Plane()` (amplitude 1, flat OPD `o` with
phase factor 1, 0-d mask, no pixel scale) returns the wavefront itself — same wavelength, focal length (truthy), pixel scale, shape and
the very same list of fields — for any number of array fields (one-element fields: `default_plane_identity`) -/
theorem default_plane_changes_nothing {M : Type} [FocalLike M] (phOf : M → R → K) (o : R) (w : Wf K M)
    (hph : phOf w.wavelength o = 1) (ht : FocalLike.truthy w.focal = true)
    (hd : ∀ f ∈ w.data, f.size1 = false ∧ (0 < f.arr.s0 ∧ 0 < f.arr.s1)) :
    planeMultiplyW phOf ⟨.scalar 1, .scalar o, .scalar true⟩ none w = .ok w := by
  rw [plane_multiply_handover, pixelscale_refusal]
  simp only [ht, if_true, Except.map]
  rw [default_plane_identity_list (phOf w.wavelength) o hph w.data hd]
  obtain ⟨wl, fo, px, sh, dat⟩ := w
  cases px <;> rfl

end identity

/-! ## Views: `field`, `intensity`, `insert` -/
section views
variable {K : Type} [NonAssocSemiring K]

/-- `Wavefront.field` is the coherent sum of the embedded fields: sample `(i, j)` of an array of shape `(S0, S1)` is the
sum of all fields at the global coordinate `(i - S0/2, j - S1/2)` — any number of fields, overlapping or not, inside,
partly inside or outside the array -/
theorem field_eq_sum (S0 S1 : Int) (data : List (Fld K)) (i j : Int) (hi : 0 ≤ i ∧ i < S0) (hj : 0 ≤ j ∧ j < S1) :
    (wfField 1 S0 S1 data).get i j = sumList data (fun f => f.emb (i - S0 / 2) (j - S1 / 2)) := by
  rw [wfField_eq, sumList_eq_sum]
  exact wavefrontField_get data S0 S1 i j hi hj

theorem sumList_post_disjoint (post : K → K) (h0 : post 0 = 0) (gs : List (Fld K))
    (hdis : gs.Pairwise (fun a b => ∀ r c, ¬ (a.extent.inb r c = true ∧ b.extent.inb r c = true))) (r c : Int) :
    sumList gs (fun g => post (g.emb r c)) = post (sumList gs (fun g => g.emb r c)) := by
  have hout : ∀ g : Fld K, ¬ g.extent.inb r c = true → g.emb r c = 0 := fun g h => if_neg h
  induction gs with
  | nil => simp [h0]
  | cons g gs ih =>
    rw [sumList_cons, sumList_cons, ih (List.Pairwise.of_cons hdis)]
    by_cases hin : g.extent.inb r c = true
    · rw [sumList_all_zero gs _ fun b hb => hout b fun hh => (List.pairwise_cons.mp hdis).1 b hb r c ⟨hin, hh⟩,
        h0, add_zero, add_zero]
    · rw [hout g hin, h0, zero_add, zero_add]

/-- inserting a list of fields with pairwise non-overlapping extents as intensities adds `|sum of the fields|^2 * w`:
at most one of them is non-zero at any pixel, so the sum of squared moduli *is* the squared modulus of the sum -/
theorem insert_disjoint_normSq (nsq : K → K) (h0 : nsq 0 = 0) (gs : List (Fld K))
    (hdis : gs.Pairwise (fun a b => ∀ r c, ¬ (a.extent.inb r c = true ∧ b.extent.inb r c = true)))
    (out : Arr K) (w : K) (i j : Int) (hi : 0 ≤ i ∧ i < out.s0) (hj : 0 ≤ j ∧ j < out.s1) :
    (gs.foldl (fun o g => insertArr g o w nsq) out).get i j
      = out.get i j + nsq (sumList gs (fun g => g.emb (i - out.s0 / 2) (j - out.s1 / 2))) * w := by
  rw [foldInsert_get_post gs out w nsq h0 i j hi hj, ← sumList_eq_sum, sumList_mul_right, sumList_post_disjoint nsq h0 gs hdis]

/-- non-vacuity of the reduce hypotheses below: a single field reduces to itself -/
example : reduce [Witness.a55] = [Witness.a55].map some ∧
    [Witness.a55].Pairwise (fun a b => ∀ r c, ¬ (a.extent.inb r c = true ∧ b.extent.inb r c = true)) := ⟨by rfl, by simp⟩

/-- `Wavefront.insert(out, weight)` in terms of what `reduce` returns (`gs`) -/
theorem wfInsert_of_reduce (nsq : K → K) (data gs : List (Fld K)) (hred : reduce data = gs.map some) (out : Arr K) (w : K) :
    wfInsert 1 nsq data out w = some (gs.foldl (fun o g => insertArr g o w nsq) out) := by
  rw [wfInsert_eq, hred, foldl_insertStep_some]

/-- **`Wavefront.insert` hands the caller's weight on to `field.insert`** (about the *generated* `Gen.insertWiring`, read off
`wavefront.py:Wavefront.insert` on every run): the wiring passes `weight=weight`, so the result does not depend on
`field.insert`'s own default weight (`one`, any value) — only on `w`. A source that drops `weight=weight` regenerates
`weighted := false`; the model then inserts with the default and this statement (and `wavefront_insert_weight`, stated
for the default 1) fails. -/
theorem wavefront_insert_uses_weight (one one' : K) (nsq : K → K) (data : List (Fld K)) (out : Arr K) (w : K) :
    Gen.insertWiring.weighted = true ∧ wfInsert one nsq data out w = wfInsert one' nsq data out w := by
  refine ⟨rfl, ?_⟩
  rw [wfInsert_eq, wfInsert_eq]

/-- when `wfInsert` returns, `reduce` returned fields only (it always does: `wavefront_insert_defined`) -/
theorem wfInsert_some (nsq : K → K) (data : List (Fld K)) (out out' : Arr K) (w : K)
    (h : wfInsert 1 nsq data out w = some out') : ∃ gs : List (Fld K), reduce data = gs.map some :=
  C06.reduce_defined data

/-- **`Wavefront.insert` always returns** (C06 `reduce_defined`: no merge of array fields can raise), for every collection of
fields, target and weight -/
theorem wavefront_insert_defined (nsq : K → K) (data : List (Fld K)) (out : Arr K) (w : K) :
    ∃ out', wfInsert 1 nsq data out w = some out' := by
  obtain ⟨gs, hred⟩ := C06.reduce_defined data
  exact ⟨_, wfInsert_of_reduce nsq data gs hred out w⟩

/-- and so does `Wavefront.intensity` -/
theorem intensity_defined (nsq : K → K) (S0 S1 : Int) (data : List (Fld K)) :
    ∃ I, wfIntensity 1 nsq S0 S1 data = some I := by
  rw [wfIntensity_eq]; exact wavefront_insert_defined nsq data _ 1

/-- **`Wavefront.insert(out, weight)` adds `weight * |field|^2` and nothing else**: whenever the call returns, every
sample of the target is its prior content plus `weight` times the squared modulus of the *coherent sum* of all fields at
that sample (`nsq z = |z^2|`, `nsq 0 = 0`), for any number of overlapping fields of any shapes and offsets, any target
shape, any weight; the target's shape is unchanged. (Uses `reduce_total` and `reduce_pairwise_disjoint` of C06.) -/
theorem wavefront_insert_weight (nsq : K → K) (h0 : nsq 0 = 0) (data : List (Fld K))
    (hpos : ∀ f ∈ data, 0 < f.arr.s0 ∧ 0 < f.arr.s1) (out out' : Arr K) (w : K)
    (h : wfInsert 1 nsq data out w = some out') :
    out'.s0 = out.s0 ∧ out'.s1 = out.s1 ∧
      ∀ i j, 0 ≤ i ∧ i < out.s0 → 0 ≤ j ∧ j < out.s1 →
        out'.get i j = out.get i j + nsq (sumList data (fun f => f.emb (i - out.s0 / 2) (j - out.s1 / 2))) * w := by
  obtain ⟨gs, hred, hdis, htot⟩ := C06.reduce_spec data hpos
  rw [wfInsert_of_reduce nsq data gs hred out w, Option.some.injEq] at h
  subst h
  obtain ⟨e0, e1⟩ := foldInsert_shape gs out w (post := nsq)
  refine ⟨e0, e1, fun i j hi hj => ?_⟩
  rw [insert_disjoint_normSq nsq h0 gs hdis out w i j hi hj, htot]

/-- the same with definedness as a conclusion: for every collection of positive-shape fields the call returns an array of
the target's shape whose every sample is the prior content plus `weight · |Σ fields|²` -/
theorem wavefront_insert_weight_total (nsq : K → K) (h0 : nsq 0 = 0) (data : List (Fld K))
    (hpos : ∀ f ∈ data, 0 < f.arr.s0 ∧ 0 < f.arr.s1) (out : Arr K) (w : K) :
    ∃ out', wfInsert 1 nsq data out w = some out' ∧ out'.s0 = out.s0 ∧ out'.s1 = out.s1 ∧
      ∀ i j, 0 ≤ i ∧ i < out.s0 → 0 ≤ j ∧ j < out.s1 →
        out'.get i j = out.get i j + nsq (sumList data (fun f => f.emb (i - out.s0 / 2) (j - out.s1 / 2))) * w := by
  obtain ⟨out', h⟩ := wavefront_insert_defined nsq data out w
  exact ⟨out', h, wavefront_insert_weight nsq h0 data hpos out out' w h⟩

/-- **`Wavefront.intensity` equals `|Wavefront.field|^2`, sample by sample**, for any number of fields, overlapping or
not: contributions landing on the same sample are added as complex amplitudes before the squared modulus, never as
intensities -/
theorem intensity_eq_normSq_field (nsq : K → K) (h0 : nsq 0 = 0) (S0 S1 : Int) (data : List (Fld K))
    (hpos : ∀ f ∈ data, 0 < f.arr.s0 ∧ 0 < f.arr.s1) (I : Arr K) (h : wfIntensity 1 nsq S0 S1 data = some I) :
    I.s0 = S0 ∧ I.s1 = S1 ∧
      ∀ i j, 0 ≤ i ∧ i < S0 → 0 ≤ j ∧ j < S1 → I.get i j = nsq ((wfField 1 S0 S1 data).get i j) := by
  obtain ⟨e0, e1, hget⟩ := wavefront_insert_weight nsq h0 data hpos (zerosArr S0 S1) I 1 h
  refine ⟨e0, e1, ?_⟩
  intro i j hi hj
  rw [hget i j hi hj, field_eq_sum S0 S1 data i j hi hj]
  simp [zerosArr]

/-- unconditional form: the intensity exists and equals `|field|²` at every sample -/
theorem intensity_eq_normSq_field_total (nsq : K → K) (h0 : nsq 0 = 0) (S0 S1 : Int) (data : List (Fld K))
    (hpos : ∀ f ∈ data, 0 < f.arr.s0 ∧ 0 < f.arr.s1) :
    ∃ I, wfIntensity 1 nsq S0 S1 data = some I ∧ I.s0 = S0 ∧ I.s1 = S1 ∧
      ∀ i j, 0 ≤ i ∧ i < S0 → 0 ≤ j ∧ j < S1 → I.get i j = nsq ((wfField 1 S0 S1 data).get i j) := by
  obtain ⟨I, h⟩ := intensity_defined nsq S0 S1 data
  exact ⟨I, h, intensity_eq_normSq_field nsq h0 S0 S1 data hpos I h⟩

/-- **the intensity is the complex squared modulus**: the views theorem at `K = ℂ` with `nsq z = |z|²` (`Complex.normSq`):
`Wavefront.intensity` at a sample is `|Σ fields|²` -/
theorem intensity_is_complex_normSq (S0 S1 : Int) (data : List (Fld ℂ)) (hpos : ∀ f ∈ data, 0 < f.arr.s0 ∧ 0 < f.arr.s1)
    (I : Arr ℂ) (h : wfIntensity 1 (fun z => (Complex.normSq z : ℂ)) S0 S1 data = some I)
    (i j : Int) (hi : 0 ≤ i ∧ i < S0) (hj : 0 ≤ j ∧ j < S1) :
    I.get i j = (Complex.normSq (sumList data (fun f => f.emb (i - S0 / 2) (j - S1 / 2))) : ℂ) := by
  obtain ⟨_, _, hget⟩ := intensity_eq_normSq_field (fun z => (Complex.normSq z : ℂ)) (by simp) S0 S1 data hpos I h
  rw [hget i j hi hj, field_eq_sum S0 S1 data i j hi hj]

end views

/-! ## The loop body of `Plane.multiply`, regenerated from the source -/
section loop
variable {K R : Type}

/-- **the per-segment phasor of the model is the loop body of `Plane.multiply` as the source has it** (about the
*generated* `Gen.planeLoopAmp`, `Gen.planeLoopOpd`, `Gen.planeLoopData`, `Gen.planeLoopOffset`, read off plane.py:457-463 on
every run): at every sample `(i, j)` of the slice `s`, the data of `segPhasor` is `amp * np.exp(..)` with
`amp = self.amplitude * mask[s] if self.amplitude.size == 1 else self.amplitude[s] * mask[s]` and
`opd = self.opd if self.opd.size == 1 else self.opd[s]`, the 0/1 mask entry being `1`/`0` of `K`, and its offset is
`slice_offset(s, self.shape)`. Hypotheses: an *array* attribute does not have exactly one element (NumPy would then
broadcast it; the harness ASSUMPTION "attribute arrays have the shape of the mask" with the one-element exclusion). A
source change that drops `* mask[s]` from either branch, slices the wrong attribute, swaps the branches, changes the
`size == 1` tests or the arguments of `slice_offset` changes the generated definitions and breaks this proof. -/
theorem loop_body_is_segPhasor [MulZeroOneClass K] (ph : R → K) (amp : Attr K) (opd : Attr R) (s0 s1 : Int) (g : Seg)
    (ha : ∀ x, amp = .array x → x.s0 * x.s1 ≠ 1) (ho : ∀ x, opd = .array x → x.s0 * x.s1 ≠ 1) (i j : Int) :
    (segPhasor ph amp opd s0 s1 g).arr.get i j
      = Gen.planeLoopData
          (Gen.planeLoopAmp amp.npSize amp.whole (amp.at (i + g.s.r0) (j + g.s.c0)) (if g.m (i + g.s.r0) (j + g.s.c0) then 1 else 0))
          (ph (Gen.planeLoopOpd opd.npSize opd.whole (opd.at (i + g.s.r0) (j + g.s.c0))))
    ∧ ((segPhasor ph amp opd s0 s1 g).o0, (segPhasor ph amp opd s0 s1 g).o1)
        = Gen.planeLoopOffset g.s.r0 g.s.r1 g.s.c0 g.s.c1 s0 s1
    ∧ ((segPhasor ph amp opd s0 s1 g).arr.s0, (segPhasor ph amp opd s0 s1 g).arr.s1) = (g.s.r1 - g.s.r0, g.s.c1 - g.s.c0) := by
  refine ⟨?_, rfl, rfl⟩
  unfold Gen.planeLoopData Gen.planeLoopAmp Gen.planeLoopOpd
  rw [← ite_mul, Attr.select_eq_at amp ha, Attr.select_eq_at opd ho]
  show maskMul _ _ * _ = _
  cases g.m (i + g.s.r0) (j + g.s.c0) <;> simp [maskMul]

/-- the hypotheses of `loop_body_is_segPhasor` hold for a 2×3 amplitude array and a scalar OPD, and the generated body
evaluates: outside the mask the phasor is 0 whatever the amplitude, inside it is `amplitude[s] * exp-factor` -/
example : (∀ x, (Attr.array (⟨2, 3, fun i j => i + j + 5⟩ : Arr Int)) = .array x → x.s0 * x.s1 ≠ 1)
    ∧ Gen.planeLoopData (Gen.planeLoopAmp (6 : Int) (5 : Int) 7 0) 3 = 0
    ∧ Gen.planeLoopData (Gen.planeLoopAmp (6 : Int) (5 : Int) 7 1) 3 = 21
    ∧ Gen.planeLoopData (Gen.planeLoopAmp (1 : Int) (5 : Int) 7 1) 3 = 15
    ∧ Gen.planeLoopData (Gen.planeLoopAmp (1 : Int) (5 : Int) 7 0) 3 = 0 := by
  refine ⟨?_, by decide, by decide, by decide, by decide⟩
  intro x hx
  cases hx
  decide

/-- **which mask the loop reads, and which products it keeps** (generated `Gen.planeLoopMaskLayer` from
`mask = self.mask if self.mask.ndim < 3 else self.mask[n]`, `Gen.planeLoopKeep` from `if res.size > 0:`): layer `n` exactly for
masks of three or more dimensions — the model's `MaskM.segs` gives each segment its own layer and a 2-D mask one segment
with the whole mask — and a product is appended exactly when it has at least one element (the model's `filterMap`
drops the empty ones and nothing else) -/
theorem loop_mask_and_keep (ndim n : Int) :
    (Gen.planeLoopMaskLayer ndim = true ↔ 3 ≤ ndim) ∧ (Gen.planeLoopKeep n = true ↔ 0 < n) := by
  simp [Gen.planeLoopMaskLayer, Gen.planeLoopKeep]

/-- **the model's description of a mask is what `Plane.shape`, `Plane.size`, `_plane_slice` and the loop's mask selection
make of it** (about the *generated* `Gen.planeShape`, `Gen.planeSize`, `Gen.planeSliceKind`, `Gen.planeLoopMaskLayer`, read off
plane.py:186-214, 528-562, 456 on every run). A plane `.segs s0 s1 l` of the model stands for a 3-D mask of shape
`(l.length, s0, s1)` with **any** number of layers — including a single layer — and, when `l` has one segment, also for the
2-D mask of shape `(s0, s1)`; `.scalar` for a 0-d mask. In each reading: `plane.shape` is the model's `PlaneM.shape`,
`plane.size` (the stride of `tilt[n::size]`) is the number of model segments, `_slice` has one `boundary_slice` per layer
(resp. one for the whole mask, resp. `Ellipsis`), and the loop reads `mask[n]` (resp. the whole mask). A source change that
makes a one-layer 3-D mask report a 3-tuple shape (`if self.size == 1` in
`Plane.shape`) or take the whole 3-D array as the layer breaks this proof. -/
theorem plane_geometry_matches_model [Zero K] (p : PlaneM K R) :
    match p.mask with
    | .segs s0 s1 l =>
        (Gen.planeShape [(l.length : Int), s0, s1] = [s0, s1] ∧ p.shape = some (s0, s1)
          ∧ (1 ≤ l.length → Gen.planeSize [(l.length : Int), s0, s1] = l.length)
          ∧ Gen.planeSliceKind [(l.length : Int), s0, s1] = .ok .perLayer
          ∧ Gen.planeLoopMaskLayer (([(l.length : Int), s0, s1] : List Int).length) = true)
        ∧ (Gen.planeShape [s0, s1] = [s0, s1] ∧ Gen.planeSize [s0, s1] = 1
          ∧ Gen.planeSliceKind [s0, s1] = .ok .whole ∧ Gen.planeLoopMaskLayer (([s0, s1] : List Int).length) = false)
    | .scalar _ =>
        Gen.planeShape [] = [] ∧ p.shape = none ∧ Gen.planeSize [] = 1 ∧ Gen.planeSliceKind [] = .ok .ellipsis := by
  cases hm : p.mask <;>
    simp [PlaneM.shape, hm, Gen.planeShape, Gen.planeSize, Gen.planeSliceKind, Gen.planeLoopMaskLayer]

/-- **the `res.size > 0` guard keeps exactly what the model keeps** (about the *generated* `Gen.planeLoopKeep`, read off
`if res.size > 0:` in `Plane.multiply` on every run): the model writes an empty product as `none` and `planeMultiply`
drops those with `filterMap`; every product it keeps (`f.mul q = some r`, both operands of positive shape) has
`res.size > 0` in the sense of the source's guard — also a one-element product — and an empty product (`size = 0`) is
not kept. A guard `res.size > 1` or `res.size >= 0` breaks this proof. -/
theorem loop_keep_matches_filterMap [Mul K] (f q r : Fld K) (hf : 0 < f.arr.s0 ∧ 0 < f.arr.s1) (hq : 0 < q.arr.s0 ∧ 0 < q.arr.s1)
    (h : f.mul q = some r) : Gen.planeLoopKeep r.size = true ∧ Gen.planeLoopKeep 0 = false := by
  obtain ⟨h0, h1⟩ := Fld.mul_pos_shape f q r hf hq h
  have a0 : 0 < r.arr.s0.toNat := by omega
  have a1 : 0 < r.arr.s1.toNat := by omega
  have hp : 0 < r.arr.s0.toNat * r.arr.s1.toNat := Nat.mul_pos a0 a1
  refine ⟨?_, by decide⟩
  unfold Gen.planeLoopKeep Fld.size
  simp only [gt_iff_lt, decide_eq_true_eq]
  omega

/-- the same along the whole loop: every field `planeMultiply` returns passed the source's guard -/
theorem plane_multiply_keeps_nonempty [Zero K] [Mul K] (ph : R → K) (p : PlaneM K R) (data : List (Fld K))
    (hd : ∀ f ∈ data, 0 < f.arr.s0 ∧ 0 < f.arr.s1) (hp : ∀ q ∈ planePhasors ph p, 0 < q.arr.s0 ∧ 0 < q.arr.s1) :
    ∀ r ∈ planeMultiply ph p data, Gen.planeLoopKeep r.size = true :=
  List.forall_mem_flatMap.mpr fun f hfm => List.forall_mem_filterMap.mpr fun q hqm r hr =>
    (loop_keep_matches_filterMap f q r (hd f hfm) (hp q hqm) hr).1

/-- non-vacuity: a one-element product passes the guard -/
example : Gen.planeLoopKeep 1 = true := by decide

end loop

end Lentil.C07
