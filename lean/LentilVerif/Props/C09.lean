import LentilVerif.Lemmas.Fft
import LentilVerif.Lemmas.FftComplex
import LentilVerif.Props.C02
import Mathlib.Analysis.Real.Sqrt
import Mathlib.Tactic.Ring
import Mathlib.Algebra.Order.Field.Rat
/-! # C09 — FFT propagation agrees with DFT propagation at the reported wavelength; scratch space is transparent

Property theorems about the model `Lentil.propagateFft` (Model/PropagateFft.lean; tied to
`lentil.propagate_fft` by the correspondence harness). `np.fft` enters through its documented contracts. Every theorem about an
accepted or refused call reads the call through the inversion lemmas of Lemmas/Fft.lean. -/
namespace Lentil.C09
open Lentil

section generic
set_option linter.unusedSectionVars false
variable {K R : Type} [Add R] [Sub R] [Mul R] [Neg R] [Div R] [RealLike R] [FftLike R] [Add K] [Mul K] [Zero K] [CxLike K R]

/-- **Wavefronts carrying tilt metadata are refused** (never propagated without their tilt), whatever else is asked -/
theorem refuses_tilted_wavefront (one : K) (fs : List (Fld K)) (W0 W1 : Int) (dx0 dx1 du0 du1 wl z : R) (os : Int)
    (shape : Option (Int × Int)) (scratch : Option (Arr K)) :
    propagateFft one fs true W0 W1 dx0 dx1 du0 du1 wl z os shape scratch = FftOut.notImplemented :=
  propagateFft_eq_notImplemented_iff.mpr rfl

/-- **A wavefront in which ANY field carries tilt metadata is refused** — not only the first field, not only when all do:
`_has_tilt` (generated) is true as soon as one entry of the per-field tilt counts is non-zero -/
theorem refuses_any_tilted_field (one : K) (fs : List (Fld K)) (ntilt : List Int) (n : Int) (hn : n ∈ ntilt) (hpos : n ≠ 0)
    (W0 W1 : Int) (dx0 dx1 du0 du1 wl z : R) (os : Int) (shape : Option (Int × Int)) (scratch : Option (Arr K)) :
    propagateFft one fs (Gen.hasTilt ntilt) W0 W1 dx0 dx1 du0 du1 wl z os shape scratch = FftOut.notImplemented :=
  propagateFft_eq_notImplemented_iff.mpr ((hasTilt_iff ntilt).mpr ⟨n, hn, hpos⟩)

/-- and a wavefront none of whose fields carries tilt is not refused on that account -/
theorem untilted_not_refused (ntilt : List Int) (h : ∀ n ∈ ntilt, n = 0) : Gen.hasTilt ntilt = false := by
  rw [← Bool.not_eq_true, hasTilt_iff]
  rintro ⟨n, hn, h0⟩
  exact h0 (h n hn)

/-- **The call on a wavefront of ANY plane type refuses tilt first**: also a wavefront that has met no pupil/image plane (type
`none`, e.g. `Wavefront(wl, tilt=…)` through a plain `Plane`) is refused as tilted (NotImplementedError), the tilt guard
precedes the plane-type guard in the regenerated guard table `Gen.codePropagateFft` -/
theorem call_refuses_tilted_any_type (w : Gen.WType) (one : K) (fs : List (Fld K)) (W0 W1 : Int) (dx0 dx1 du0 du1 wl z : R) (os : Int)
    (shape : Option (Int × Int)) (scratch : Option (Arr K)) :
    propagateFftCall w one fs true W0 W1 dx0 dx1 du0 du1 wl z os shape scratch = FftCallOut.refusedBy .notImplementedError := by
  cases w <;> rfl

/-- **No outcome of the call carries a field of a tilted wavefront**: whatever the plane type, shape and scratch, if the call
returns a propagated field then no field of the wavefront carried tilt -/
theorem call_result_implies_untilted (w t : Gen.WType) (one : K) (fs : List (Fld K)) (ht : Bool) (W0 W1 : Int)
    (dx0 dx1 du0 du1 wl z : R) (os : Int) (shape : Option (Int × Int)) (scratch : Option (Arr K)) (lam : R) (S0 S1 : Int)
    (so : Int × Int) (g : Fld K)
    (h : propagateFftCall w one fs ht W0 W1 dx0 dx1 du0 du1 wl z os shape scratch = FftCallOut.done t (FftOut.ok lam S0 S1 so g)) :
    ht = false := by
  cases ht
  · rfl
  · rw [call_refuses_tilted_any_type] at h; cases h

/-- **An untilted wavefront without a plane type is refused (TypeError), never propagated; on a pupil / image wavefront the
call IS the body `propagateFft`** every other theorem of this file is about, with the plane type flipped -/
theorem call_untilted (w : Gen.WType) (one : K) (fs : List (Fld K)) (W0 W1 : Int) (dx0 dx1 du0 du1 wl z : R) (os : Int)
    (shape : Option (Int × Int)) (scratch : Option (Arr K)) :
    propagateFftCall w one fs false W0 W1 dx0 dx1 du0 du1 wl z os shape scratch =
      match w with
      | .none => FftCallOut.refusedBy .typeError
      | .pupil => FftCallOut.done .image (propagateFft one fs false W0 W1 dx0 dx1 du0 du1 wl z os shape scratch)
      | .image => FftCallOut.done .pupil (propagateFft one fs false W0 W1 dx0 dx1 du0 du1 wl z os shape scratch) := by
  cases w <;> rfl

/-- **The grid and the reported wavelength of the model are the regenerated arithmetic of `_fft_shape`**: `fftShape` (and the advertised
`scratchShape`) is `Gen.fftShapeOfAlpha` — the composition read from `fft_shape = np.round(np.reciprocal(alpha)).astype(int)` — with
round-half-even and `1/·` whatever `floor` / `ceil` are, and `propWavelength` is the regenerated reduction (`np.min`) of the two
regenerated per-axis wavelengths. Another rounding, a dropped reciprocal or another reduction in the source changes these
definitions and this proof stops checking. -/
theorem fft_shape_is_generated (fl ce : R → Int) (mx mean : R → R → R) (dx0 dx1 du0 du1 z wl : R) (os S0 S1 : Int) :
    fftShape dx0 dx1 du0 du1 z wl os
      = Gen.fftShapeOfAlpha FftLike.roundEven fl ce (fun a => RealLike.ofInt 1 / a)
          (Gen.fftShapeAlpha dx0 dx1 du0 du1 z wl (RealLike.ofInt os)).1 (Gen.fftShapeAlpha dx0 dx1 du0 du1 z wl (RealLike.ofInt os)).2 ∧
    scratchShape wl dx0 dx1 du0 du1 z os
      = Gen.fftShapeOfAlpha FftLike.roundEven fl ce (fun a => RealLike.ofInt 1 / a)
          (Gen.scratchShapeAlpha dx0 dx1 du0 du1 z wl (RealLike.ofInt os)).1 (Gen.scratchShapeAlpha dx0 dx1 du0 du1 z wl (RealLike.ofInt os)).2 ∧
    propWavelength S0 S1 dx0 dx1 du0 du1 z wl os
      = Gen.fftWavelengthReduce FftLike.min mx mean
          (Gen.fftReportedWavelengths (RealLike.ofInt S0) (RealLike.ofInt S1) dx0 dx1 du0 du1 z wl (RealLike.ofInt os)).1
          (Gen.fftReportedWavelengths (RealLike.ofInt S0) (RealLike.ofInt S1) dx0 dx1 du0 du1 z wl (RealLike.ofInt os)).2 :=
  ⟨rfl, rfl, rfl⟩

/-- **A scratch buffer of exactly the advertised `scratch_shape` (= `fft_shape`) is sufficient**, and so is any larger
one: a call that is accepted without scratch is accepted with it -/
theorem scratch_shape_sufficient (one : K) (fs : List (Fld K)) (W0 W1 : Int) (dx0 dx1 du0 du1 wl z : R) (os : Int)
    (shape : Option (Int × Int)) (scr : Arr K)
    (hs : scr.s0 ≥ (fftShape dx0 dx1 du0 du1 z wl os).1 ∧ scr.s1 ≥ (fftShape dx0 dx1 du0 du1 z wl os).2)
    (hno : propagateFft one fs false W0 W1 dx0 dx1 du0 du1 wl z os shape none ≠ FftOut.valueError) :
    propagateFft one fs false W0 W1 dx0 dx1 du0 du1 wl z os shape (some scr) ≠ FftOut.valueError := by
  intro h
  rcases ((propagateFft_eq_valueError_iff rfl).mp h).2 with hb | hsm
  · exact hno ((propagateFft_eq_valueError_iff rfl).mpr ⟨rfl, Or.inl hb⟩)
  · rw [(scratchTooSmall_false_iff _ _).mpr hs] at hsm; cases hsm

/-- a buffer smaller than the grid on some axis is refused -/
theorem refuses_small_scratch (one : K) (fs : List (Fld K)) (W0 W1 : Int) (dx0 dx1 du0 du1 wl z : R) (os : Int)
    (shape : Option (Int × Int)) (scr : Arr K)
    (hs : scr.s0 < (fftShape dx0 dx1 du0 du1 z wl os).1 ∨ scr.s1 < (fftShape dx0 dx1 du0 du1 z wl os).2) :
    propagateFft one fs false W0 W1 dx0 dx1 du0 du1 wl z os shape (some scr) = FftOut.valueError :=
  (propagateFft_eq_valueError_iff rfl).mpr ⟨rfl, Or.inr ((scratchTooSmall_true_iff _ _).mpr hs)⟩

/-- the views of the scratch buffer that receive the inserted fields and that are transformed are exactly the
`S0 x S1` corner `scratch[0:S0, 0:S1]`, and so is the region zeroed beforehand (generated from the source) -/
theorem scratch_views_are_corner (S0 S1 : Int) :
    Gen.scratchZero S0 S1 = ((0, S0), (0, S1)) ∧ Gen.scratchInsertTarget S0 S1 = ((0, S0), (0, S1)) ∧
    Gen.scratchInsertView S0 S1 = ((0, S0), (0, S1)) ∧ Gen.scratchFftView S0 S1 = ((0, S0), (0, S1)) :=
  ⟨rfl, rfl, rfl, rfl⟩

/-- **Scratch is transparent.** For two scratch buffers of any sufficient sizes and any prior contents, the padded grid
handed to the FFT is the same at every grid index, hence so is every sample of the result. -/
theorem scratch_transparent_grid (one : K) (fs : List (Fld K)) (W0 W1 S0 S1 : Int) (scr scr' : Arr K) (i j : Int)
    (hi : 0 ≤ i ∧ i < S0) (hj : 0 ≤ j ∧ j < S1) :
    (fftGrid one fs W0 W1 S0 S1 (some scr)).get i j = (fftGrid one fs W0 W1 S0 S1 (some scr')).get i j :=
  foldInsert_get_congr fs (zeroedCorner scr S0 S1) (zeroedCorner scr' S0 S1) one i j rfl rfl
    ((zeroedCorner_get scr S0 S1 i j hi hj).trans (zeroedCorner_get scr' S0 S1 i j hi hj).symm)

theorem scratch_transparent (one : K) (fs : List (Fld K)) (W0 W1 S0 S1 : Int) (scr scr' : Arr K) (hS : 0 < S0 ∧ 0 < S1)
    (u v : Int) :
    (fft2c (R := R) (fftGrid one fs W0 W1 S0 S1 (some scr))).get u v =
    (fft2c (R := R) (fftGrid one fs W0 W1 S0 S1 (some scr'))).get u v :=
  fft2c_get_congr _ _ S0 S1 (fftGrid_shape one fs W0 W1 S0 S1 _) (fftGrid_shape one fs W0 W1 S0 S1 _)
    (scratch_transparent_grid one fs W0 W1 S0 S1 scr scr') u v

end generic

/-- **A scratch buffer does not change the result.** For a wavefront no larger than the grid (whose fields lie on its
canvas), the call with a sufficient scratch buffer — of any size, with any prior content — returns the same reported
wavelength, grid and output shape as the call without scratch, and the same value at every sample of the output field. -/
theorem scratch_equals_no_scratch {K R : Type} [Add R] [Sub R] [Mul R] [Neg R] [Div R] [RealLike R] [FftLike R]
    [Semiring K] [CxLike K R]
    (fs : List (Fld K)) (W0 W1 : Int) (dx0 dx1 du0 du1 wl z : R) (os : Int) (shape : Option (Int × Int)) (scr : Arr K)
    (hs : scr.s0 ≥ (fftShape dx0 dx1 du0 du1 z wl os).1 ∧ scr.s1 ≥ (fftShape dx0 dx1 du0 du1 z wl os).2)
    (hW : 0 ≤ W0 ∧ W0 ≤ (fftShape dx0 dx1 du0 du1 z wl os).1 ∧ 0 ≤ W1 ∧ W1 ≤ (fftShape dx0 dx1 du0 du1 z wl os).2)
    (hfit : ∀ f ∈ fs, f.within W0 W1)
    (lam : R) (S0 S1 : Int) (so : Int × Int) (g : Fld K)
    (h : propagateFft 1 fs false W0 W1 dx0 dx1 du0 du1 wl z os shape none = FftOut.ok lam S0 S1 so g) :
    ∃ g' : Fld K, propagateFft 1 fs false W0 W1 dx0 dx1 du0 du1 wl z os shape (some scr) = FftOut.ok lam S0 S1 so g' ∧
      g'.o0 = g.o0 ∧ g'.o1 = g.o1 ∧ ∀ u v, g'.arr.get u v = g.arr.get u v := by
  obtain ⟨_, hb, _, rfl, rfl, rfl, rfl, rfl⟩ := (propagateFft_eq_ok_iff rfl).mp h
  refine ⟨_, (propagateFft_eq_ok_iff rfl).mpr ⟨rfl, hb, (scratchTooSmall_false_iff _ _).mpr hs, rfl, rfl, rfl, rfl, rfl⟩, rfl, rfl, ?_⟩
  exact fft2c_get_congr _ _ _ _ (fftGrid_shape 1 fs W0 W1 _ _ _) (fftGrid_shape 1 fs W0 W1 _ _ _)
    fun i j hi hj => (fftGrid_get fs W0 W1 _ _ _ hfit i j hi hj).trans (fftGrid_get fs W0 W1 _ _ _ hfit i j hi hj).symm

/-! ## The shape guard: the float comparison `shape > fft_shape/oversample` (generated) is the integer criterion -/
section ordered
variable {K R : Type} [Field R] [LinearOrder R] [IsStrictOrderedRing R] [RealLike R] [FftLike R] [Add K] [Mul K] [Zero K] [CxLike K R]

/-- **Shapes larger than the grid are refused**: `shape·oversample > fft_shape` on some axis gives `ValueError` (the code
compares `shape > fft_shape/oversample` in floats — generated `Gen.fftShapeTooBig`; `hgt`: `FftLike.gt` is `>`) -/
theorem refuses_larger_shape (hcast : ∀ n : Int, (RealLike.ofInt n : R) = (n : R)) (hgt : ∀ a b : R, FftLike.gt a b = true ↔ b < a)
    (one : K) (fs : List (Fld K)) (W0 W1 : Int) (dx0 dx1 du0 du1 wl z : R) (os : Int) (hos : 0 < os)
    (sh : Int × Int) (scratch : Option (Arr K))
    (hbig : sh.1 * os > (fftShape dx0 dx1 du0 du1 z wl os).1 ∨ sh.2 * os > (fftShape dx0 dx1 du0 du1 z wl os).2) :
    propagateFft one fs false W0 W1 dx0 dx1 du0 du1 wl z os (some sh) scratch = FftOut.valueError :=
  (propagateFft_eq_valueError_iff rfl).mpr ⟨rfl, Or.inl ((shapeTooBig_iff hcast hgt sh _ os hos).mpr hbig)⟩

/-- every accepted shape fits the grid: the output is `shape·oversample` and never larger than `fft_shape` -/
theorem accepted_shape_fits (hcast : ∀ n : Int, (RealLike.ofInt n : R) = (n : R)) (hgt : ∀ a b : R, FftLike.gt a b = true ↔ b < a)
    (one : K) (fs : List (Fld K)) (W0 W1 : Int) (dx0 dx1 du0 du1 wl z : R) (os : Int) (hos : 0 < os)
    (sh : Int × Int) (scratch : Option (Arr K)) (lam : R) (S0 S1 : Int) (so : Int × Int) (g : Fld K)
    (h : propagateFft one fs false W0 W1 dx0 dx1 du0 du1 wl z os (some sh) scratch = FftOut.ok lam S0 S1 so g) :
    so = (sh.1 * os, sh.2 * os) ∧ so.1 ≤ S0 ∧ so.2 ≤ S1 ∧ (S0, S1) = fftShape dx0 dx1 du0 du1 z wl os := by
  have hle := propagateFft_ok_shape_le hcast hgt hos h
  obtain ⟨_, _, _, _, rfl, rfl, rfl, _⟩ := (propagateFft_eq_ok_iff rfl).mp h
  exact ⟨rfl, hle.1, hle.2, rfl⟩
end ordered

/-- **Per-axis sampling with consistent grids: alpha = (1/S0, 1/S1) at the reported wavelength.** Anisotropic `dx·du` is fine as
long as both axes lead to the same wavelength, `S0·dx0·du0 = S1·dx1·du1` (e.g. `1/alpha` integral on each axis: a 20×40
grid from pixelscale (5 µm, 2.5 µm)): the single reported wavelength then describes both axes. (The open known finding
is the complementary case, where the per-axis wavelengths differ.) -/
theorem reported_wavelength_consistent {R : Type} [Field R] [RealLike R] [FftLike R]
    (hcast : ∀ n : Int, (RealLike.ofInt n : R) = (n : R)) (hmin : ∀ a : R, FftLike.min a a = a)
    (dx0 dx1 du0 du1 z wl : R) (os S0 S1 : Int) (hcons : (S0 : R) * (dx0 * du0) = (S1 : R) * (dx1 * du1))
    (hp0 : dx0 * du0 ≠ 0) (hp1 : dx1 * du1 ≠ 0) (hz : z ≠ 0) (hos : (os : R) ≠ 0) (hS0 : (S0 : R) ≠ 0) (hS1 : (S1 : R) ≠ 0) :
    dftAlpha dx0 dx1 du0 du1 (propWavelength S0 S1 dx0 dx1 du0 du1 z wl os) z os = (1 / (S0 : R), 1 / (S1 : R)) := by
  -- both axes lead to the same wavelength `lam`, and `lam·z·os = S·dx·du` on either axis
  have hl : propWavelength S0 S1 dx0 dx1 du0 du1 z wl os * z * os = S0 * (dx0 * du0) := by
    simp only [propWavelength_eq, hcast]
    rw [show (S1 : R) / os * dx1 * du1 = S0 / os * dx0 * du0 by
      rw [mul_assoc, mul_assoc, div_mul_eq_mul_div, div_mul_eq_mul_div, hcons], hmin,
      div_mul_cancel₀ _ hz, mul_assoc (_ / _), mul_right_comm, div_mul_cancel₀ _ hos]
  refine Prod.ext ?_ ?_
  · show dx0 * du0 / (_ * z * RealLike.ofInt os) = _
    rw [hcast, hl, div_mul_cancel_right₀ hp0]; exact (one_div _).symm
  · show dx1 * du1 / (_ * z * RealLike.ofInt os) = _
    rw [hcast, hl, hcons, div_mul_cancel_right₀ hp1]; exact (one_div _).symm

/-- **Isotropic sampling: at the reported wavelength, alpha = 1/S on both axes.** If `dx0·du0 = dx1·du1` and the grid is
`S x S`, the DFT sampling ratio computed with the reported propagation wavelength is exactly `1/S` per axis. -/
theorem reported_wavelength_isotropic {R : Type} [Field R] [RealLike R] [FftLike R]
    (hcast : ∀ n : Int, (RealLike.ofInt n : R) = (n : R)) (hmin : ∀ a : R, FftLike.min a a = a)
    (dx0 dx1 du0 du1 z wl : R) (os S : Int) (hiso : dx0 * du0 = dx1 * du1)
    (hp : dx0 * du0 ≠ 0) (hz : z ≠ 0) (hos : (os : R) ≠ 0) (hS : (S : R) ≠ 0) :
    dftAlpha dx0 dx1 du0 du1 (propWavelength S S dx0 dx1 du0 du1 z wl os) z os = (1 / (S : R), 1 / (S : R)) :=
  reported_wavelength_consistent hcast hmin dx0 dx1 du0 du1 z wl os S S (by rw [hiso]) hp (hiso ▸ hp) hz hos hS hS

/-- **Scale invariance.** Multiplying every length (pixel scales, wavelength, focal length) by `k > 0` leaves the FFT grid
unchanged and multiplies the reported wavelength by `k`: grid, refusals and field do not depend on the length unit.
`hmin` only says that the class operation `FftLike.min` (`np.min`) is the order's `min` (`rfl` at ℝ and ℚ); the law
`min (k a) (k b) = k min a b` is proved from `0 < k`. Instantiated without hypotheses at ℝ in `fft_scale_invariant_real`. -/
theorem fft_scale_invariant {R : Type} [Field R] [LinearOrder R] [IsStrictOrderedRing R] [RealLike R] [FftLike R]
    (hmin : ∀ a b : R, FftLike.min a b = min a b)
    (k dx0 dx1 du0 du1 z wl : R) (os S0 S1 : Int) (hk : 0 < k) :
    fftShape (k * dx0) (k * dx1) (k * du0) (k * du1) (k * z) (k * wl) os = fftShape dx0 dx1 du0 du1 z wl os ∧
    propWavelength S0 S1 (k * dx0) (k * dx1) (k * du0) (k * du1) (k * z) (k * wl) os = k * propWavelength S0 S1 dx0 dx1 du0 du1 z wl os := by
  have hk0 : k ≠ 0 := ne_of_gt hk
  constructor
  · rw [fftShape_eq_dftAlpha, fftShape_eq_dftAlpha, (C02.alpha_scale_invariant k dx0 dx1 du0 du1 z wl os hk0 0 0 0 0).1]
  · have e : ∀ a x y : R, a * (k * x) * (k * y) / (k * z) = k * (a * x * y / z) := fun a x y => by
      rw [show a * (k * x) * (k * y) = k * (k * (a * x * y)) by ring, mul_div_assoc, mul_div_mul_left _ _ hk0]
    simp only [propWavelength_eq, hmin, e]
    exact (mul_min_of_nonneg _ _ hk.le).symm

/-- **Metadata of the result** (generated hand-over `Gen.fftOutMeta`, `Gen.fftFieldPixelscale`): the output carries the reported
wavelength, the input focal length and the sampling `pixelscale/oversample` per axis, on the wavefront and on its Field. -/
theorem fft_metadata_carried {R : Type} [Field R] [RealLike R] [FftLike R] (lam dx0 dx1 du0 du1 z wl : R) (os : Int) :
    fftMeta lam dx0 dx1 du0 du1 z wl os = (lam, (du0 / RealLike.ofInt os, du1 / RealLike.ofInt os), z) ∧
    Gen.fftFieldPixelscale dx0 dx1 du0 du1 z wl (RealLike.ofInt os : R) = (du0 / RealLike.ofInt os, du1 / RealLike.ofInt os) :=
  ⟨rfl, rfl⟩

/-- **`scratch_shape` advertises the grid of the propagation at the largest wavelength** (generated call wiring
`Gen.scratchShapeAlpha`): with `maxWl = np.max(wavelength)`, `scratch_shape(wavelength, dx, du, z, oversample)` is exactly
`fft_shape` of `propagate_fft` for a wavefront of that wavelength — so by `scratch_shape_sufficient` a buffer of exactly
the advertised shape is accepted. -/
theorem scratch_shape_is_fft_shape {R : Type} [Field R] [RealLike R] [FftLike R] (maxWl dx0 dx1 du0 du1 z : R) (os : Int) :
    scratchShape maxWl dx0 dx1 du0 du1 z os = fftShape dx0 dx1 du0 du1 z maxWl os := rfl

/-- **A buffer advertised for a list of wavelengths suffices for each of them**: the grid grows with the wavelength
(`hmono`: the rounding is monotone — proved for the real round-half-even in `roundEven_real_mono`; `scratch_shape_monotone_real` has no
such hypothesis), so the grid at `np.max(wavelength)` dominates the grid at
every smaller wavelength, per axis (positive pixel scales, focal length, oversampling). -/
theorem scratch_shape_monotone {R : Type} [Field R] [LinearOrder R] [IsStrictOrderedRing R] [RealLike R] [FftLike R]
    (hcast : ∀ n : Int, (RealLike.ofInt n : R) = (n : R))
    (hmono : ∀ a b : R, a ≤ b → FftLike.roundEven a ≤ FftLike.roundEven b)
    (wl wl' dx0 dx1 du0 du1 z : R) (os : Int) (hwl : wl ≤ wl') (hpos : 0 < dx0 ∧ 0 < dx1 ∧ 0 < du0 ∧ 0 < du1 ∧ 0 < z ∧ 0 < wl)
    (hos : 0 < os) :
    (fftShape dx0 dx1 du0 du1 z wl os).1 ≤ (scratchShape wl' dx0 dx1 du0 du1 z os).1 ∧
    (fftShape dx0 dx1 du0 du1 z wl os).2 ≤ (scratchShape wl' dx0 dx1 du0 du1 z os).2 := by
  obtain ⟨h0, h1, h2, h3, hz, -⟩ := hpos
  have hosR : (0 : R) < (os : R) := by exact_mod_cast hos
  -- per axis: `1/alpha = z·wl·os/(dx·du)` grows with the wavelength
  have key : ∀ p : R, 0 < p → ((1 : ℤ) : R) / (p / (z * wl * os)) ≤ ((1 : ℤ) : R) / (p / (z * wl' * os)) := fun p hp => by
    rw [Int.cast_one, one_div_div, one_div_div]
    exact div_le_div_of_nonneg_right (mul_le_mul_of_nonneg_right (mul_le_mul_of_nonneg_left hwl hz.le) hosR.le) hp.le
  simp only [scratch_shape_is_fft_shape, fftShape_eq, hcast]
  exact ⟨hmono _ _ (key _ (mul_pos h0 h2)), hmono _ _ (key _ (mul_pos h1 h3))⟩

/-- **The whole outcome is scale covariant.** Multiplying every length by `k > 0` changes nothing but the reported wavelength,
which is multiplied by `k`: same refusal or acceptance, same grid, same output shape, same field. -/
theorem propagateFft_scale_covariant {K R : Type} [Field R] [LinearOrder R] [IsStrictOrderedRing R] [RealLike R] [FftLike R] [Add K] [Mul K] [Zero K] [CxLike K R]
    (hmin : ∀ a b : R, FftLike.min a b = min a b)
    (one : K) (fs : List (Fld K)) (ht : Bool) (W0 W1 : Int) (k dx0 dx1 du0 du1 wl z : R) (os : Int)
    (shape : Option (Int × Int)) (scratch : Option (Arr K)) (hk : 0 < k) :
    (∀ lam S0 S1 so g, propagateFft one fs ht W0 W1 dx0 dx1 du0 du1 wl z os shape scratch = FftOut.ok lam S0 S1 so g →
      propagateFft one fs ht W0 W1 (k * dx0) (k * dx1) (k * du0) (k * du1) (k * wl) (k * z) os shape scratch = FftOut.ok (k * lam) S0 S1 so g) ∧
    (propagateFft one fs ht W0 W1 dx0 dx1 du0 du1 wl z os shape scratch = FftOut.valueError →
      propagateFft one fs ht W0 W1 (k * dx0) (k * dx1) (k * du0) (k * du1) (k * wl) (k * z) os shape scratch = FftOut.valueError) ∧
    (propagateFft one fs ht W0 W1 dx0 dx1 du0 du1 wl z os shape scratch = FftOut.notImplemented →
      propagateFft one fs ht W0 W1 (k * dx0) (k * dx1) (k * du0) (k * du1) (k * wl) (k * z) os shape scratch = FftOut.notImplemented) := by
  have hS := (fft_scale_invariant hmin k dx0 dx1 du0 du1 z wl os 0 0 hk).1
  refine ⟨fun lam S0 S1 so g h => ?_, fun h => ?_, fun h => ?_⟩
  · obtain ⟨ht, hb, hs, rfl, rfl, rfl, rfl, rfl⟩ := (propagateFft_eq_ok_iff rfl).mp h
    exact (propagateFft_eq_ok_iff hS).mpr
      ⟨ht, hb, hs, (fft_scale_invariant hmin k dx0 dx1 du0 du1 z wl os _ _ hk).2, rfl, rfl, rfl, rfl⟩
  · exact (propagateFft_eq_valueError_iff hS).mpr ((propagateFft_eq_valueError_iff rfl).mp h)
  · exact propagateFft_eq_notImplemented_iff.mpr (propagateFft_eq_notImplemented_iff.mp h)

/-! ## The FFT path is the unitary DFT with alpha = 1/S, centred at floor(S/2), for even and odd grids -/
section fftdft
set_option linter.unusedSectionVars false
variable {K R : Type} [Field R] [CharZero R] [RealLike R] [CommRing K] [CxLike K R]

/-- **`_fft2` is `dft2` with `alpha = (1/S0, 1/S1)`.** `fftshift(fft2(ifftshift(x), norm='ortho'))` (NumPy contracts:
unitary DFT with origin at index 0; rotations by `±floor(n/2)`) equals, at every output index and for grids of either
parity, the unitary `dft2` of `x` with `alpha = 1/S` per axis, `S0 x S1` output samples, zero shift and offset — both
origins at `floor(S/2)`. Hypotheses: `ofInt` is the integer cast, `exp(-2 pi i t/n)` is `n`-periodic in the integer `t`,
and `1/sqrt(S0 S1) = sqrt|1/S0 · 1/S1|` for the model's `sqrt`/`abs` (all true of the real/complex functions). -/
theorem fft_path_is_unitary_dft (hcast : ∀ n : Int, (RealLike.ofInt n : R) = (n : R)) (hper : RootPeriodic K R)
    (x : Arr K) (hS0 : 0 < x.s0) (hS1 : 0 < x.s1)
    (hnorm : (RealLike.ofInt 1 : R) / RealLike.sqrt (RealLike.ofInt (x.s0 * x.s1)) =
      RealLike.sqrt (RealLike.abs (1 / (x.s0 : R) * (1 / (x.s1 : R))))) (u v : Int) :
    (fft2c (R := R) x).get u v = (dft2 x (1 / (x.s0 : R)) (1 / (x.s1 : R)) x.s0 x.s1 0 0 0 0 true).get u v := by
  simp only [fft2c, fft2Ortho, dft2, if_true, (fft2_composition _ _).1, (fft2_composition _ _).2.1, (fft2_composition 0 0).2.2, fft2Scale]
  rw [hnorm]
  refine congrArg (· * _) ?_
  -- one axis at a time: the rows inside each column, then the columns
  refine (sumRange_congr _ _ _ fun b _ => congrArg (· * _)
    (fft1_eq_dft1 hcast hper x.s0 hS0 (fun k a => k * x.get a (npIfftshiftIdx x.s1 b)) u)).trans ?_
  exact fft1_eq_dft1 hcast hper x.s1 hS1
    (fun k y => (sumRange x.s0.toNat fun x' => (dftKernel (1 / (x.s0 : R)) x.s0 x.s0 0 0 x' u : K) * x.get x' y) * k) v

variable [FftLike R]

/-- isotropic sampling gives a square grid, so in either case of `hcons` both axes lead to the same wavelength -/
theorem ok_alpha_at_reported_wavelength (hcast : ∀ n : Int, (RealLike.ofInt n : R) = (n : R)) (hmin : ∀ a : R, FftLike.min a a = a)
    {one : K} {fs : List (Fld K)} {W0 W1 : Int} {dx0 dx1 du0 du1 wl z : R} {os : Int}
    {shape : Option (Int × Int)} {scratch : Option (Arr K)} {lam : R} {S0 S1 : Int} {so : Int × Int} {g : Fld K}
    (h : propagateFft one fs false W0 W1 dx0 dx1 du0 du1 wl z os shape scratch = FftOut.ok lam S0 S1 so g)
    (hcons : dx0 * du0 = dx1 * du1 ∨ (S0 : R) * (dx0 * du0) = (S1 : R) * (dx1 * du1))
    (hp : dx0 * du0 ≠ 0) (hp1 : dx1 * du1 ≠ 0) (hz : z ≠ 0) (hos : (os : R) ≠ 0) (hS : 0 < S0) (hS1 : 0 < S1) :
    dftAlpha dx0 dx1 du0 du1 lam z os = (1 / (S0 : R), 1 / (S1 : R)) := by
  obtain ⟨_, _, _, rfl, rfl, rfl, _, _⟩ := (propagateFft_eq_ok_iff rfl).mp h
  refine reported_wavelength_consistent hcast hmin dx0 dx1 du0 du1 z wl os _ _ ?_ hp hp1 hz hos
    (Int.cast_ne_zero.mpr hS.ne') (Int.cast_ne_zero.mpr hS1.ne')
  rcases hcons with hiso | hc
  · rw [fftShape_square z wl os hiso, hiso]
  · exact hc

/-- **`_fft2 ∘ pad` = unitary `dft2` of the padded grid at the reported wavelength** (isotropic `dx·du`, or per-axis sampling whose two
axes lead to the same wavelength). Whenever
`propagate_fft` answers, every sample of its grid-sized output field equals the unitary `dft2` of the same padded input
grid evaluated with the sampling ratio `alpha = dx·du/(lambda' z os)` computed from the wavelength `lambda'` it reports
(grid-sized output, zero shift). The step from here to the `propagate_dft` model is `fft_eq_propagate_dft` below. -/
theorem fft_eq_dft_at_reported_wavelength (hcast : ∀ n : Int, (RealLike.ofInt n : R) = (n : R))
    (hper : RootPeriodic K R) (hmin : ∀ a : R, FftLike.min a a = a)
    (one : K) (fs : List (Fld K)) (W0 W1 : Int) (dx0 dx1 du0 du1 wl z : R) (os : Int)
    (shape : Option (Int × Int)) (scratch : Option (Arr K)) (lam : R) (S0 S1 : Int) (so : Int × Int) (g : Fld K)
    (h : propagateFft one fs false W0 W1 dx0 dx1 du0 du1 wl z os shape scratch = FftOut.ok lam S0 S1 so g)
    (hcons : dx0 * du0 = dx1 * du1 ∨ (S0 : R) * (dx0 * du0) = (S1 : R) * (dx1 * du1))
    (hp : dx0 * du0 ≠ 0) (hp1 : dx1 * du1 ≠ 0) (hz : z ≠ 0) (hos : (os : R) ≠ 0) (hS : 0 < S0) (hS1 : 0 < S1)
    (hnorm : (RealLike.ofInt 1 : R) / RealLike.sqrt (RealLike.ofInt (S0 * S1)) =
      RealLike.sqrt (RealLike.abs (1 / (S0 : R) * (1 / (S1 : R))))) (u v : Int) :
    g.arr.get u v =
      (dft2 (fftGrid one fs W0 W1 S0 S1 scratch) (dftAlpha dx0 dx1 du0 du1 lam z os).1 (dftAlpha dx0 dx1 du0 du1 lam z os).2
        S0 S1 0 0 0 0 true).get u v := by
  have hsh := fftGrid_shape one fs W0 W1 S0 S1 scratch
  have key := fft_path_is_unitary_dft hcast hper (fftGrid one fs W0 W1 S0 S1 scratch)
    (by rw [hsh.1]; exact hS) (by rw [hsh.2]; exact hS1) (by rw [hsh.1, hsh.2]; exact hnorm) u v
  rw [hsh.1, hsh.2] at key
  rw [propagateFft_ok_field h, ok_alpha_at_reported_wavelength hcast hmin h hcons hp hp1 hz hos hS hS1]
  exact key

end fftdft

/-! ### The same at `K = ℂ`, `R = ℝ`: the hypotheses hold for the real square root and the complex exponential -/
section complex
open Complex

/-- **`_fft2` = unitary `dft2` with `alpha = 1/S` over ℂ**, no hypotheses beyond a non-empty grid: for every complex
array, every grid parity and every output index. -/
theorem fft_path_is_unitary_dft_complex (x : Arr ℂ) (hS0 : 0 < x.s0) (hS1 : 0 < x.s1) (u v : Int) :
    (fft2c (R := ℝ) x).get u v = (dft2 x (1 / (x.s0 : ℝ)) (1 / (x.s1 : ℝ)) x.s0 x.s1 0 0 0 0 true).get u v :=
  fft_path_is_unitary_dft (fun _ => rfl) rootPeriodic_complex x hS0 hS1
    (one_div_sqrt_mul_eq_sqrt_abs x.s0 x.s1 hS0 hS1) u v

/-- The grid-sized output is `dft2` of the padded grid at `alpha = 1/S`, hence the sum of `dft2` of the fields; the crop to `so` keeps
the coordinates: sample `[i][j]` sits at `(i − ⌊so₀/2⌋, j − ⌊so₁/2⌋)`. -/
theorem fft_sample_eq_fraunhoferAt (fs : List (Fld ℂ)) (W0 W1 : Int) (dx0 dx1 du0 du1 wl z : ℝ) (os : Int)
    (shape : Option (Int × Int)) (scratch : Option (Arr ℂ)) (lam : ℝ) (S0 S1 : Int) (so : Int × Int) (g : Fld ℂ)
    (h : propagateFft 1 fs false W0 W1 dx0 dx1 du0 du1 wl z os shape scratch = FftOut.ok lam S0 S1 so g)
    (hcons : dx0 * du0 = dx1 * du1 ∨ (S0 : ℝ) * (dx0 * du0) = (S1 : ℝ) * (dx1 * du1))
    (hp : dx0 * du0 ≠ 0) (hp1 : dx1 * du1 ≠ 0) (hz : z ≠ 0) (hos : 0 < os) (hS : 0 < S0 ∧ 0 < S1)
    (hW : W0 ≤ S0 ∧ W1 ≤ S1) (hfit : ∀ f ∈ fs, f.within W0 W1) (hpos : ∀ f ∈ fs, 0 < f.arr.s0 ∧ 0 < f.arr.s1)
    (i j : Int) (hi : 0 ≤ i ∧ i < so.1) (hj : 0 ≤ j ∧ j < so.2) :
    (wavefrontField 1 [g] so.1 so.2).get i j =
      (fs.map fun f => fraunhoferAt f (dftAlpha dx0 dx1 du0 du1 lam z os).1 (dftAlpha dx0 dx1 du0 du1 lam z os).2
        ((i - so.1 / 2 : ℤ) : ℝ) ((j - so.2 / 2 : ℤ) : ℝ)).sum := by
  have hfft := fft_eq_dft_at_reported_wavelength (K := ℂ) (R := ℝ) (fun _ => rfl) rootPeriodic_complex (fun a => min_self a)
    1 fs W0 W1 dx0 dx1 du0 du1 wl z os shape scratch lam S0 S1 so g h hcons hp hp1 hz (Int.cast_ne_zero.mpr hos.ne') hS.1 hS.2
    (one_div_sqrt_mul_eq_sqrt_abs S0 S1 hS.1 hS.2)
  have hle := propagateFft_ok_shape_le (R := ℝ) (fun _ => rfl) gt_real hos h
  obtain rfl := propagateFft_ok_field h
  rw [wavefrontField_crop (fft2c (R := ℝ) _) S0 S1 (fftGrid_shape 1 fs W0 W1 S0 S1 scratch) so.1 so.2 hle.1 hle.2 i j hi hj,
    hfft, dft2_fftGrid fs W0 W1 _ _ scratch hS hW hfit hpos]
  refine congrArg List.sum (List.map_congr_left fun f _ => ?_)
  rw [dft2_get_eq_fraunhoferAt (fun _ => rfl), sub_zero, sub_zero, cc, cc, Int.add_sub_cancel, Int.add_sub_cancel]
  rfl

/-- **FFT propagation returns the same complex field as DFT propagation at the wavelength it reports** (isotropic `dx·du`, or
per-axis sampling whose two axes lead to the same wavelength `S0·dx0·du0 = S1·dx1·du1`, e.g. non-square grids 20×40),
at `K = ℂ`, `R = ℝ`, for every output shape it accepts and with or without scratch: whenever `propagate_fft` answers
(grid `S0 x S1`, output shape `so`, reported wavelength `lam`), every sample `[i][j]` of its `Wavefront.field` equals the
sample of `Wavefront.field` of `propagate_dft` applied to the same fields with `alpha = dx·du/(lam·z·os)` and the same
output samples (`propagateDft`, the model proved against the Fraunhofer sum in C02). Wavefront no larger than the grid,
fields on its canvas (the regime `propagate_fft` supports). -/
theorem fft_eq_propagate_dft (fs : List (Fld ℂ)) (W0 W1 : Int) (dx0 dx1 du0 du1 wl z : ℝ) (os : Int)
    (shape : Option (Int × Int)) (scratch : Option (Arr ℂ)) (lam : ℝ) (S0 S1 : Int) (so : Int × Int) (g : Fld ℂ)
    (h : propagateFft 1 fs false W0 W1 dx0 dx1 du0 du1 wl z os shape scratch = FftOut.ok lam S0 S1 so g)
    (hcons : dx0 * du0 = dx1 * du1 ∨ (S0 : ℝ) * (dx0 * du0) = (S1 : ℝ) * (dx1 * du1))
    (hp : dx0 * du0 ≠ 0) (hp1 : dx1 * du1 ≠ 0) (hz : z ≠ 0) (hos : 0 < os) (hS : 0 < S0 ∧ 0 < S1)
    (hW : 0 ≤ W0 ∧ W0 ≤ S0 ∧ 0 ≤ W1 ∧ W1 ≤ S1) (hfit : ∀ f ∈ fs, f.within W0 W1)
    (hpos : ∀ f ∈ fs, 0 < f.arr.s0 ∧ 0 < f.arr.s1) (hso : 0 < so.1 ∧ 0 < so.2)
    (i j : Int) (hi : 0 ≤ i ∧ i < so.1) (hj : 0 ≤ j ∧ j < so.2) :
    (wavefrontField 1 [g] so.1 so.2).get i j =
      (wavefrontField 1 (propagateDft (fs.map fun f => (⟨f, 0, 0, 0, 0⟩ : TField ℂ ℝ))
          (dftAlpha dx0 dx1 du0 du1 lam z os).1 (dftAlpha dx0 dx1 du0 du1 lam z os).2 so.1 so.2 so.1 so.2 1 none)
        so.1 so.2).get i j := by
  rw [fft_sample_eq_fraunhoferAt fs W0 W1 dx0 dx1 du0 du1 wl z os shape scratch lam S0 S1 so g h hcons hp hp1 hz hos hS
    ⟨hW.2.1, hW.2.2.2⟩ hfit hpos i j hi hj]
  -- the `propagate_dft` model on its whole output array (no mask, no shift, `prop_shape = shape`): every field evaluates every sample
  have hR := C02.propagateDft_sample (K := ℂ) (R := ℝ) (fun _ => rfl) (fs.map fun f => (⟨f, 0, 0, 0, 0⟩ : TField ℂ ℝ))
    (dftAlpha dx0 dx1 du0 du1 lam z os).1 (dftAlpha dx0 dx1 du0 du1 lam z os).2 so.1 so.2 so.1 so.2 1 none
  simp only [mul_one] at hR
  rw [hR (by rw [outExtent_nomask]; simp only; omega) hso i j hi hj, List.map_map]
  refine congrArg List.sum (List.map_congr_left fun f _ => ?_)
  have hw : ((outExtent so.1 so.2 none).inb (i - so.1 / 2) (j - so.2 / 2) &&
      (propExtent so.1 so.2 0 0).inb (i - so.1 / 2) (j - so.2 / 2)) = true := by
    rw [Bool.and_eq_true, C02.whole_array, C02.prop_window]; omega
  simp only [Function.comp, hw, if_true, sub_zero]
  rfl

/-- **Scale covariance at ℝ, no hypothesis but `0 < k`** (instances of `fft_scale_invariant`, `propagateFft_scale_covariant`). -/
theorem fft_scale_invariant_real (k dx0 dx1 du0 du1 z wl : ℝ) (os S0 S1 : Int) (hk : 0 < k) :
    fftShape (k * dx0) (k * dx1) (k * du0) (k * du1) (k * z) (k * wl) os = fftShape dx0 dx1 du0 du1 z wl os ∧
    propWavelength S0 S1 (k * dx0) (k * dx1) (k * du0) (k * du1) (k * z) (k * wl) os = k * propWavelength S0 S1 dx0 dx1 du0 du1 z wl os :=
  fft_scale_invariant min_real k dx0 dx1 du0 du1 z wl os S0 S1 hk

theorem propagateFft_scale_covariant_real (fs : List (Fld ℂ)) (ht : Bool) (W0 W1 : Int) (k dx0 dx1 du0 du1 wl z : ℝ) (os : Int)
    (shape : Option (Int × Int)) (scratch : Option (Arr ℂ)) (hk : 0 < k) :
    (∀ lam S0 S1 so g, propagateFft 1 fs ht W0 W1 dx0 dx1 du0 du1 wl z os shape scratch = FftOut.ok lam S0 S1 so g →
      propagateFft 1 fs ht W0 W1 (k * dx0) (k * dx1) (k * du0) (k * du1) (k * wl) (k * z) os shape scratch = FftOut.ok (k * lam) S0 S1 so g) ∧
    (propagateFft 1 fs ht W0 W1 dx0 dx1 du0 du1 wl z os shape scratch = FftOut.valueError →
      propagateFft 1 fs ht W0 W1 (k * dx0) (k * dx1) (k * du0) (k * du1) (k * wl) (k * z) os shape scratch = FftOut.valueError) ∧
    (propagateFft 1 fs ht W0 W1 dx0 dx1 du0 du1 wl z os shape scratch = FftOut.notImplemented →
      propagateFft 1 fs ht W0 W1 (k * dx0) (k * dx1) (k * du0) (k * du1) (k * wl) (k * z) os shape scratch = FftOut.notImplemented) :=
  propagateFft_scale_covariant min_real 1 fs ht W0 W1 k dx0 dx1 du0 du1 wl z os shape scratch hk

/-- **A buffer advertised for a list of wavelengths suffices for each of them, at ℝ, unconditionally**: `hmono` of
`scratch_shape_monotone` is discharged by `roundEven_real_mono`. -/
theorem scratch_shape_monotone_real (wl wl' dx0 dx1 du0 du1 z : ℝ) (os : Int) (hwl : wl ≤ wl')
    (hpos : 0 < dx0 ∧ 0 < dx1 ∧ 0 < du0 ∧ 0 < du1 ∧ 0 < z ∧ 0 < wl) (hos : 0 < os) :
    (fftShape dx0 dx1 du0 du1 z wl os).1 ≤ (scratchShape wl' dx0 dx1 du0 du1 z os).1 ∧
    (fftShape dx0 dx1 du0 du1 z wl os).2 ≤ (scratchShape wl' dx0 dx1 du0 du1 z os).2 :=
  scratch_shape_monotone (fun _ => rfl) roundEven_real_mono wl wl' dx0 dx1 du0 du1 z os hwl hpos hos

/-- **The advertised scratch shape does not depend on the length unit**: `scratch_shape` with every length (wavelengths, pixel scales,
focal length) multiplied by `k > 0` is the same shape — a buffer sized in one unit system fits in any other. -/
theorem scratch_shape_scale_invariant_real (k maxWl dx0 dx1 du0 du1 z : ℝ) (os : Int) (hk : 0 < k) :
    scratchShape (k * maxWl) (k * dx0) (k * dx1) (k * du0) (k * du1) (k * z) os = scratchShape maxWl dx0 dx1 du0 du1 z os :=
  (fft_scale_invariant_real k dx0 dx1 du0 du1 z maxWl os 0 0 hk).1

/-- **The shape guard at ℝ is the integer criterion** `shape·oversample > fft_shape` on some axis (`shapeTooBig_iff` with the real `>`),
the criterion by which `refuses_larger_shape_real` refuses and `accepted_shape_fits_real` accepts -/
theorem shape_guard_real (sh S : Int × Int) (os : Int) (hos : 0 < os) :
    shapeTooBig (R := ℝ) (some sh) S os = true ↔ sh.1 * os > S.1 ∨ sh.2 * os > S.2 :=
  shapeTooBig_iff (fun _ => rfl) gt_real sh S os hos

/-- **FFT propagation computes the Fraunhofer sum at the reported wavelength.** Composition of `fft_eq_propagate_dft` with C02/C01: every
sample `[i][j]` of `Wavefront.field` of an accepted `propagate_fft` call (any accepted shape, with or without scratch) is the sum over the
input fields of `√|α₀α₁| · Σ_x Σ_y f(x, y) · exp(-2πi(α₀·X·g_r + α₁·Y·g_c))` with `α = dx·du/(λ_reported · z · oversample)` per axis,
`X, Y` the input coordinates relative to `⌊n/2⌋` plus the field offset and `g = (i − ⌊so₀/2⌋, j − ⌊so₁/2⌋)` — the defining double sum,
no FFT, padding or scratch left in the statement. -/
theorem fft_eq_fraunhofer_sum (fs : List (Fld ℂ)) (W0 W1 : Int) (dx0 dx1 du0 du1 wl z : ℝ) (os : Int)
    (shape : Option (Int × Int)) (scratch : Option (Arr ℂ)) (lam : ℝ) (S0 S1 : Int) (so : Int × Int) (g : Fld ℂ)
    (h : propagateFft 1 fs false W0 W1 dx0 dx1 du0 du1 wl z os shape scratch = FftOut.ok lam S0 S1 so g)
    (hcons : dx0 * du0 = dx1 * du1 ∨ (S0 : ℝ) * (dx0 * du0) = (S1 : ℝ) * (dx1 * du1))
    (hp : dx0 * du0 ≠ 0) (hp1 : dx1 * du1 ≠ 0) (hz : z ≠ 0) (hos : 0 < os) (hS : 0 < S0 ∧ 0 < S1)
    (hW : 0 ≤ W0 ∧ W0 ≤ S0 ∧ 0 ≤ W1 ∧ W1 ≤ S1) (hfit : ∀ f ∈ fs, f.within W0 W1)
    (hpos : ∀ f ∈ fs, 0 < f.arr.s0 ∧ 0 < f.arr.s1) (hso : 0 < so.1 ∧ 0 < so.2)
    (i j : Int) (hi : 0 ≤ i ∧ i < so.1) (hj : 0 ≤ j ∧ j < so.2) :
    (wavefrontField 1 [g] so.1 so.2).get i j =
      (fs.map fun f =>
        ((Real.sqrt |(dftAlpha dx0 dx1 du0 du1 lam z os).1 * (dftAlpha dx0 dx1 du0 du1 lam z os).2| : ℝ) : ℂ) *
        ∑ x ∈ Finset.range f.arr.s0.toNat, ∑ y ∈ Finset.range f.arr.s1.toNat, f.arr.get x y *
          Complex.exp (-(2 * Real.pi * Complex.I) *
            (((dftAlpha dx0 dx1 du0 du1 lam z os).1 * (((x : ℤ) - f.arr.s0 / 2 + f.o0 : ℤ) : ℝ) * (((i - so.1 / 2 : ℤ) : ℝ))
              + (dftAlpha dx0 dx1 du0 du1 lam z os).2 * (((y : ℤ) - f.arr.s1 / 2 + f.o1 : ℤ) : ℝ) * (((j - so.2 / 2 : ℤ) : ℝ)) : ℝ) : ℂ))).sum := by
  rw [fft_sample_eq_fraunhoferAt fs W0 W1 dx0 dx1 du0 du1 wl z os shape scratch lam S0 S1 so g h hcons hp hp1 hz hos hS
    ⟨hW.2.1, hW.2.2.2⟩ hfit hpos i j hi hj]
  exact congrArg List.sum (List.map_congr_left fun f _ => C02.fraunhoferAt_eq_sum f _ _ _ _)

/-- **Too large shapes are refused, accepted ones fit — at ℂ/ℝ with the real `>`, no hypothesis about the comparison left**
(instances of `refuses_larger_shape`, `accepted_shape_fits`). -/
theorem refuses_larger_shape_real (fs : List (Fld ℂ)) (W0 W1 : Int) (dx0 dx1 du0 du1 wl z : ℝ) (os : Int) (hos : 0 < os)
    (sh : Int × Int) (scratch : Option (Arr ℂ))
    (hbig : sh.1 * os > (fftShape dx0 dx1 du0 du1 z wl os).1 ∨ sh.2 * os > (fftShape dx0 dx1 du0 du1 z wl os).2) :
    propagateFft 1 fs false W0 W1 dx0 dx1 du0 du1 wl z os (some sh) scratch = FftOut.valueError :=
  refuses_larger_shape (fun _ => rfl) gt_real 1 fs W0 W1 dx0 dx1 du0 du1 wl z os hos sh scratch hbig

theorem accepted_shape_fits_real (fs : List (Fld ℂ)) (W0 W1 : Int) (dx0 dx1 du0 du1 wl z : ℝ) (os : Int) (hos : 0 < os)
    (sh : Int × Int) (scratch : Option (Arr ℂ)) (lam : ℝ) (S0 S1 : Int) (so : Int × Int) (g : Fld ℂ)
    (h : propagateFft 1 fs false W0 W1 dx0 dx1 du0 du1 wl z os (some sh) scratch = FftOut.ok lam S0 S1 so g) :
    so = (sh.1 * os, sh.2 * os) ∧ so.1 ≤ S0 ∧ so.2 ≤ S1 ∧ (S0, S1) = fftShape dx0 dx1 du0 du1 z wl os :=
  accepted_shape_fits (fun _ => rfl) gt_real 1 fs W0 W1 dx0 dx1 du0 du1 wl z os hos sh scratch lam S0 S1 so g h

/-- non-vacuity of `fft_eq_propagate_dft`: a 2x2 field on a 4x4 grid (`dx = du = 1/2`, `z = lambda = 1`, `os = 1`) is accepted -/
example : ∃ lam g, propagateFft (K := ℂ) (R := ℝ) 1 [⟨⟨2, 2, fun i j => (i + 2 * j + 1 : ℤ)⟩, 0, 0⟩] false 2 2 (1/2) (1/2) (1/2) (1/2) 1 1 1
    none none = FftOut.ok lam 4 4 (4, 4) g :=
  ⟨_, _, (propagateFft_eq_ok_iff fftShape_half_example).mpr ⟨rfl, rfl, rfl, rfl, rfl, rfl, rfl, rfl⟩⟩

/-- non-vacuity beyond the trivial call: explicit `shape=(1, 2)`, a dirty 5x9 scratch buffer and per-axis sampling whose axes agree on the
wavelength (`du = (1/2, 1/4)`: grid 4 x 8, `S0·dx0·du0 = S1·dx1·du1 = 1` while `dx0·du0 ≠ dx1·du1`) — the call is accepted, so `h`, the
second branch of `hcons`, `hW`, `hfit`, `hpos`, `hso` of `fft_eq_propagate_dft` hold together -/
example : (∃ lam g, propagateFft (K := ℂ) (R := ℝ) 1 [⟨⟨2, 2, fun i j => (i + 2 * j + 1 : ℤ)⟩, 0, 0⟩] false 2 2 (1/2) (1/2) (1/2) (1/4) 1 1 1
      (some (1, 2)) (some ⟨5, 9, fun _ _ => 3⟩) = FftOut.ok lam 4 8 (1, 2) g) ∧
    ((4 : ℤ) : ℝ) * ((1/2 : ℝ) * (1/2)) = ((8 : ℤ) : ℝ) * ((1/2 : ℝ) * (1/4)) ∧ (1/2 : ℝ) * (1/2) ≠ (1/2) * (1/4) ∧
    (⟨⟨2, 2, fun i j => ((i + 2 * j + 1 : ℤ) : ℂ)⟩, 0, 0⟩ : Fld ℂ).within 2 2 := by
  have hb : shapeTooBig (R := ℝ) (some (1, 2)) (4, 8) 1 = false := by
    rw [← Bool.not_eq_true, shape_guard_real _ _ _ (by decide)]; decide
  refine ⟨⟨_, _, (propagateFft_eq_ok_iff fftShape_aniso_example).mpr ⟨rfl, hb, rfl, rfl, rfl, rfl, rfl, rfl⟩⟩, by norm_num, by norm_num, ?_⟩
  simp only [Fld.within, Fld.extent, arrayExtent_eq]; decide
/-- the headline theorem applied to that instance: every hypothesis of `fft_eq_propagate_dft` (accepted call with explicit shape and a
dirty scratch buffer, second branch of `hcons`, positivity, `hW`, `hfit`, `hpos`, `hso`) is discharged, for both output samples -/
example (lam : ℝ) (g : Fld ℂ)
    (h : propagateFft (K := ℂ) (R := ℝ) 1 [⟨⟨2, 2, fun i j => (i + 2 * j + 1 : ℤ)⟩, 0, 0⟩] false 2 2 (1/2) (1/2) (1/2) (1/4) 1 1 1
      (some (1, 2)) (some ⟨5, 9, fun _ _ => 3⟩) = FftOut.ok lam 4 8 (1, 2) g)
    (i j : Int) (hi : 0 ≤ i ∧ i < 1) (hj : 0 ≤ j ∧ j < 2) :=
  fft_eq_propagate_dft [⟨⟨2, 2, fun i j => (i + 2 * j + 1 : ℤ)⟩, 0, 0⟩] 2 2 (1/2) (1/2) (1/2) (1/4) 1 1 1 (some (1, 2))
    (some ⟨5, 9, fun _ _ => 3⟩) lam 4 8 (1, 2) g h (Or.inr (by norm_num)) (by norm_num) (by norm_num) (by norm_num) (by decide)
    (by decide) (by decide)
    (by intro f hf; simp only [List.mem_singleton] at hf; subst hf; simp only [Fld.within, Fld.extent, arrayExtent_eq]; decide)
    (by intro f hf; simp only [List.mem_singleton] at hf; subst hf; decide)
    (by decide) i j hi hj
end complex

/-! ## Known finding (open): anisotropic sampling

Full-strength statement (does NOT hold): "for every sampling, at the reported wavelength alpha = 1/S on both axes".
`reported_wavelength_consistent` is the proved part (hypothesis `S0·dx0·du0 = S1·dx1·du1`, in particular isotropic `dx·du`); the
witness below shows that without it a single reported wavelength cannot describe the two per-axis grids. -/
section witness
def roundEvenQ (q : ℚ) : Int :=
  let f := q.floor
  let d := q - f
  if d < 1 / 2 then f else if d > 1 / 2 then f + 1 else if f % 2 = 0 then f else f + 1
local instance : RealLike ℚ := ⟨fun n => (n : ℚ), 6, id, fun x => |x|⟩
local instance : FftLike ℚ := ⟨roundEvenQ, min, fun a b => decide (b < a)⟩

/-- witness on the model: `1/alpha = (4.3, 8.6)` gives the grid `4 x 9`; the reported wavelength is the row axis' one,
and the column sampling ratio at that wavelength is `1/8`, not `1/9` -/
theorem kf_fft_anisotropic_wavelength :
    fftShape (1 : ℚ) 1 (10 / 43) (10 / 86) 1 1 1 = (4, 9) ∧
    (dftAlpha (1 : ℚ) 1 (10 / 43) (10 / 86) (propWavelength 4 9 (1 : ℚ) 1 (10 / 43) (10 / 86) 1 1 1) 1 1).2 = 1 / 8 := by
  constructor
  · decide +kernel
  · decide +kernel

/-- non-vacuity of `reported_wavelength_isotropic`: `dx·du = 1/5` on both axes, grid 5, oversample 2 -/
example := reported_wavelength_isotropic (R := ℚ) (fun _ => rfl) (fun a => min_self a) (1 / 2) (1 / 4) (2 / 5) (4 / 5) 3 7 2 5
  (by norm_num) (by norm_num) (by norm_num) (by norm_num) (by norm_num)
end witness

/-! ## Non-vacuity of the refusal / acceptance theorems -/
section
local instance : RealLike Int := ⟨id, 6, id, fun x => x.natAbs⟩
local instance : CxLike Int Int := ⟨fun t => t, id, id, fun z _ => z⟩
local instance : FftLike Int := ⟨fun x => x, min, fun a b => decide (b < a)⟩
-- dx·du = 1, z·wl·os = 1: alpha = 1, grid 1x1; shape (2,1) is too large
example : propagateFft (K := Int) (R := Int) 1 [] false 1 1 1 1 1 1 1 1 1 (some (2, 1)) none = FftOut.valueError := rfl
example : ∃ lam S0 S1 so g, propagateFft (K := Int) (R := Int) 1 [] false 1 1 1 1 1 1 1 1 1 (some (1, 1))
    (some ⟨1, 1, fun _ _ => 7⟩) = FftOut.ok lam S0 S1 so g := ⟨_, _, _, _, _, rfl⟩
end

end Lentil.C09
