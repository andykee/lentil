import LentilVerif.Lemmas.Tilt
import LentilVerif.Lemmas.Propagate
import LentilVerif.Props.C02
import LentilVerif.Model.Plane
import LentilVerif.Gen.Mesh
import Mathlib.Tactic.FieldSimp
import Mathlib.Tactic.Linarith
import Mathlib.Analysis.Real.Sqrt
import Mathlib.Analysis.Complex.Exponential
import Mathlib.MeasureTheory.Integral.IntervalIntegral.Basic
/-! # C04 — tilt carried as metadata is optically identical to tilt in the OPD

Property theorems about the models in Model/Tilt.lean (`Tilt.shift`, first-order `DispersiveTilt.shift`,
`Field.shift`, `ptt_vector`, the arithmetic of `fit_tilt`) and Model/Fourier.lean (`dft2`), tied to the implementation by
the correspondence harness tools/harness/c04.py. Generic in the scalar field `R` (`RealLike.ofInt` = integer cast). -/
namespace Lentil.C04
open Lentil

/-! ## Displacements from several tilt elements add and do not depend on their order -/
section shift
variable {R : Type} [Field R] [RealLike R]

/-- **The model's fold is the regenerated loop of `Field.shift`**: `foldShift` (the fold every shift theorem of this file is about) is
`Gen.fieldShiftFold` — initial accumulators, which accumulator feeds `xs` / `ys`, and which result is kept as `x` / `y` are read from
`field.py` — instantiated with the elements' own `shift` -/
theorem foldShift_is_generated (ts : List (TiltEl R)) (z wl : R) :
    foldShift ts z wl = Gen.fieldShiftFold (fun (e : TiltEl R) xs ys z' wl' => e.shift xs ys z' wl') (RealLike.ofInt 0) (RealLike.ofInt 1) ts z wl := rfl

/-- **Additivity.** The shift folded over any list of tilt elements (angular and first-order dispersive) is the sum of
the displacements each element produces on its own. -/
theorem shift_additive (h0 : (RealLike.ofInt 0 : R) = 0) (ts : List (TiltEl R)) (z wl : R) :
    foldShift ts z wl = ((ts.map fun e => (e.disp z wl).1).sum, (ts.map fun e => (e.disp z wl).2).sum) := by
  unfold foldShift; rw [foldl_shift, h0]; simp

/-- **Order independence.** Permuting the tilt elements (e.g. applying the planes in a different order) does not change
the shift. -/
theorem shift_perm_invariant (h0 : (RealLike.ofInt 0 : R) = 0) (ts ts' : List (TiltEl R)) (hp : ts.Perm ts') (z wl : R) :
    foldShift ts z wl = foldShift ts' z wl := by
  rw [shift_additive h0, shift_additive h0]
  exact Prod.ext ((hp.map _).sum_eq) ((hp.map _).sum_eq)

/-- and therefore the pixel shift handed to the propagation is order independent too -/
theorem fieldShift_perm_invariant (h0 : (RealLike.ofInt 0 : R) = 0) (ts ts' : List (TiltEl R)) (hp : ts.Perm ts')
    (z wl du0 du1 : R) (os : Int) (ij : Bool) :
    fieldShift ts z wl du0 du1 os ij = fieldShift ts' z wl du0 du1 os ij := by
  unfold fieldShift; rw [shift_perm_invariant h0 ts ts' hp]

/-- **Direction, magnitude and per-axis pixel size** (over the generated `Gen.tiltShift`, `Gen.fieldShiftOut`,
`Gen.fieldShiftIJ`: a sign flip, an axis swap or the wrong pixel size in `Tilt`/`Field.shift` breaks this). A tilt of `thx` about x and `thy` about y displaces the image by
`+z*thx/du0*os` output samples along the rows and `-z*thy/du1*os` along the columns: the row displacement is divided by
the *row* pixel size `du0` and the column displacement by the *column* pixel size `du1`. -/
theorem fieldShift_angular (h0 : (RealLike.ofInt 0 : R) = 0) (thx thy z wl du0 du1 : R) (os : Int) :
    fieldShift [TiltEl.angular thx thy] z wl du0 du1 os true =
      (z * thx / du0 * RealLike.ofInt os, -(z * thy / du1 * RealLike.ofInt os)) := by
  simp only [fieldShift, foldShift, List.foldl_cons, List.foldl_nil, TiltEl.shift, Gen.tiltShift, Gen.fieldShiftOut, Gen.fieldShiftIJ, h0,
    if_true, zero_sub, neg_div, neg_mul, neg_neg]

/-- **Scale invariance of the displacement.** Multiplying the focal length and the output pixel scales by the same factor
`k ≠ 0` (a change of length unit) leaves the displacement in output samples unchanged. -/
theorem fieldShift_scale_invariant (h0 : (RealLike.ofInt 0 : R) = 0) (k thx thy z wl du0 du1 : R) (os : Int) (hk : k ≠ 0) :
    fieldShift [TiltEl.angular thx thy] (k * z) wl (k * du0) (k * du1) os true =
      fieldShift [TiltEl.angular thx thy] z wl du0 du1 os true := by
  rw [fieldShift_angular h0, fieldShift_angular h0, mul_assoc k z, mul_assoc k z, mul_div_mul_left _ _ hk, mul_div_mul_left _ _ hk]

/-- `Wavefront(tilt=[a, b])` and `Wavefront() * Tilt(a, b)` put the same element in the field's tilt list; with further
elements in between only the order differs, which does not matter -/
theorem wavefront_tilt_is_tilt_plane (h0 : (RealLike.ofInt 0 : R) = 0) (a b : R) (planes : List (TiltEl R)) (z wl : R) :
    foldShift (TiltEl.angular a b :: planes) z wl = foldShift (planes ++ [TiltEl.angular a b]) z wl :=
  shift_perm_invariant h0 _ _ (List.perm_append_singleton _ planes).symm z wl

/-- **How the tilt lists are built** (generated wiring of `Wavefront.__init__`, `Field.__mul__`, `TiltInterface.multiply`): a
wavefront created with `tilt=(a, b)` and passed through planes carrying no recorded tilt and then nothing else carries
`[Tilt(a, b)]`; the same planes followed by a `Tilt(a, b)` plane on an untilted wavefront give `[Tilt(a, b)]` as well;
products never drop or duplicate elements: the list after planes with recorded tilts `pts` is the concatenation, in order. -/
theorem tilt_lists_built (a b : R) (pts : List (List (TiltEl R))) (init : List (TiltEl R)) (e : TiltEl R) :
    waveTilt a b = [TiltEl.angular a b] ∧
    tiltListAfterPlanes init pts = init ++ pts.flatten ∧
    tiltListAfterTiltPlane init e = init ++ [e] := by
  refine ⟨rfl, ?_, by simp [tiltListAfterTiltPlane, Gen.tiltInterfaceAppend, Gen.fieldMulTilt]⟩
  exact (List.foldl_append_eq_append (f := id)).trans (by rw [List.map_id])

/-- hence `Wavefront(tilt=(a, b))` through untilted planes, and an untilted wavefront through the same planes and then a
`Tilt(a, b)` plane, hand the same shift to the propagation (derived from the generated list wiring, not assumed) -/
theorem wavefront_tilt_vs_tilt_plane (a b : R) (n : Nat) (z wl du0 du1 : R) (os : Int) (ij : Bool) :
    fieldShift (tiltListAfterPlanes (waveTilt a b) (List.replicate n [])) z wl du0 du1 os ij =
    fieldShift (tiltListAfterTiltPlane (tiltListAfterPlanes [] (List.replicate n [])) (TiltEl.angular a b)) z wl du0 du1 os ij := by
  rw [(tilt_lists_built a b _ _ (TiltEl.angular a b)).2.1, (tilt_lists_built a b _ [] (TiltEl.angular a b)).2.1,
      (tilt_lists_built a b [] _ (TiltEl.angular a b)).2.2, List.flatten_replicate_nil]
  rfl
end shift

/-! ## A shift in the DFT kernel is a phase ramp on the input; for the propagation's alpha it is the OPD ramp -/
section ramp
variable {K R : Type} [Field R] [RealLike R] [CommRing K] [CxLike K R]

/-- kernel level: shifting the output origin by `s` multiplies the kernel by `exp(+2 pi i alpha X s)`, `X` the global
input coordinate -/
theorem kernel_shift_eq_ramp (hexp : ∀ a b : R, (CxLike.expI (a + b) : K) = CxLike.expI a * CxLike.expI b)
    (α : R) (m M off : Int) (s0 s : R) (x u : Int) :
    (dftKernel α m M off (s0 + s) x u : K) =
      dftKernel α m M off s0 x u * CxLike.expI (RealLike.twoPi * α * RealLike.ofInt (cc m x + off) * s) := by
  unfold dftKernel
  rw [← hexp]
  refine congrArg _ ?_
  ring

/-- **Tilt as metadata ≡ tilt in the OPD (transform level).** Multiplying the input field by the separable phase ramp
`exp(2 pi i (alpha_r X s_r + alpha_c Y s_c))` and transforming with shift `s0` gives, at every output sample, the same
value as transforming the original field with shift `s0 + s`. -/
theorem tilt_ramp_equiv (hexp : ∀ a b : R, (CxLike.expI (a + b) : K) = CxLike.expI a * CxLike.expI b)
    (f : Arr K) (αr αc : R) (M N : Int) (s0r s0c sr sc : R) (offr offc : Int) (un : Bool) (u v : Int) :
    (dft2 { f with get := fun x y => f.get x y *
              ((CxLike.expI (RealLike.twoPi * αr * RealLike.ofInt (cc f.s0 x + offr) * sr) : K) *
               CxLike.expI (RealLike.twoPi * αc * RealLike.ofInt (cc f.s1 y + offc) * sc)) }
        αr αc M N s0r s0c offr offc un).get u v =
    (dft2 f αr αc M N (s0r + sr) (s0c + sc) offr offc un).get u v := by
  -- a sample of `dft2` is `if un then F * norm else F` of the double sum `F`: compare the two `F` column by column
  refine congrArg (fun F : K => if un = true then F * _ else F) (sumRange_congr _ _ _ fun y _ => ?_)
  rw [kernel_shift_eq_ramp hexp αc, ← mul_assoc, mul_right_comm]
  congr 1
  rw [sumRange_eq, sumRange_eq, Finset.sum_mul]
  refine Finset.sum_congr rfl fun x _ => ?_
  rw [kernel_shift_eq_ramp hexp αr]
  ring

/-- the metadata moves the window, the ramp is what is seen in it -/
theorem propagateField_tilt_sample (hcast : ∀ n : Int, (RealLike.ofInt n : R) = (n : R))
    (hexp : ∀ a b : R, (CxLike.expI (a + b) : K) = CxLike.expI a * CxLike.expI b)
    (f : Fld K) (fix0 fix1 : Int) (sub0 sub1 αr αc : R) (oe : Extent) (P0 P1 : Int)
    (hoe : oe.rmin ≤ oe.rmax ∧ oe.cmin ≤ oe.cmax) (hP : 0 < P0 ∧ 0 < P1) (r c : Int)
    (hin : (oe.inb r c && (propExtent P0 P1 fix0 fix1).inb r c) = true) :
    embO (propagateField ⟨f, fix0, fix1, sub0, sub1⟩ αr αc oe P0 P1) r c =
      fraunhoferAt (rampField f αr αc (RealLike.ofInt fix0 + sub0) (RealLike.ofInt fix1 + sub1)) αr αc
        (RealLike.ofInt r) (RealLike.ofInt c) := by
  rw [C02.propagateField_sample hcast _ αr αc oe P0 P1 hoe hP r c, if_pos hin]
  unfold fraunhoferAt rampField
  rw [tilt_ramp_equiv hexp]
  apply dft2_get_congr <;> (simp only [hcast]; push_cast; ring)

theorem propagateField_unshifted_sample (hcast : ∀ n : Int, (RealLike.ofInt n : R) = (n : R))
    (f : Fld K) (αr αc : R) (oe : Extent) (P0 P1 : Int)
    (hoe : oe.rmin ≤ oe.rmax ∧ oe.cmin ≤ oe.cmax) (hP : 0 < P0 ∧ 0 < P1) (r c : Int)
    (hin : (oe.inb r c && (propExtent P0 P1 0 0).inb r c) = true) :
    embO (propagateField ⟨f, 0, 0, 0, 0⟩ αr αc oe P0 P1) r c = fraunhoferAt f αr αc (RealLike.ofInt r) (RealLike.ofInt c) := by
  rw [C02.propagateField_sample hcast _ αr αc oe P0 P1 hoe hP r c, if_pos hin]
  simp only [sub_zero]

/-- **The ramp is the OPD ramp.** With `alpha = dx*du/(lambda z os)` and the displacement `s = z*theta/du*os` of
`fieldShift_angular`, the phase `2 pi alpha X s` is `2 pi (theta X dx)/lambda`: the phase of the OPD ramp `theta * X * dx`
(X = row coordinate, theta = thx; for the columns X = column coordinate and theta = -thy). -/
theorem ramp_is_opd_ramp (dx du wl z th X : R) (os : R) (hw : wl ≠ 0) (hz : z ≠ 0) (hos : os ≠ 0) (hdu : du ≠ 0) :
    RealLike.twoPi * ((dx * du) / (wl * z * os)) * X * (z * th / du * os) = RealLike.twoPi * (th * X * dx) / wl := by
  field_simp

/-- **Tilt as metadata ≡ tilt in the OPD, sample for sample wherever both evaluate.** Propagating the field with the
tilt carried as metadata (shift `fix + sub` in output samples, any integer split, any output extent / propagation shape)
and propagating the field multiplied by the corresponding phase ramp with no metadata (any other output extent /
propagation shape) give the same complex value at every global output coordinate lying in both evaluated windows. -/
theorem tilt_metadata_equiv_opd_ramp (hcast : ∀ n : Int, (RealLike.ofInt n : R) = (n : R))
    (hexp : ∀ a b : R, (CxLike.expI (a + b) : K) = CxLike.expI a * CxLike.expI b)
    (f : Fld K) (fix0 fix1 : Int) (sub0 sub1 αr αc : R) (oe oe' : Extent) (P0 P1 P0' P1' : Int)
    (hoe : oe.rmin ≤ oe.rmax ∧ oe.cmin ≤ oe.cmax) (hP : 0 < P0 ∧ 0 < P1)
    (hoe' : oe'.rmin ≤ oe'.rmax ∧ oe'.cmin ≤ oe'.cmax) (hP' : 0 < P0' ∧ 0 < P1') (r c : Int)
    (hin : (oe.inb r c && (propExtent P0 P1 fix0 fix1).inb r c) = true)
    (hin' : (oe'.inb r c && (propExtent P0' P1' 0 0).inb r c) = true) :
    embO (propagateField ⟨f, fix0, fix1, sub0, sub1⟩ αr αc oe P0 P1) r c =
    embO (propagateField ⟨rampField f αr αc (RealLike.ofInt fix0 + sub0) (RealLike.ofInt fix1 + sub1), 0, 0, 0, 0⟩
        αr αc oe' P0' P1') r c := by
  rw [propagateField_tilt_sample hcast hexp f fix0 fix1 sub0 sub1 αr αc oe P0 P1 hoe hP r c hin,
    propagateField_unshifted_sample hcast _ αr αc oe' P0' P1' hoe' hP' r c hin']

theorem phasorField_opd_ramp (hcast : ∀ n : Int, (RealLike.ofInt n : R) = (n : R))
    (hexp : ∀ a b : R, (CxLike.expI (a + b) : K) = CxLike.expI a * CxLike.expI b)
    (amp : Int → Int → K) (opd0 : Int → Int → R) (thx thy dx0 dx1 du0 du1 wl z : R) (os : Int) (s0 s1 o0 o1 : Int)
    (hw : wl ≠ 0) (hz : z ≠ 0) (hos : (os : R) ≠ 0) (hdu : du0 ≠ 0 ∧ du1 ≠ 0) :
    phasorField amp (fun x y => opd0 x y + (thx * RealLike.ofInt (cc s0 x + o0) * dx0 - thy * RealLike.ofInt (cc s1 y + o1) * dx1))
        wl s0 s1 o0 o1 =
    rampField (phasorField amp opd0 wl s0 s1 o0 o1) (dftAlpha dx0 dx1 du0 du1 wl z os).1 (dftAlpha dx0 dx1 du0 du1 wl z os).2
        (fieldShift [TiltEl.angular thx thy] z wl du0 du1 os true).1
        (fieldShift [TiltEl.angular thx thy] z wl du0 du1 os true).2 := by
  have h0 : (RealLike.ofInt 0 : R) = 0 := by rw [hcast]; simp
  rw [fieldShift_angular h0]
  simp only [phasorField, rampField, dftAlpha, Gen.dftAlphaCall, Gen.dftAlpha, hcast]
  congr 2
  funext x y
  rw [← hexp, mul_assoc (amp x y), ← hexp, mul_neg, ramp_is_opd_ramp dx0 du0 wl z thx _ _ hw hz hos hdu.1,
    ramp_is_opd_ramp dx1 du1 wl z thy _ _ hw hz hos hdu.2]
  congr 2
  ring

/-- **An OPD ramp is the phase ramp of the corresponding displacement.** A plane whose OPD is `opd0` plus the ramp
`thx·X·dx0 - thy·Y·dx1` (X, Y the global pupil coordinates of the pixel) contributes exactly the field of the plane with
OPD `opd0`, multiplied by the phase ramp of the displacement `fieldShift [Tilt(thx, thy)]` for the propagation's own
`alpha = dx·du/(lambda z os)` — sample by sample. -/
theorem opd_ramp_is_rampField (hcast : ∀ n : Int, (RealLike.ofInt n : R) = (n : R))
    (hexp : ∀ a b : R, (CxLike.expI (a + b) : K) = CxLike.expI a * CxLike.expI b)
    (amp : Int → Int → K) (opd0 : Int → Int → R) (thx thy dx0 dx1 du0 du1 wl z : R) (os : Int) (s0 s1 o0 o1 : Int)
    (hw : wl ≠ 0) (hz : z ≠ 0) (hos : (os : R) ≠ 0) (hdu : du0 ≠ 0 ∧ du1 ≠ 0) (x y : Int) :
    (phasorField amp (fun x y => opd0 x y + (thx * RealLike.ofInt (cc s0 x + o0) * dx0 - thy * RealLike.ofInt (cc s1 y + o1) * dx1))
        wl s0 s1 o0 o1).arr.get x y =
    (rampField (phasorField amp opd0 wl s0 s1 o0 o1) (dftAlpha dx0 dx1 du0 du1 wl z os).1 (dftAlpha dx0 dx1 du0 du1 wl z os).2
        (fieldShift [TiltEl.angular thx thy] z wl du0 du1 os true).1
        (fieldShift [TiltEl.angular thx thy] z wl du0 du1 os true).2).arr.get x y := by
  rw [phasorField_opd_ramp hcast hexp amp opd0 thx thy dx0 dx1 du0 du1 wl z os s0 s1 o0 o1 hw hz hos hdu]

/-- **The phasor does not depend on the length unit**: scaling OPD and wavelength by the same `k ≠ 0` gives the same field -/
theorem phasor_scale_invariant (amp : Int → Int → K) (opd : Int → Int → R) (wl k : R) (hk : k ≠ 0) (s0 s1 o0 o1 x y : Int) :
    (phasorField amp (fun x y => k * opd x y) (k * wl) s0 s1 o0 o1).arr.get x y = (phasorField amp opd wl s0 s1 o0 o1).arr.get x y := by
  simp only [phasorField]
  rw [mul_left_comm, mul_div_mul_left _ _ hk]

/-- **Tilt plane ≡ Wavefront(tilt) ≡ fit_tilt as metadata.** The three ways of carrying a tilt `(a, b)` as metadata put the
same value in the field's tilt list up to position — `Wavefront(tilt=[a, b])` first, a `Tilt(a, b)` plane last, or the
element `fit_tilt` records for coefficients with `t[1] = a`, `t[2] = b` (generated `Gen.fitRecord`) — and the shift handed
to the propagation is the same for all three. -/
theorem metadata_representations_agree (h0 : (RealLike.ofInt 0 : R) = 0) (a b : R) (planes : List (TiltEl R)) (t : Int → R)
    (ht : t 1 = a ∧ t 2 = b) (z wl du0 du1 : R) (os : Int) (ij : Bool) :
    fieldShift (TiltEl.angular a b :: planes) z wl du0 du1 os ij = fieldShift (planes ++ [TiltEl.angular a b]) z wl du0 du1 os ij ∧
    fieldShift (planes ++ [fitTiltRecord t]) z wl du0 du1 os ij = fieldShift (planes ++ [TiltEl.angular a b]) z wl du0 du1 os ij := by
  obtain ⟨rfl, rfl⟩ := ht
  exact ⟨fieldShift_perm_invariant h0 _ _ (List.perm_append_singleton _ planes).symm z wl du0 du1 os ij, rfl⟩

/-- non-vacuity of `hexp`: the complex exponential `t ↦ exp(i t)` is additive -/
example : ∀ a b : ℝ, Complex.exp (((a + b : ℝ) : ℂ) * Complex.I) = Complex.exp ((a : ℂ) * Complex.I) * Complex.exp ((b : ℂ) * Complex.I) :=
  expI_add_complex

/-- Every equivalence below is this, with the ramp written into the OPD (`tilt_representations_equiv_complex`) or taken out of it by
`fit_tilt`; `hopd` asks for the ramp only where the amplitude does not vanish. -/
theorem tilt_absorbed_sample (hcast : ∀ n : Int, (RealLike.ofInt n : R) = (n : R))
    (hexp : ∀ a b : R, (CxLike.expI (a + b) : K) = CxLike.expI a * CxLike.expI b)
    (amp : Int → Int → K) (opd opd' : Int → Int → R) (thx thy dx0 dx1 du0 du1 wl z : R)
    (os : Int) (s0 s1 o0 o1 : Int) (hw : wl ≠ 0) (hz : z ≠ 0) (hos : (os : R) ≠ 0) (hdu : du0 ≠ 0 ∧ du1 ≠ 0)
    (hopd : ∀ x y, amp x y = 0 ∨
      opd x y = opd' x y + (thx * RealLike.ofInt (cc s0 x + o0) * dx0 - thy * RealLike.ofInt (cc s1 y + o1) * dx1))
    (fix0 fix1 : Int) (sub0 sub1 : R)
    (hsplit : (RealLike.ofInt fix0 + sub0, RealLike.ofInt fix1 + sub1) = fieldShift [TiltEl.angular thx thy] z wl du0 du1 os true)
    (oe : Extent) (P0 P1 : Int) (hoe : oe.rmin ≤ oe.rmax ∧ oe.cmin ≤ oe.cmax) (hP : 0 < P0 ∧ 0 < P1) (r c : Int)
    (hin : (oe.inb r c && (propExtent P0 P1 fix0 fix1).inb r c) = true) :
    embO (propagateField ⟨phasorField amp opd' wl s0 s1 o0 o1, fix0, fix1, sub0, sub1⟩
      (dftAlpha dx0 dx1 du0 du1 wl z os).1 (dftAlpha dx0 dx1 du0 du1 wl z os).2 oe P0 P1) r c =
    fraunhoferAt (phasorField amp opd wl s0 s1 o0 o1) (dftAlpha dx0 dx1 du0 du1 wl z os).1 (dftAlpha dx0 dx1 du0 du1 wl z os).2
      (RealLike.ofInt r) (RealLike.ofInt c) := by
  rw [phasorField_congr amp opd _ wl s0 s1 o0 o1 hopd,
    phasorField_opd_ramp hcast hexp amp opd' thx thy dx0 dx1 du0 du1 wl z os s0 s1 o0 o1 hw hz hos hdu, ← hsplit]
  exact propagateField_tilt_sample hcast hexp _ fix0 fix1 sub0 sub1 _ _ oe P0 P1 hoe hP r c hin

/-- **The four representations agree, sample for sample, wherever both evaluate (at `K = ℂ`, `R = ℝ`).** A plane with the
tilt written into its OPD as the ramp `thx·X·dx0 - thy·Y·dx1`, propagated without metadata, and the same plane without
the ramp carrying the tilt as metadata (Tilt plane, `Wavefront(tilt=…)` or `fit_tilt` record — the same shift by
`metadata_representations_agree`; any integer/sub-pixel split of it), give the same complex value at every global output
coordinate lying in both evaluated windows, for `alpha = dx·du/(λ z os)`, any output extents and propagation shapes. -/
theorem tilt_representations_equiv_complex (amp : Int → Int → ℂ) (opd0 : Int → Int → ℝ) (thx thy dx0 dx1 du0 du1 wl z : ℝ)
    (os : Int) (s0 s1 o0 o1 : Int) (hw : wl ≠ 0) (hz : z ≠ 0) (hos : os ≠ 0) (hdu : du0 ≠ 0 ∧ du1 ≠ 0)
    (fix0 fix1 : Int) (sub0 sub1 : ℝ)
    (hsplit : ((fix0 : ℝ) + sub0, (fix1 : ℝ) + sub1) = fieldShift [TiltEl.angular thx thy] z wl du0 du1 os true)
    (oe oe' : Extent) (P0 P1 P0' P1' : Int)
    (hoe : oe.rmin ≤ oe.rmax ∧ oe.cmin ≤ oe.cmax) (hP : 0 < P0 ∧ 0 < P1)
    (hoe' : oe'.rmin ≤ oe'.rmax ∧ oe'.cmin ≤ oe'.cmax) (hP' : 0 < P0' ∧ 0 < P1') (r c : Int)
    (hin : (oe.inb r c && (propExtent P0 P1 fix0 fix1).inb r c) = true)
    (hin' : (oe'.inb r c && (propExtent P0' P1' 0 0).inb r c) = true) :
    embO (propagateField ⟨phasorField amp opd0 wl s0 s1 o0 o1, fix0, fix1, sub0, sub1⟩
      (dftAlpha dx0 dx1 du0 du1 wl z os).1 (dftAlpha dx0 dx1 du0 du1 wl z os).2 oe P0 P1) r c =
    embO (propagateField ⟨phasorField amp (fun x y => opd0 x y + (thx * RealLike.ofInt (cc s0 x + o0) * dx0
        - thy * RealLike.ofInt (cc s1 y + o1) * dx1)) wl s0 s1 o0 o1, 0, 0, 0, 0⟩
      (dftAlpha dx0 dx1 du0 du1 wl z os).1 (dftAlpha dx0 dx1 du0 du1 wl z os).2 oe' P0' P1') r c := by
  rw [tilt_absorbed_sample (fun _ => rfl) expI_add_complex amp _ opd0 thx thy dx0 dx1 du0 du1 wl z os s0 s1 o0 o1 hw hz
      (Int.cast_ne_zero.mpr hos) hdu (fun _ _ => Or.inr rfl) fix0 fix1 sub0 sub1 hsplit oe P0 P1 hoe hP r c hin,
    propagateField_unshifted_sample (fun _ => rfl) _ _ _ oe' P0' P1' hoe' hP' r c hin']

/-- non-vacuity of `tilt_representations_equiv_complex`: a tilt of 2.5 rows / 2 columns (`thx = 5/2`, `thy = -2`, unit lengths) split as
`(2 + 1/2, 2 + 0)` — `hsplit`, both window hypotheses `hin`, `hin'` and the extent hypotheses hold together at the sample (1, 1) -/
example := tilt_representations_equiv_complex (fun _ _ => 1) (fun x y => ((x + y : ℤ) : ℝ)) (5/2) (-2) 1 1 1 1 1 1 1 2 2 0 0
  one_ne_zero one_ne_zero one_ne_zero ⟨one_ne_zero, one_ne_zero⟩ 2 2 (1/2) 0
  (by rw [fieldShift_angular (by simp [RealLike.ofInt])]; simp only [RealLike.ofInt]; refine Prod.ext ?_ ?_ <;> norm_num)
  (outExtent 8 8 none) (outExtent 8 8 none) 4 4 4 4 (by rw [outExtent_nomask]; decide) (by decide) (by rw [outExtent_nomask]; decide) (by decide)
  1 1 (by decide) (by decide)

/-- **Several tilt elements.** The same for any list of angular tilt elements (Tilt planes, `Wavefront(tilt=…)`, fit records, in
any order): the metadata shift is that of the summed angles (`shift_additive`), so the equivalent OPD ramp is the ramp of
the sums. -/
theorem tilt_list_equiv_complex (amp : Int → Int → ℂ) (opd0 : Int → Int → ℝ) (ab : List (ℝ × ℝ)) (dx0 dx1 du0 du1 wl z : ℝ)
    (os : Int) (s0 s1 o0 o1 : Int) (hw : wl ≠ 0) (hz : z ≠ 0) (hos : os ≠ 0) (hdu : du0 ≠ 0 ∧ du1 ≠ 0)
    (fix0 fix1 : Int) (sub0 sub1 : ℝ)
    (hsplit : ((fix0 : ℝ) + sub0, (fix1 : ℝ) + sub1) = fieldShift (ab.map fun p => TiltEl.angular p.1 p.2) z wl du0 du1 os true)
    (oe oe' : Extent) (P0 P1 P0' P1' : Int)
    (hoe : oe.rmin ≤ oe.rmax ∧ oe.cmin ≤ oe.cmax) (hP : 0 < P0 ∧ 0 < P1)
    (hoe' : oe'.rmin ≤ oe'.rmax ∧ oe'.cmin ≤ oe'.cmax) (hP' : 0 < P0' ∧ 0 < P1') (r c : Int)
    (hin : (oe.inb r c && (propExtent P0 P1 fix0 fix1).inb r c) = true)
    (hin' : (oe'.inb r c && (propExtent P0' P1' 0 0).inb r c) = true) :
    embO (propagateField ⟨phasorField amp opd0 wl s0 s1 o0 o1, fix0, fix1, sub0, sub1⟩
      (dftAlpha dx0 dx1 du0 du1 wl z os).1 (dftAlpha dx0 dx1 du0 du1 wl z os).2 oe P0 P1) r c =
    embO (propagateField ⟨phasorField amp (fun x y => opd0 x y + ((ab.map Prod.fst).sum * RealLike.ofInt (cc s0 x + o0) * dx0
        - (ab.map Prod.snd).sum * RealLike.ofInt (cc s1 y + o1) * dx1)) wl s0 s1 o0 o1, 0, 0, 0, 0⟩
      (dftAlpha dx0 dx1 du0 du1 wl z os).1 (dftAlpha dx0 dx1 du0 du1 wl z os).2 oe' P0' P1') r c :=
  tilt_representations_equiv_complex amp opd0 _ _ dx0 dx1 du0 du1 wl z os s0 s1 o0 o1 hw hz hos hdu fix0 fix1 sub0 sub1
    (hsplit.trans (by unfold fieldShift; rw [foldShift_angular_list])) oe oe' P0 P1 P0' P1' hoe hP hoe' hP' r c hin hin'

/-- **Segmented apertures with per-segment tilts.** For a wavefront whose fields (one per segment) each carry their own tilt as
metadata — what `fit_tilt` on a segmented plane produces — the sum over the segments of the propagated fields equals, at every
global output coordinate lying in every segment's window and in the window of the metadata-free propagation, the sum over the
segments of the propagated fields of the same plane with each segment's tilt written into its OPD as the ramp
`thx_k·X·dx0 - thy_k·Y·dx1` (the un-fitted plane): `Wavefront.field` agrees sample for sample on the common window. -/
theorem segmented_tilt_equiv_complex (segs : List (SegTilt ℂ ℝ)) (dx0 dx1 du0 du1 wl z : ℝ) (os : Int)
    (hw : wl ≠ 0) (hz : z ≠ 0) (hos : os ≠ 0) (hdu : du0 ≠ 0 ∧ du1 ≠ 0)
    (hsplit : ∀ s ∈ segs, ((s.fix0 : ℝ) + s.sub0, (s.fix1 : ℝ) + s.sub1) = fieldShift [TiltEl.angular s.thx s.thy] z wl du0 du1 os true)
    (oe oe' : Extent) (P0 P1 P0' P1' : Int)
    (hoe : oe.rmin ≤ oe.rmax ∧ oe.cmin ≤ oe.cmax) (hP : 0 < P0 ∧ 0 < P1)
    (hoe' : oe'.rmin ≤ oe'.rmax ∧ oe'.cmin ≤ oe'.cmax) (hP' : 0 < P0' ∧ 0 < P1') (r c : Int)
    (hin : ∀ s ∈ segs, (oe.inb r c && (propExtent P0 P1 s.fix0 s.fix1).inb r c) = true)
    (hin' : (oe'.inb r c && (propExtent P0' P1' 0 0).inb r c) = true) :
    (segs.map fun s => embO (propagateField ⟨phasorField s.amp s.opd0 wl s.s0 s.s1 s.o0 s.o1, s.fix0, s.fix1, s.sub0, s.sub1⟩
        (dftAlpha dx0 dx1 du0 du1 wl z os).1 (dftAlpha dx0 dx1 du0 du1 wl z os).2 oe P0 P1) r c).sum =
    (segs.map fun s => embO (propagateField ⟨phasorField s.amp (fun x y => s.opd0 x y + (s.thx * RealLike.ofInt (cc s.s0 x + s.o0) * dx0
          - s.thy * RealLike.ofInt (cc s.s1 y + s.o1) * dx1)) wl s.s0 s.s1 s.o0 s.o1, 0, 0, 0, 0⟩
        (dftAlpha dx0 dx1 du0 du1 wl z os).1 (dftAlpha dx0 dx1 du0 du1 wl z os).2 oe' P0' P1') r c).sum := by
  refine congrArg List.sum (List.map_congr_left fun s hs => ?_)
  exact tilt_representations_equiv_complex s.amp s.opd0 s.thx s.thy dx0 dx1 du0 du1 wl z os s.s0 s.s1 s.o0 s.o1 hw hz hos hdu
    s.fix0 s.fix1 s.sub0 s.sub1 (hsplit s hs) oe oe' P0 P1 P0' P1' hoe hP hoe' hP' r c (hin s hs) hin'

/-- **The field in these theorems is the plane model's.** `phasorField` is exactly the phasor `Plane.multiply` builds for one
segment in the plane model of C03/C07 (`segPhasor` with `planePh`: `amplitude[s]·mask[s]·exp(2πi·opd[s]/λ)` at
`slice_offset(s, shape)`), and the global coordinate of slice-local index `i` used by the ramp is the plane's own mesh
coordinate `(i + r0) - ⌊s0/2⌋` of that pixel (generated `Gen.sliceOffset`). -/
theorem phasorField_is_plane_phasor (amp : Attr ℂ) (opd : Attr ℝ) (wl : ℝ) (s0 s1 : Int) (g : Seg) :
    segPhasor (planePh (K := ℂ) wl) amp opd s0 s1 g =
      phasorField (fun i j => maskMul (g.m (i + g.s.r0) (j + g.s.c0)) (amp.at (i + g.s.r0) (j + g.s.c0)))
        (fun i j => opd.at (i + g.s.r0) (j + g.s.c0)) wl (g.s.r1 - g.s.r0) (g.s.c1 - g.s.c0)
        (Gen.sliceOffset g.s.r0 g.s.r1 g.s.c0 g.s.c1 s0 s1).1 (Gen.sliceOffset g.s.r0 g.s.r1 g.s.c0 g.s.c1 s0 s1).2 ∧
    ∀ i j : Int, cc (g.s.r1 - g.s.r0) i + (Gen.sliceOffset g.s.r0 g.s.r1 g.s.c0 g.s.c1 s0 s1).1 = (i + g.s.r0) - s0 / 2 ∧
                 cc (g.s.c1 - g.s.c0) j + (Gen.sliceOffset g.s.r0 g.s.r1 g.s.c0 g.s.c1 s0 s1).2 = (j + g.s.c0) - s1 / 2 := by
  refine ⟨rfl, fun i j => ?_⟩
  rw [sliceOffset_eq]
  unfold cc
  omega
end ramp

/-! ## fit_tilt removes exactly the least-squares tip and tilt, not the piston, and records what it removed

The wiring is *generated* from `Plane.ptt_vector` / `Plane.fit_tilt` (`Gen.pttRow`, `Gen.fitSubRows`, `Gen.fitSubCoefs`,
`Gen.fitRecord`, per-segment variants, `Gen.tiltStride`): subtracting the piston row, swapping the recorded angles, or a
different basis row changes these definitions and the theorems below stop checking. `tiltRamp` is the specification:
the OPD ramp `(thx·r·px0 - thy·c·px1)·mask` that `ramp_is_opd_ramp`/`fieldShift_angular` identify with `Tilt(x=thx, y=thy)`. -/
section fit
set_option linter.unusedSectionVars false
variable {R : Type} [Field R] [RealLike R]
local instance : RealLike ℚ := ⟨fun n => (n : ℚ), 6, id, fun x => |x|⟩

/-- **OPD plus the ramp of the recorded tilt is unchanged**, for ANY coefficient vector `t` the solver returns: what the
code subtracts (rows `Gen.fitSubRows` of the generated basis times `t[Gen.fitSubCoefs]`) is exactly the OPD ramp of the
element it records (`Tilt(x=t[Gen.fitRecord.1], y=t[Gen.fitRecord.2])`); the piston row is not among the subtracted rows. -/
theorem fit_tilt_total_unchanged (h1 : (RealLike.ofInt 1 : R) = 1) (s0 s1 : Int) (px0 px1 : R) (mask opd : Int → Int → R)
    (t : Int → R) (i j : Int) :
    fitTiltOpd s0 s1 px0 px1 mask opd t i j + tiltRamp s0 s1 px0 px1 mask (fitRecordXY t).1 (fitRecordXY t).2 i j = opd i j := by
  unfold fitTiltOpd
  rw [fitSubtract_rows, pttBasis_one, pttBasis_two]
  simp only [tiltRamp, fitRecordXY, Gen.fitRecord]
  ring

/-- **The call `fit_tilt()` leaves OPD + ramp of what it recorded unchanged in BOTH of its branches**: where the generated early-return
test holds (no basis: `shape == ()` / `None`; or a scalar / one-sample OPD) nothing is subtracted and nothing recorded, otherwise
`fit_tilt_total_unchanged` -/
theorem fit_tilt_call_total_unchanged (h1 : (RealLike.ofInt 1 : R) = 1) (se sn : Bool) (n s0 s1 : Int) (px0 px1 : R)
    (mask opd : Int → Int → R) (t : Int → R) (i j : Int) :
    (fitTiltCall se sn n s0 s1 px0 px1 mask opd t).1 i j +
      (match (fitTiltCall se sn n s0 s1 px0 px1 mask opd t).2 with
       | some xy => tiltRamp s0 s1 px0 px1 mask xy.1 xy.2 i j
       | none => 0) = opd i j := by
  unfold fitTiltCall
  split
  · exact add_zero _
  · exact fit_tilt_total_unchanged h1 s0 s1 px0 px1 mask opd t i j

/-- **When nothing is fitted**: exactly when the plane has no shape (`()` or `None`: no basis) or its OPD has a single sample; then the
OPD is handed back as it was -/
theorem fit_tilt_call_skips_iff (se sn : Bool) (n s0 s1 : Int) (px0 px1 : R) (mask opd : Int → Int → R) (t : Int → R) :
    ((fitTiltCall se sn n s0 s1 px0 px1 mask opd t).2 = none ↔ (se = true ∨ sn = true ∨ n = 1)) ∧
    ((fitTiltCall se sn n s0 s1 px0 px1 mask opd t).2 = none → (fitTiltCall se sn n s0 s1 px0 px1 mask opd t).1 = opd) := by
  have hskip : Gen.fitTiltSkips (Gen.pttVectorNone se sn) n = true ↔ (se = true ∨ sn = true ∨ n = 1) := by
    simp [Gen.fitTiltSkips, Gen.pttVectorNone, or_assoc]
  unfold fitTiltCall
  split
  · next h => exact ⟨⟨fun _ => hskip.mp h, fun _ => rfl⟩, fun _ => rfl⟩
  · next h => exact ⟨⟨nofun, fun h' => absurd (hskip.mpr h') h⟩, nofun⟩

/-- the generated rows subtracted for a segment lie inside that segment's own block of the stacked basis, and skip its
piston row; the stride handed to `multiply` starts at the segment index and steps by the number of segments -/
theorem fit_rows_wiring (seg n size : Int) :
    (Gen.pttSegRows seg).1 < (Gen.fitSegSubRows seg).1 ∧ (Gen.fitSegSubRows seg).2 ≤ (Gen.pttSegRows seg).2 ∧
    Gen.fitSegLstsqRows seg = Gen.pttSegRows seg ∧ 0 < Gen.fitSubRows.1 ∧ Gen.tiltStride n size = (n, size) := by
  refine ⟨by simp only [Gen.pttSegRows, Gen.fitSegSubRows]; omega, by simp only [Gen.pttSegRows, Gen.fitSegSubRows]; omega,
    rfl, by decide, rfl⟩

/-- **The mesh under `ptt_vector` is the regenerated `helper.mesh`.** `Plane.ptt_vector` calls `lentil.helper.mesh(self.shape)`
(defaults `shift=(0, 0)`, `angle=0`; `cos 0 = 1`, `sin 0 = 0`): the generated per-axis coordinate `Gen.meshCoord n · 0`
rotated by the generated `Gen.meshRot · · 1 0` is the centred index `cc n ·` = index minus `floor(n/2)` that `pttBasis`,
`tiltRamp` and `phasorField` are written with. A change of the centring in `helper.mesh` changes `Gen.meshCoord` and this
proof stops checking. -/
theorem ptt_mesh_is_generated (hcast : ∀ n : Int, (RealLike.ofInt n : R) = (n : R)) (s0 s1 i j : Int) :
    Gen.meshRot (Gen.meshCoord s0 i (0 : R)) (Gen.meshCoord s1 j (0 : R)) 1 0
      = ((RealLike.ofInt (cc s0 i) : R), (RealLike.ofInt (cc s1 j) : R)) := by
  simp [Gen.meshRot, Gen.meshCoord, cc, hcast]

/-- `ptt_vector` over generated definitions only: the generated basis row (`Gen.pttRow`) at the generated mesh coordinates
(`Gen.meshRot (Gen.meshCoord …) …`), times the mask -/
theorem pttBasis_over_generated_mesh (hcast : ∀ n : Int, (RealLike.ofInt n : R) = (n : R)) (s0 s1 : Int) (px0 px1 : R)
    (mask : Int → Int → R) (k i j : Int) :
    pttBasis s0 s1 px0 px1 mask k i j =
      tripleGet (Gen.pttRow (RealLike.ofInt 1)
        (Gen.meshRot (Gen.meshCoord s0 i (0 : R)) (Gen.meshCoord s1 j (0 : R)) 1 0).1
        (Gen.meshRot (Gen.meshCoord s0 i (0 : R)) (Gen.meshCoord s1 j (0 : R)) 1 0).2 px0 px1) k * mask i j := by
  rw [ptt_mesh_is_generated hcast]; rfl

/-- **The segmented OPD update of the model is the regenerated per-segment term of `fit_tilt`**: `fitTiltOpdSeg` sums, over the
segments, `Gen.fitSegOpdTerm` — read from `opd_no_tilt[seg] = (plane.opd - seg_tilt.reshape(…)) * self.mask[seg]` — of the old OPD,
the segment's subtracted ramp and the segment's mask value. A changed sign or a dropped mask factor in the source changes
`Gen.fitSegOpdTerm` and this proof (and `fit_tilt_total_unchanged_seg` through it) stops checking. -/
theorem fitTiltOpdSeg_is_generated (s0 s1 : Int) (px0 px1 : R) (segs : List (Int × (Int → Int → R) × (Int → R)))
    (opd : Int → Int → R) (i j : Int) :
    fitTiltOpdSeg s0 s1 px0 px1 segs opd i j =
      sumList segs fun s => Gen.fitSegOpdTerm (opd i j) (fitSegSubtract s0 s1 px0 px1 s.1 s.2.1 s.2.2 i j) (s.2.1 i j) := rfl

/-- segmented planes: on a pixel of segment `s` (binary, pairwise disjoint masks) the new OPD plus the ramp of that
segment's own recorded tilt is the old OPD -/
theorem fit_tilt_total_unchanged_seg (h1 : (RealLike.ofInt 1 : R) = 1) (s0 s1 : Int) (px0 px1 : R)
    (pre post : List (Int × (Int → Int → R) × (Int → R))) (s : Int × (Int → Int → R) × (Int → R)) (opd : Int → Int → R) (i j : Int)
    (hs : s.2.1 i j = 1) (hothers : ∀ s' ∈ pre ++ post, s'.2.1 i j = 0) :
    fitTiltOpdSeg s0 s1 px0 px1 (pre ++ s :: post) opd i j +
      tiltRamp s0 s1 px0 px1 s.2.1 (fitSegRecordXY s.2.2).1 (fitSegRecordXY s.2.2).2 i j = opd i j := by
  -- on a pixel of `s` alone, the sum over the segments is the one-mask update with `s`'s mask and coefficients
  have hseg : fitTiltOpdSeg s0 s1 px0 px1 (pre ++ s :: post) opd i j = fitTiltOpd s0 s1 px0 px1 s.2.1 opd s.2.2 i j := by
    unfold fitTiltOpdSeg fitTiltOpd
    rw [sumList_append, sumList_cons, sumList_all_zero pre _ fun x hx => by rw [hothers x (List.mem_append_left _ hx), mul_zero],
      sumList_all_zero post _ fun x hx => by rw [hothers x (List.mem_append_right _ hx), mul_zero],
      hs, fitSegSubtract_eq_fitSubtract, zero_add, add_zero, mul_one]
  rw [hseg]
  exact fit_tilt_total_unchanged h1 s0 s1 px0 px1 s.2.1 opd s.2.2 i j

/-- **Exactly the least-squares tip and tilt, and not the piston.** Let `B k` be the model's masked basis rows
(`pttBasis`, generated) over the pixel set `pix`. If `t` satisfies the normal equations for the OPD — the contract of
`np.linalg.lstsq`, listed under TRUSTED — and the Gram matrix of the basis is non-singular (the segment has three
non-collinear pixels), then EVERY least-squares fit `t'` of the OPD left by `fit_tilt` has zero tip and tilt and the
original piston: `t' = (t 0, 0, 0)`. -/
theorem fit_tilt_is_least_squares (h1 : (RealLike.ofInt 1 : R) = 1) (pix : Finset (Int × Int)) (s0 s1 : Int) (px0 px1 : R)
    (mask opd : Int → Int → R) (t t' : Int → R)
    (hN : ∀ k ∈ [(0 : Int), 1, 2], ∑ p ∈ pix, pttBasis s0 s1 px0 px1 mask k p.1 p.2 *
        (opd p.1 p.2 - (t 0 * pttBasis s0 s1 px0 px1 mask 0 p.1 p.2 + t 1 * pttBasis s0 s1 px0 px1 mask 1 p.1 p.2
          + t 2 * pttBasis s0 s1 px0 px1 mask 2 p.1 p.2)) = 0)
    (hinj : ∀ d0 d1 d2 : R, (∀ k ∈ [(0 : Int), 1, 2], ∑ p ∈ pix, pttBasis s0 s1 px0 px1 mask k p.1 p.2 *
        (d0 * pttBasis s0 s1 px0 px1 mask 0 p.1 p.2 + d1 * pttBasis s0 s1 px0 px1 mask 1 p.1 p.2
          + d2 * pttBasis s0 s1 px0 px1 mask 2 p.1 p.2) = 0) → d0 = 0 ∧ d1 = 0 ∧ d2 = 0)
    (hN' : ∀ k ∈ [(0 : Int), 1, 2], ∑ p ∈ pix, pttBasis s0 s1 px0 px1 mask k p.1 p.2 *
        (fitTiltOpd s0 s1 px0 px1 mask opd t p.1 p.2 - (t' 0 * pttBasis s0 s1 px0 px1 mask 0 p.1 p.2
          + t' 1 * pttBasis s0 s1 px0 px1 mask 1 p.1 p.2 + t' 2 * pttBasis s0 s1 px0 px1 mask 2 p.1 p.2)) = 0) :
    t' 0 = t 0 ∧ t' 1 = 0 ∧ t' 2 = 0 := by
  -- the difference of the two sets of normal equations is a homogeneous system in `(t' 0 - t 0, t' 1, t' 2)`
  have key := hinj (t' 0 - t 0) (t' 1) (t' 2) (by
    intro k hk
    rw [← sub_eq_zero_of_eq ((hN k hk).trans (hN' k hk).symm), ← Finset.sum_sub_distrib]
    refine Finset.sum_congr rfl fun p _ => ?_
    unfold fitTiltOpd
    rw [fitSubtract_rows]
    ring)
  exact ⟨sub_eq_zero.mp key.1, key.2.1, key.2.2⟩

/-- **History.** After any sequence of OPD updates and `fit_tilt` calls (whatever coefficients the solver returned), the
current OPD plus the ramp of the *sum of all recorded tilts* equals the initial OPD plus the sum of the updates — nothing
is lost by a second fit, provided `multiply` hands every recorded tilt of the segment to its field (`Gen.tiltStride`:
`self.tilt[n::self.size]`, observed per field by the correspondence). -/
theorem fit_tilt_history (h1 : (RealLike.ofInt 1 : R) = 1) (s0 s1 : Int) (px0 px1 : R) (mask : Int → Int → R) (ops : List (TiltOp R))
    (opd : Int → Int → R) (ts : List (R × R)) (i j : Int) :
    (tiltRun s0 s1 px0 px1 mask ops (opd, ts)).1 i j +
      tiltRamp s0 s1 px0 px1 mask ((tiltRun s0 s1 px0 px1 mask ops (opd, ts)).2.map Prod.fst).sum
        ((tiltRun s0 s1 px0 px1 mask ops (opd, ts)).2.map Prod.snd).sum i j =
    opd i j + tiltRamp s0 s1 px0 px1 mask (ts.map Prod.fst).sum (ts.map Prod.snd).sum i j + tiltUpdatesSum ops i j := by
  induction ops generalizing opd ts with
  | nil => simp [tiltRun, tiltUpdatesSum]
  | cons op ops ih =>
    cases op with
    | update d => simp only [tiltRun, tiltUpdatesSum]; rw [ih]; ring
    | fit t =>
      simp only [tiltRun, tiltUpdatesSum]; rw [ih]
      have hstep := fit_tilt_total_unchanged h1 s0 s1 px0 px1 mask opd t i j
      simp only [List.map_append, List.sum_append, List.map_cons, List.map_nil, List.sum_cons, List.sum_nil, tiltRamp] at hstep ⊢
      linear_combination hstep

/-- non-vacuity: a 3x3 plane, full mask, an update between two fits with arbitrary coefficients -/
example (i j : Int) := fit_tilt_history (R := ℚ) rfl 3 3 (1/2) (1/4) (fun _ _ => 1)
  [TiltOp.fit (fun k => k + 3), TiltOp.update (fun i j => i + 2 * j), TiltOp.fit (fun k => 1 / 3 - k)] (fun i j => i * j) [] i j
/-- the model evaluated: at pixel (0, 1) of a 3x4 plane with `t = (0, 1, 2)`, `fit_tilt` subtracts the tip term `-(1/2)` plus the tilt term `1/2` -/
example : fitSubtract (R := ℚ) 3 4 (1/2) (1/4) (fun _ _ => 1) (fun k => k) 0 1 = -(1/2) + 1/2 := by
  decide +kernel
/-- non-vacuity of `fit_tilt_is_least_squares`: a 2x2 plane at ℚ with three non-collinear pixels; the OPD is piston 2, tip 3, tilt 5, the
solver's answer `t = (2, 3, 5)` satisfies the normal equations (`hN`), the Gram matrix of the three pixels is non-singular (`hinj`), and
`t' = (2, 0, 0)` fits what is left (`hN'`) — so all three hypotheses hold together -/
example : (2 : ℚ) = 2 ∧ (0 : ℚ) = 0 ∧ (0 : ℚ) = 0 := by
  let B := pttBasis (R := ℚ) 2 2 1 1 fun _ _ => 1
  exact fit_tilt_is_least_squares (R := ℚ) rfl {((0 : Int), (0 : Int)), (0, 1), (1, 0)} 2 2 1 1 (fun _ _ => 1)
    (fun i j => 2 * B 0 i j + 3 * B 1 i j + 5 * B 2 i j) (fun k => if k = 0 then 2 else if k = 1 then 3 else 5)
    (fun k => if k = 0 then 2 else 0)
    -- both fits are exact: every residual vanishes, so the normal equations hold term by term
    (fun k _ => Finset.sum_eq_zero fun p _ => mul_eq_zero_of_right _ (sub_self _))
    (by
      intro d0 d1 d2 h
      have e0 := h 0 (by decide)
      have e1 := h 1 (by decide)
      have e2 := h 2 (by decide)
      norm_num [Finset.sum_insert, pttBasis, Gen.pttRow, tripleGet, cc, RealLike.ofInt] at e0 e1 e2
      refine ⟨?_, ?_, ?_⟩ <;> linarith)
    (fun k _ => Finset.sum_eq_zero fun p _ => mul_eq_zero_of_right _ (by
      unfold fitTiltOpd; rw [fitSubtract_rows]
      show _ - (_ * 3 + _ * 5) - (2 * _ + 0 * _ + 0 * _) = (0 : ℚ)
      ring))
end fit

/-! ## The fit clause composed with the propagation clause -/
section fitprop

/-- **After `fit_tilt`, the image is the Fraunhofer transform of the ORIGINAL plane.** Composition of `fit_tilt_total_unchanged`
with `tilt_absorbed_sample`: every output sample the fitted plane evaluates (with its recorded Tilt as metadata, any split of the
shift, any solver coefficients) equals the unitary Fraunhofer sum of the original plane's field — amplitude and ORIGINAL OPD — at that
sample's own global coordinate, `alpha = dx·du/(λ z os)`. The fit changes where the window sits, never what is in it. -/
theorem fit_tilt_image_is_original_fraunhofer (amp : Int → Int → ℂ) (mask opd : Int → Int → ℝ) (t : Int → ℝ)
    (hmask : ∀ x y, mask x y = 1 ∨ (mask x y = 0 ∧ amp x y = 0))
    (dx0 dx1 du0 du1 wl z : ℝ) (os : Int) (s0 s1 : Int) (hw : wl ≠ 0) (hz : z ≠ 0) (hos : os ≠ 0) (hdu : du0 ≠ 0 ∧ du1 ≠ 0)
    (fix0 fix1 : Int) (sub0 sub1 : ℝ)
    (hsplit : ((fix0 : ℝ) + sub0, (fix1 : ℝ) + sub1) = fieldShift [fitTiltRecord t] z wl du0 du1 os true)
    (oe : Extent) (P0 P1 : Int) (hoe : oe.rmin ≤ oe.rmax ∧ oe.cmin ≤ oe.cmax) (hP : 0 < P0 ∧ 0 < P1) (r c : Int)
    (hin : (oe.inb r c && (propExtent P0 P1 fix0 fix1).inb r c) = true) :
    embO (propagateField ⟨phasorField amp (fitTiltOpd s0 s1 dx0 dx1 mask opd t) wl s0 s1 0 0, fix0, fix1, sub0, sub1⟩
      (dftAlpha dx0 dx1 du0 du1 wl z os).1 (dftAlpha dx0 dx1 du0 du1 wl z os).2 oe P0 P1) r c =
    fraunhoferAt (phasorField amp opd wl s0 s1 0 0) (dftAlpha dx0 dx1 du0 du1 wl z os).1 (dftAlpha dx0 dx1 du0 du1 wl z os).2
      (RealLike.ofInt r) (RealLike.ofInt c) := by
  refine tilt_absorbed_sample (fun _ => rfl) expI_add_complex amp opd _ _ _ dx0 dx1 du0 du1 wl z os s0 s1 0 0 hw hz
    (Int.cast_ne_zero.mpr hos) hdu (fun x y => ?_) fix0 fix1 sub0 sub1 hsplit oe P0 P1 hoe hP r c hin
  rcases hmask x y with h1 | ⟨_, h0⟩
  · rw [← tiltRamp_on_mask s0 s1 dx0 dx1 mask _ _ x y h1]
    exact Or.inr (fit_tilt_total_unchanged Int.cast_one s0 s1 dx0 dx1 mask opd t x y).symm
  · exact Or.inl h0

/-- **The plane returned by `fit_tilt` propagates like the original plane.** For ANY coefficients `t` the solver returned: the plane
with the OPD `fit_tilt` leaves (`fitTiltOpd … t`) carrying the recorded element `Tilt(x=t[1], y=t[2])` as metadata (any integer/sub-pixel
split of its `Field.shift`), and the original plane with its original OPD and no metadata, give the same complex value at every global
output coordinate that both evaluate. Binary mask; the amplitude vanishes off the mask (what `Plane.multiply` hands over); the plane's
pixel scale is the wavefront's `dx`. `fit_tilt_image_is_original_fraunhofer` on the left, C02 `propagateField_sample` on the right. -/
theorem fit_tilt_propagates_like_original (amp : Int → Int → ℂ) (mask opd : Int → Int → ℝ) (t : Int → ℝ)
    (hmask : ∀ x y, mask x y = 1 ∨ (mask x y = 0 ∧ amp x y = 0))
    (dx0 dx1 du0 du1 wl z : ℝ) (os : Int) (s0 s1 : Int) (hw : wl ≠ 0) (hz : z ≠ 0) (hos : os ≠ 0) (hdu : du0 ≠ 0 ∧ du1 ≠ 0)
    (fix0 fix1 : Int) (sub0 sub1 : ℝ)
    (hsplit : ((fix0 : ℝ) + sub0, (fix1 : ℝ) + sub1) = fieldShift [fitTiltRecord t] z wl du0 du1 os true)
    (oe oe' : Extent) (P0 P1 P0' P1' : Int)
    (hoe : oe.rmin ≤ oe.rmax ∧ oe.cmin ≤ oe.cmax) (hP : 0 < P0 ∧ 0 < P1)
    (hoe' : oe'.rmin ≤ oe'.rmax ∧ oe'.cmin ≤ oe'.cmax) (hP' : 0 < P0' ∧ 0 < P1') (r c : Int)
    (hin : (oe.inb r c && (propExtent P0 P1 fix0 fix1).inb r c) = true)
    (hin' : (oe'.inb r c && (propExtent P0' P1' 0 0).inb r c) = true) :
    embO (propagateField ⟨phasorField amp (fitTiltOpd s0 s1 dx0 dx1 mask opd t) wl s0 s1 0 0, fix0, fix1, sub0, sub1⟩
      (dftAlpha dx0 dx1 du0 du1 wl z os).1 (dftAlpha dx0 dx1 du0 du1 wl z os).2 oe P0 P1) r c =
    embO (propagateField ⟨phasorField amp opd wl s0 s1 0 0, 0, 0, 0, 0⟩
      (dftAlpha dx0 dx1 du0 du1 wl z os).1 (dftAlpha dx0 dx1 du0 du1 wl z os).2 oe' P0' P1') r c := by
  rw [fit_tilt_image_is_original_fraunhofer amp mask opd t hmask dx0 dx1 du0 du1 wl z os s0 s1 hw hz hos hdu fix0 fix1 sub0 sub1 hsplit
      oe P0 P1 hoe hP r c hin,
    propagateField_unshifted_sample (fun _ => rfl) _ _ _ oe' P0' P1' hoe' hP' r c hin']
/-- non-vacuity of `fit_tilt_propagates_like_original`: a fully illuminated 2x2 plane, solver coefficients `t = (7, 5/2, -2)` (recorded
`Tilt(x=5/2, y=-2)`: 2.5 rows, 2 columns at unit lengths) split as `(2 + 1/2, 2 + 0)`; all hypotheses hold at the sample (1, 1) -/
example := fit_tilt_propagates_like_original (fun _ _ => 1) (fun _ _ => 1) (fun x y => ((x + y : ℤ) : ℝ))
  (fun k => if k = 1 then 5/2 else if k = 2 then -2 else 7) (fun _ _ => Or.inl rfl) 1 1 1 1 1 1 1 2 2
  one_ne_zero one_ne_zero one_ne_zero ⟨one_ne_zero, one_ne_zero⟩ 2 2 (1/2) 0
  (by simp only [fitTiltRecord, fitRecordXY, Gen.fitRecord]
      rw [fieldShift_angular (by simp [RealLike.ofInt])]; simp only [RealLike.ofInt]; refine Prod.ext ?_ ?_ <;> norm_num)
  (outExtent 8 8 none) (outExtent 8 8 none) 4 4 4 4 (by rw [outExtent_nomask]; decide) (by decide) (by rw [outExtent_nomask]; decide) (by decide)
  1 1 (by decide) (by decide)

/-- **Segmented planes: each segment's field after `fit_tilt` propagates like that segment of the original plane.** Segment `s` of a
segmented plane (binary, pairwise disjoint masks; the segment's amplitude vanishes off its own mask): its field with the OPD the segmented
branch of `fit_tilt` leaves (`fitTiltOpdSeg`, which also zeroes the OPD outside all segments) carrying the segment's own recorded element
`Tilt(x=t[seg,1], y=t[seg,2])` as metadata, and the same segment with the original OPD and no metadata, give the same complex value at
every output coordinate both evaluate — for ANY coefficients of every segment. Composition of `fit_tilt_total_unchanged_seg` with
`tilt_absorbed_sample`; summing over segments gives the whole aperture (`segmented_tilt_equiv_complex`). -/
theorem fit_tilt_seg_propagates_like_original (amp : Int → Int → ℂ) (opd : Int → Int → ℝ)
    (pre post : List (Int × (Int → Int → ℝ) × (Int → ℝ))) (sg : Int × (Int → Int → ℝ) × (Int → ℝ))
    (hmask : ∀ x y, (sg.2.1 x y = 1 ∧ ∀ s' ∈ pre ++ post, s'.2.1 x y = 0) ∨ amp x y = 0)
    (dx0 dx1 du0 du1 wl z : ℝ) (os : Int) (s0 s1 : Int) (hw : wl ≠ 0) (hz : z ≠ 0) (hos : os ≠ 0) (hdu : du0 ≠ 0 ∧ du1 ≠ 0)
    (fix0 fix1 : Int) (sub0 sub1 : ℝ)
    (hsplit : ((fix0 : ℝ) + sub0, (fix1 : ℝ) + sub1) =
      fieldShift [TiltEl.angular (fitSegRecordXY sg.2.2).1 (fitSegRecordXY sg.2.2).2] z wl du0 du1 os true)
    (oe oe' : Extent) (P0 P1 P0' P1' : Int)
    (hoe : oe.rmin ≤ oe.rmax ∧ oe.cmin ≤ oe.cmax) (hP : 0 < P0 ∧ 0 < P1)
    (hoe' : oe'.rmin ≤ oe'.rmax ∧ oe'.cmin ≤ oe'.cmax) (hP' : 0 < P0' ∧ 0 < P1') (r c : Int)
    (hin : (oe.inb r c && (propExtent P0 P1 fix0 fix1).inb r c) = true)
    (hin' : (oe'.inb r c && (propExtent P0' P1' 0 0).inb r c) = true) :
    embO (propagateField ⟨phasorField amp (fitTiltOpdSeg s0 s1 dx0 dx1 (pre ++ sg :: post) opd) wl s0 s1 0 0, fix0, fix1, sub0, sub1⟩
      (dftAlpha dx0 dx1 du0 du1 wl z os).1 (dftAlpha dx0 dx1 du0 du1 wl z os).2 oe P0 P1) r c =
    embO (propagateField ⟨phasorField amp opd wl s0 s1 0 0, 0, 0, 0, 0⟩
      (dftAlpha dx0 dx1 du0 du1 wl z os).1 (dftAlpha dx0 dx1 du0 du1 wl z os).2 oe' P0' P1') r c := by
  rw [propagateField_unshifted_sample (fun _ => rfl) _ _ _ oe' P0' P1' hoe' hP' r c hin']
  refine tilt_absorbed_sample (fun _ => rfl) expI_add_complex amp opd _ _ _ dx0 dx1 du0 du1 wl z os s0 s1 0 0 hw hz
    (Int.cast_ne_zero.mpr hos) hdu (fun x y => ?_) fix0 fix1 sub0 sub1 hsplit oe P0 P1 hoe hP r c hin
  rcases hmask x y with ⟨h1, hoth⟩ | h0
  · rw [← tiltRamp_on_mask s0 s1 dx0 dx1 sg.2.1 _ _ x y h1]
    exact Or.inr (fit_tilt_total_unchanged_seg Int.cast_one s0 s1 dx0 dx1 pre post sg opd x y h1 hoth).symm
  · exact Or.inl h0
end fitprop

/-! ## A first-order dispersive element displaces along its trace by the arc length its dispersion maps to the wavelength -/
section dispersive
variable {R : Type} [Field R] [LinearOrder R] [IsStrictOrderedRing R] [RealLike R]

/-- **On the trace, at the right arc length.** For `DispersiveTilt(trace=[t0, t1], dispersion=[d0, d1])` the displacement
`(x, y)` satisfies `y = t0*x + t1` (it lies on the trace polynomial), its distance from the trace origin `(0, t1)` is
`|d|` with `d0*d + d1 = wavelength` (the arc length the dispersion polynomial maps to the wavelength; squared form), and it
points along increasing `x` for positive `d`. `hsqrt`: `RealLike.sqrt` is a square root on non-negatives. -/
theorem dispersive_on_trace (h1 : (RealLike.ofInt 1 : R) = 1)
    (hsqrt : ∀ a : R, 0 < a → 0 < RealLike.sqrt a ∧ RealLike.sqrt a * RealLike.sqrt a = a)
    (t0 t1 d0 d1 z wl : R) (hd0 : d0 ≠ 0) :
    let p := (TiltEl.dispersive1 t0 t1 d0 d1).disp z wl
    let d := (wl - d1) / d0
    p.2 = t0 * p.1 + t1 ∧ p.1 * p.1 + (p.2 - t1) * (p.2 - t1) = d * d ∧ d0 * d + d1 = wl ∧ 0 ≤ p.1 * d := by
  obtain ⟨hq, hs⟩ := hsqrt (1 + t0 * t0) (add_pos_of_pos_of_nonneg one_pos (mul_self_nonneg t0))
  simp only [TiltEl.disp, TiltEl.shift, Gen.dispersiveShift1, h1, add_zero]
  generalize RealLike.sqrt (1 + t0 * t0) = q at hq hs
  have hd : d0 * ((wl - d1) / d0) + d1 = wl := by rw [mul_div_cancel₀ _ hd0, sub_add_cancel]
  generalize (wl - d1) / d0 = d at hd ⊢
  -- in terms of the abscissa `x = d / q`: `d = x * q`, and `q * q = 1 + t0 * t0` gives the distance from the trace origin
  have hx : d / q * q = d := div_mul_cancel₀ d hq.ne'
  generalize d / q = x at hx ⊢
  subst hx
  refine ⟨trivial, ?_, hd, ?_⟩
  · rw [add_sub_cancel_right, mul_mul_mul_comm x q, hs]
    ring
  · rw [← mul_assoc]
    exact mul_nonneg (mul_self_nonneg x) hq.le

/-- **Contract of the numerical branches of `DispersiveTilt`** (trace and/or dispersion polynomial of order > 1): the two
`scipy.optimize.leastsq(…, x0=0)` calls return roots of the residuals the code hands them — both residual functions and the arc-length
integrand are *generated* from `_dist_cost_func`, `_trace_cost_func`, `_trace_dist_func` — with `scipy.integrate.quad` the integral.
This is the single trusted fact about the higher-order branches; the oracle checks it numerically on every generated element. -/
def DispersiveSolved (trace disp : List ℝ) (wl dist x : ℝ) : Prop :=
  Gen.dispDistResidual polyval disp dist wl = 0 ∧
  Gen.traceDistResidual (fun f a b => ∫ t in a..b, f t) (Gen.traceDistIntegrand Real.sqrt polyval polyder 1 trace) 0 x dist = 0

/-- **The solver contract, unfolded** (not a result about the solvers: the conclusion is `DispersiveSolved` read through the generated
residuals and tail). What it fixes is the FORM of what the code hands to scipy: if both residuals vanish, then the displacement (net of
the incoming shift) is `(x, polyval(trace, x))`, the dispersion polynomial maps `dist` to the wavelength, and `dist` is the arc length
`∫₀ˣ √(1 + T'²)` of the trace. A change of a residual, of the integrand or of the tail breaks this theorem. -/
theorem dispersive_general_spec (trace disp : List ℝ) (wl dist x xs ys : ℝ) (h : DispersiveSolved trace disp wl dist x) :
    (Gen.dispersiveTail polyval trace x xs ys).2 - ys = polyval trace ((Gen.dispersiveTail polyval trace x xs ys).1 - xs) ∧
    polyval disp dist = wl ∧
    (∫ t in (0 : ℝ)..((Gen.dispersiveTail polyval trace x xs ys).1 - xs), Real.sqrt (1 + polyval (polyder trace) t * polyval (polyder trace) t)) = dist := by
  obtain ⟨h1, h2⟩ := h
  simp only [Gen.dispDistResidual, Gen.traceDistResidual, Gen.traceDistIntegrand, sub_eq_zero] at h1 h2
  simp only [Gen.dispersiveTail, add_sub_cancel_right]
  exact ⟨trivial, h1.symm, h2.symm⟩

/-- **Mixed order: linear trace, dispersion of any order.** For `trace = [t0, t1]` the code takes the closed form `x = dist/√(1+t0²)`
whatever `dist` the (possibly numerical) dispersion branch returned: that `x` makes the generated trace residual vanish, i.e. it is the
abscissa at arc length `dist` — so only the dispersion root remains a contract in this case. -/
theorem linear_trace_arc_length (t0 t1 dist : ℝ) :
    Gen.traceDistResidual (fun f a b => ∫ t in a..b, f t) (Gen.traceDistIntegrand Real.sqrt polyval polyder 1 [t0, t1]) 0
      (dist / Real.sqrt (1 + t0 * t0)) dist = 0 := by
  have hq : Real.sqrt (1 + t0 * t0) ≠ 0 :=
    (Real.sqrt_pos.mpr (add_pos_of_pos_of_nonneg one_pos (mul_self_nonneg t0))).ne'
  -- the derivative of a linear trace is the constant `t0`, so the arc-length integrand is constant
  have hc : ∀ t : ℝ, polyval (polyder [t0, t1]) t = t0 := fun t => by simp [polyval, polyder, RealLike.ofInt]
  simp only [Gen.traceDistResidual, Gen.traceDistIntegrand, hc]
  rw [intervalIntegral.integral_const, smul_eq_mul, sub_zero, div_mul_cancel₀ _ hq, sub_self]

/-- **The first-order closed form is the solution of the general contract**: for `trace=[t0, t1]`, `dispersion=[d0, d1]` the generated
closed-form branch (`Gen.dispersiveShift1`) returns exactly the tail evaluated at values that make both generated residuals vanish —
so the analytic and the numerical branches of the code describe the same displacement. -/
theorem first_order_closed_form_is_solution (t0 t1 d0 d1 wl xs ys : ℝ) (hd0 : d0 ≠ 0) :
    DispersiveSolved [t0, t1] [d0, d1] wl ((wl - d1) / d0) ((wl - d1) / d0 / Real.sqrt (1 + t0 * t0)) ∧
    Gen.dispersiveTail polyval [t0, t1] ((wl - d1) / d0 / Real.sqrt (1 + t0 * t0)) xs ys =
      Gen.dispersiveShift1 Real.sqrt 1 t0 t1 d0 d1 wl xs ys := by
  refine ⟨⟨?_, linear_trace_arc_length t0 t1 _⟩, ?_⟩
  · simp only [Gen.dispDistResidual, polyval, List.foldl, RealLike.ofInt]
    rw [Int.cast_zero, zero_mul, zero_add, mul_div_cancel₀ _ hd0, sub_add_cancel, sub_self]
  · simp [Gen.dispersiveTail, Gen.dispersiveShift1, polyval, RealLike.ofInt]

/-- **Lists with elements of any order add and do not depend on the order**: `shift_additive` / `shift_perm_invariant` quantify over
`TiltEl`, which has the constructor `dispersiveN trace x` (displacement = generated tail at the solver's abscissa); instance for a list
mixing all three kinds. -/
theorem any_order_lists_add (h0 : (RealLike.ofInt 0 : ℝ) = 0) (a b t0 t1 d0 d1 x : ℝ) (trace : List ℝ) (z wl : ℝ) :
    foldShift [TiltEl.angular a b, TiltEl.dispersiveN trace x, TiltEl.dispersive1 t0 t1 d0 d1] z wl =
      foldShift [TiltEl.dispersive1 t0 t1 d0 d1, TiltEl.angular a b, TiltEl.dispersiveN trace x] z wl :=
  shift_perm_invariant h0 _ _ (List.perm_append_comm (l₁ := [_, _]) (l₂ := [_])) z wl

/-- non-vacuity of `hsqrt`: the real square root qualifies -/
example : ∀ a : ℝ, 0 < a → 0 < Real.sqrt a ∧ Real.sqrt a * Real.sqrt a = a :=
  fun _ h => ⟨Real.sqrt_pos.mpr h, Real.mul_self_sqrt h.le⟩
end dispersive

end Lentil.C04
