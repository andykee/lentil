import LentilVerif.Lemmas.Heap
import LentilVerif.Props.C04
import LentilVerif.Gen.InplaceGate
/-! # C10 — calls are pure: no hidden mutation of inputs, no dependence on call history

**Partial by nature** (DESIGN §5 C10): the theorems are about *effect summaries*. What each public function may write is
the generated table `Gen.effTable` (effect-site scan of the source, regenerated on every run); the theorems show that the
summaries are confined to the documented in-place list and that they compose over unbounded histories. That each
summary is right about NumPy-level behaviour is sampled by the correspondence (tools/harness/c10.py). -/
namespace Lentil.C10
open Lentil Lentil.Heap

/-! ## The generated table against the documented in-place list

Finite facts about `Gen.effTable`, proved by evaluation. Where a list computed from the table is compared with a list of literals the
proof is `rfl`: both sides reduce to the same string literals, which the kernel compares as such; `decide` would send every string
through `String.decEq`, i.e. through its UTF-8 bytes, and that is where the time of a sweep over the table goes. -/

/-- every in-place write site the scan finds in a public function targets a (function, parameter) pair documented as
in-place (explicit output buffers, accumulate-into-array, scratch, in-place tilt fitting, attribute setters, the spectrum
editing methods) -/
theorem documented_inplace_only : tableOK Gen.effTable = true := by decide +kernel

/-- **the `inplace=` gate of the heap model is the source's** (regenerated `Gen.effInplaceGates`: every function of the package with an
`inplace` parameter, its gate statement and its write sites classified by the name they go through): the functions the model switches
by the flag (`inplaceGated`, hand list) are exactly those; with the flag off each works on `self.copy()`; NO write site goes through
`self` directly (it would write the caller's plane whatever the flag says); and the attributes written through the gate variable are
write paths of the function's row in the effect table — a second `inplace=` function, a gate that stops copying, or a write that
bypasses the gate variable breaks this proof -/
theorem inplace_gate_follows_source :
    Gen.effInplaceGates.map (·.1) = inplaceGated ∧
    (∀ g ∈ Gen.effInplaceGates, g.2.1 = "self" ∧ g.2.2.1 = "self.copy()" ∧ g.2.2.2.1 = []) ∧
    (∀ g ∈ Gen.effInplaceGates, ∀ r ∈ Gen.effTable, r.fn = g.1 → ∀ a ∈ g.2.2.2.2, (g.2.1, a) ∈ r.writePaths) :=
  ⟨rfl, by decide +kernel, by decide +kernel⟩

/-- slot-specific: the in-place write sites of the documented in-place functions go through exactly the attributes the
documentation names — `fit_tilt` touches only `opd` and `tilt` (never amplitude, mask or pixel scale), each plane/spectrum/wavefront
setter only its own attribute, the spectrum editing methods only wave/value(/units) — read off the source on every run -/
theorem inplace_writes_go_through_documented_attributes :
    (Gen.effTable.filter fun r => r.pub && !r.writePaths.isEmpty).map (fun r => (r.fn, r.writePaths)) =
      [("plane.Plane.amplitude.setter", [("self", "amplitude")]),
       ("plane.Plane.fit_tilt", [("self", "opd"), ("self", "tilt")]),
       ("plane.Plane.opd.setter", [("self", "opd")]),
       ("radiometry.Material.emission.setter", [("self", "emission")]),
       ("radiometry.Material.transmission.setter", [("self", "transmission")]),
       ("radiometry.Spectrum.append", [("self", "value"), ("self", "wave")]),
       ("radiometry.Spectrum.crop", [("self", "value"), ("self", "wave")]),
       ("radiometry.Spectrum.pad", [("self", "value"), ("self", "wave")]),
       ("radiometry.Spectrum.resample", [("self", "value"), ("self", "wave"), ("self", "waveunit")]),
       ("radiometry.Spectrum.to", [("self", "value"), ("self", "valueunit"), ("self", "wave"), ("self", "waveunit")]),
       ("radiometry.Spectrum.trim", [("self", "value"), ("self", "wave")]),
       ("radiometry.Spectrum.value.setter", [("self", "value")]),
       ("radiometry.Spectrum.valueunit.setter", [("self", "valueunit")]),
       ("radiometry.Spectrum.wave.setter", [("self", "wave")]),
       ("radiometry.Spectrum.waveunit.setter", [("self", "waveunit")]),
       ("wavefront.Wavefront.ptype.setter", [("self", "ptype")])] := rfl

/-- results are fresh unless documented otherwise (regenerated `returnsAlias`): the only public functions whose return value may be
(a view of) one of their arguments are attribute getters, the in-place functions returning their target, `window`/`subarray` views
and pass-through sanitizers — the list `viewReturning`; the heap model makes such a result share its cells with that argument, so
a later in-place call on the result is accounted to the caller's cell -/
theorem results_are_fresh_unless_documented_view :
    (Gen.effTable.filter fun r => r.pub && !r.returnsAlias.isEmpty).map (·.fn) = viewReturning := rfl

/-- repeating a seeded call gives the same answer because the seed reaches the generator (regenerated call wiring): every function
with a parameter named `seed` either builds its generator as `default_rng(seed)` from the bare parameter, or builds none and hands
`seed` itself on, in the seed position, to a function that does (`rule07_dark_current → dark_current`); a call site that drops or
alters the seed changes the table and this fails -/
theorem seed_reaches_every_generator :
    (Gen.effTable.filter fun r => r.takesSeed).all (fun r =>
      (r.rngArgs == ["seed"] && r.seedForward.isEmpty) ||
      (r.rngArgs.isEmpty && !r.seedForward.isEmpty && r.seedForward.all fun p => p.2 == "seed")) = true ∧
    (Gen.effTable.filter fun r => r.takesSeed).map (·.fn) =
      ["detector.dark_current", "detector.read_noise", "detector.rule07_dark_current", "detector.shot_noise", "wfe.power_spectrum"] :=
  ⟨by decide +kernel, rfl⟩

/-- no function writes a module-level object or a value handed out by a cached function; the only cache is `_dft2_coords`
and the only module-level containers are two constant tables -/
theorem no_shared_state_written :
    (Gen.effTable.all fun r => r.cacheWrites.isEmpty && r.globalWrites.isEmpty) = true ∧
    Gen.effCaches = ["fourier._dft2_coords"] ∧
    Gen.effModuleState = ["plane._mul_ptype_table", "segmented.hex_directions"] := ⟨by decide +kernel, rfl, rfl⟩

/-- the functions that touch NumPy's global generator are exactly the documented unseeded ones (cosmic rays and
`smear(angle=None)`), and no function that takes a seed is among them -/
theorem global_rng_users_documented :
    (Gen.effTable.filter (·.globalRng)).map (·.fn) =
      ["convolvable.smear", "detector._cosmic_ray", "detector._nrays", "detector.cosmic_rays"] ∧
    (Gen.effTable.all fun r => !r.seeded || !r.globalRng) = true ∧
    (Gen.effTable.filter (·.seeded)).map (·.fn) =
      ["detector.dark_current", "detector.read_noise", "detector.shot_noise", "wfe.power_spectrum"] :=
  ⟨rfl, by decide +kernel, rfl⟩

/-! ## Frame theorems: the summaries compose over every history -/

/-- **frame**: over any history, a cell that the history does not itself allocate changes only under an op that has it
(or an object holding it by reference) bound to one of its write slots -/
theorem caller_cells_frame (tbl : List Gen.EffRow) (ops : List Op) (s : State) (c : Cell)
    (halloc : ∀ op ∈ ops, op.res ≠ some c) (h : (run tbl s ops).val c ≠ s.val c) :
    ∃ pre op post, ops = pre ++ op :: post ∧
      ∃ b ∈ op.bind, b.1 ∈ writeSlots tbl op ∧ (c = b.2 ∨ ∃ a, (a, c) ∈ (run tbl s pre).refs b.2 ∧
        (a = "*" ∨ (writeAttrs tbl op b.1).isEmpty = true ∨ a ∈ writeAttrs tbl op b.1)) := by
  induction ops generalizing s with
  | nil => exact absurd rfl h
  | cons op rest ih =>
    by_cases hw : c ∈ writeCells tbl s op
    · exact ⟨[], op, rest, rfl, (mem_writeCells tbl s op c).mp hw⟩
    · have h1 : (step tbl s op).val c = s.val c := frame_step tbl s op c (halloc op List.mem_cons_self) hw
      rw [run_cons] at h
      obtain ⟨pre, op', post, he, hb⟩ := ih (step tbl s op) (fun o ho => halloc o (List.mem_cons_of_mem _ ho)) (by rw [h1]; exact h)
      exact ⟨op :: pre, op', post, by rw [he]; rfl, by rw [run_cons]; exact hb⟩

/-- … and, for the table generated from the source, that op is a call documented as in-place on that
argument: a caller's array/plane/spectrum is never changed by any other public call, whatever
the history. `hpub`: the history consists of public API functions known to the scan. -/
theorem caller_cell_changes_only_under_documented_inplace (ops : List Op) (s : State) (c : Cell)
    (hpub : ∀ op ∈ ops, ∃ r, row? Gen.effTable op.fn = some r ∧ r.pub = true)
    (halloc : ∀ op ∈ ops, op.res ≠ some c) (h : (run Gen.effTable s ops).val c ≠ s.val c) :
    ∃ pre op post, ops = pre ++ op :: post ∧ ∃ b ∈ op.bind,
      (op.fn, b.1) ∈ documentedInPlace ∧
      (c = b.2 ∨ ∃ a, (a, c) ∈ (run Gen.effTable s pre).refs b.2 ∧
        (a = "*" ∨ (writeAttrs Gen.effTable op b.1).isEmpty = true ∨ a ∈ writeAttrs Gen.effTable op b.1)) := by
  obtain ⟨pre, op, post, he, b, hb, hs, hc⟩ := caller_cells_frame Gen.effTable ops s c halloc h
  refine ⟨pre, op, post, he, b, hb, ?_, hc⟩
  obtain ⟨r, hr, hp⟩ := hpub op (he ▸ List.mem_append_cons_self)
  have hmem := row?_mem _ _ _ hr
  obtain ⟨w, hw, hw1⟩ := List.mem_map.mp (mem_writeSlots hr hs)
  have := (tableOK_iff _).mp documented_inplace_only r hmem.1 hp w hw
  rwa [hmem.2, hw1] at this

/-- functions given a seed neither read nor advance the global random state: over any history of seeded calls (indeed
of any calls outside the documented unseeded ones) the global generator cell is unchanged -/
theorem seeded_ops_leave_global_rng (ops : List Op) (s : State)
    (h : ∀ op ∈ ops, ∃ r, row? Gen.effTable op.fn = some r ∧ (r.seeded = true ∨ r.globalRng = false)) :
    (run Gen.effTable s ops).rng = s.rng := by
  refine run_invariant _ (fun s' => s'.rng = s.rng) ops (fun op hop s' hs' => ?_) s rfl
  rw [← hs']
  apply rng_step
  obtain ⟨r, hr, hs⟩ := h op hop
  have ht := List.all_eq_true.mp global_rng_users_documented.2.1 r (row?_mem _ _ _ hr).1
  simp only [usesGlobalRng, hr]
  rcases hs with hs | hs
  · simpa [hs] using ht
  · exact hs

/-- interleaving unrelated calls: a history none of whose calls has the cell (or an object holding it) in a write slot leaves it
exactly as it was — whatever else the calls do, in whatever order and number -/
theorem unrelated_calls_preserve_arguments (tbl : List Gen.EffRow) (ops : List Op) (s : State) (c : Cell)
    (halloc : ∀ op ∈ ops, op.res ≠ some c)
    (hunrel : ∀ pre op post, ops = pre ++ op :: post → c ∉ writeCells tbl (run tbl s pre) op) :
    (run tbl s ops).val c = s.val c := by
  apply Classical.byContradiction; intro h
  obtain ⟨pre, op, post, he, hb⟩ := caller_cells_frame tbl ops s c halloc h
  exact hunrel pre op post he ((mem_writeCells tbl _ op c).mpr hb)

/-- in particular a history of calls whose rows have no write site at all (every function of the table outside the documented
in-place list) changes no cell that existed before, nor the global generator when none of them is a documented unseeded function -/
theorem pure_calls_change_nothing (ops : List Op) (s : State) (c : Cell)
    (halloc : ∀ op ∈ ops, op.res ≠ some c)
    (hpure : ∀ op ∈ ops, ∃ r, row? Gen.effTable op.fn = some r ∧ r.writes = [] ∧ r.globalRng = false) :
    (run Gen.effTable s ops).val c = s.val c ∧ (run Gen.effTable s ops).rng = s.rng := by
  constructor
  · apply unrelated_calls_preserve_arguments _ _ _ _ halloc
    intro pre op post he hmem
    obtain ⟨r, hr, hw, _⟩ := hpure op (he ▸ List.mem_append_cons_self)
    rw [mem_writeCells] at hmem
    obtain ⟨b, _, hs, _⟩ := hmem
    have := mem_writeSlots hr hs
    rw [hw] at this
    exact absurd this List.not_mem_nil
  · apply seeded_ops_leave_global_rng
    intro op hop
    obtain ⟨r, hr, _, hg⟩ := hpure op hop
    exact ⟨r, hr, Or.inr hg⟩

/-- non-vacuity of `pure_calls_change_nothing`: `adc` then `collect_charge` on the caller's cells 0 and 1 — both rows of the generated
table have no write site and do not use the global generator — leave cell 0 and the generator as they were -/
example :
    let a : Op := { fn := "detector.adc", bind := [("img", 0), ("gain", 1)], res := some 2, newVal := fun _ => 9, newRng := 5,
                    newCoords := freshCoords, evict := fun _ => false, key := none }
    let b : Op := { a with fn := "detector.collect_charge", bind := [("img", 0), ("qe", 1)], res := some 3 }
    let s0 : State := { val := fun _ => 0, refs := fun _ => [], rng := 0, cache := fun _ => none }
    (run Gen.effTable s0 [a, b]).val 0 = 0 ∧ (run Gen.effTable s0 [a, b]).rng = 0 := by
  decide +kernel

/-- the cached coordinate vectors always equal `arange(n) − ⌊n/2⌋`: nothing in the library writes them, so the invariant
survives every history (lookups, insertions and evictions included) -/
theorem cache_invariant (ops : List Op) (s : State) (hs : CacheOK s)
    (h : ∀ op ∈ ops, (row? Gen.effTable op.fn).isSome) : CacheOK (run Gen.effTable s ops) := by
  refine run_invariant _ CacheOK ops (fun op hop s' hs' => cache_step _ _ _ ?_ hs') s hs
  obtain ⟨r, hr⟩ := Option.isSome_iff_exists.mp (h op hop)
  have ht := no_shared_state_written.1
  simp only [List.all_eq_true, Bool.and_eq_true] at ht
  simp [writesCache, hr, (ht r (row?_mem _ _ _ hr).1).1]

/-- non-vacuity of `seeded_ops_leave_global_rng`: `read_noise`, `rule07_dark_current` and `power_spectrum` calls in a row leave the
global generator cell where it was -/
example :
    let a : Op := { fn := "detector.read_noise", bind := [("img", 0)], res := some 1, newVal := fun _ => 9, newRng := 5,
                    newCoords := freshCoords, evict := fun _ => false, key := none }
    let s0 : State := { val := fun _ => 0, refs := fun _ => [], rng := 7, cache := fun _ => none }
    (run Gen.effTable s0 [a, { a with fn := "detector.rule07_dark_current", bind := [], res := some 2 },
                          { a with fn := "wfe.power_spectrum", bind := [("mask", 0)], res := some 3 }]).rng = 7 := by
  decide +kernel

/-- what the cache holds, read off the source: the four vectors `_dft2_coords(m, n, M, N)` builds (regenerated `Gen.fwCoord0..3`)
are `arange(len) − ⌊len/2⌋` of the four lengths, in the order (m, n, M, N) -/
theorem fresh_coords_are_centred (m n M N : Int) :
    freshCoords (m, n, M, N) = (cc m, cc n, cc M, cc N) := rfl

/-- hence the coordinates a Fourier-transform call works with depend only on its own shape arguments, not on the
history of earlier calls (repeated or interleaved calls with other offsets, shifts or shapes) -/
theorem result_history_independent (ops : List Op) (s : State) (hs : CacheOK s)
    (h : ∀ op ∈ ops, (row? Gen.effTable op.fn).isSome) (k : Key) :
    lookup (run Gen.effTable s ops) k = freshCoords k :=
  lookup_of_ok _ (cache_invariant ops s hs h) k

/-- repeating or interleaving Fourier calls: whatever happened in between, a call sees the coordinate vectors it saw before — the
view of the cache is the same function of the key before and after any history of table functions -/
theorem repeated_call_sees_same_coordinates (ops : List Op) (s : State) (hs : CacheOK s)
    (h : ∀ op ∈ ops, (row? Gen.effTable op.fn).isSome) (k : Key) :
    lookup (run Gen.effTable s ops) k = lookup s k := by
  rw [result_history_independent ops s hs h k, lookup_of_ok s hs k]

/-- **plane-state confluence** (composed with C04's `fit_tilt_history`, proved there over the regenerated tilt-fit model): two
histories of OPD updates and tilt fits — in any order and number, whatever coefficients the solver returned — that start from
the same plane and apply the same total OPD update reach the same *optical* state: current OPD plus the ramp of all recorded tilts.
(That `multiply`/`propagate` depend only on that total is C04's tilt-equivalence theorem; the histories are sampled here.) -/
theorem plane_state_total_invariant {R : Type} [Field R] [RealLike R] (h1 : (RealLike.ofInt 1 : R) = 1) (s0 s1 : Int) (px0 px1 : R)
    (mask : Int → Int → R) (ops ops' : List (TiltOp R)) (opd : Int → Int → R) (ts : List (R × R)) (i j : Int)
    (hsame : tiltUpdatesSum ops i j = tiltUpdatesSum ops' i j) :
    (tiltRun s0 s1 px0 px1 mask ops (opd, ts)).1 i j +
      tiltRamp s0 s1 px0 px1 mask ((tiltRun s0 s1 px0 px1 mask ops (opd, ts)).2.map Prod.fst).sum
        ((tiltRun s0 s1 px0 px1 mask ops (opd, ts)).2.map Prod.snd).sum i j =
    (tiltRun s0 s1 px0 px1 mask ops' (opd, ts)).1 i j +
      tiltRamp s0 s1 px0 px1 mask ((tiltRun s0 s1 px0 px1 mask ops' (opd, ts)).2.map Prod.fst).sum
        ((tiltRun s0 s1 px0 px1 mask ops' (opd, ts)).2.map Prod.snd).sum i j := by
  rw [Lentil.C04.fit_tilt_history h1, Lentil.C04.fit_tilt_history h1, hsame]

/-- slot- and attribute-specific frame: an in-place tilt fit may write, of what the plane holds by reference, only what it holds
through `opd` or `tilt` — a caller's amplitude (or any other) array held by the plane is outside its write set, in every state -/
theorem inplace_fit_never_writes_amplitude (s : State) (op : Op) (hfn : op.fn = "plane.Plane.fit_tilt") (c : Cell)
    (hc : c ∈ writeCells Gen.effTable s op) :
    ∃ b ∈ op.bind, c = b.2 ∨ (("opd", c) ∈ s.refs b.2 ∨ ("tilt", c) ∈ s.refs b.2 ∨ ("*", c) ∈ s.refs b.2) := by
  obtain ⟨b, hb, hs, h⟩ := (mem_writeCells Gen.effTable s op c).mp hc
  refine ⟨b, hb, h.imp_right ?_⟩
  rintro ⟨a, ha, hok⟩
  -- the row of `fit_tilt`, looked up once: it writes the slot `self`, through the attributes `opd` and `tilt`
  have hrow : (row? Gen.effTable "plane.Plane.fit_tilt").map
      (fun r => (r.writes.map (·.1), (r.writePaths.filter fun p => p.1 == "self").map (·.2))) = some (["self"], ["opd", "tilt"]) := by
    decide +kernel
  obtain ⟨r, hr, hrw⟩ := Option.map_eq_some_iff.mp hrow
  rw [← hfn] at hr
  have hslot : b.1 = "self" := by simpa [(Prod.mk.inj hrw).1] using mem_writeSlots hr hs
  have hattrs : writeAttrs Gen.effTable op "self" = ["opd", "tilt"] := by simp only [writeAttrs, hr]; exact (Prod.mk.inj hrw).2
  rw [hslot, hattrs] at hok
  simp only [List.isEmpty_cons, Bool.false_eq_true, List.mem_cons, List.not_mem_nil, or_false, false_or] at hok
  rcases hok with rfl | rfl | rfl
  · exact Or.inr (Or.inr ha)
  · exact Or.inl ha
  · exact Or.inr (Or.inl ha)

/-- non-vacuity: a two-call history (construct a plane from caller arrays 0 and 1, fit its tilt in place) in which the
frame theorem's conclusion is the in-place fit on the plane that holds cell 1 by reference -/
example :
    let mk : Op := { fn := "plane.Plane.__init__", bind := [("amplitude", 0), ("opd", 1)], res := some 2, newVal := fun _ => 7,
                     newRng := 0, newCoords := freshCoords, evict := fun _ => false, key := none }
    let fit : Op := { mk with fn := "plane.Plane.fit_tilt", bind := [("self", 2)], res := none, inplace := true }
    let fitCopy : Op := { fit with inplace := false, res := some 3 }
    let s0 : State := { val := fun _ => 0, refs := fun _ => [], rng := 0, cache := fun _ => none }
    (run Gen.effTable s0 [mk, fit]).val 1 = 7 ∧ (run Gen.effTable s0 [mk, fit]).val 0 = 0 ∧ (run Gen.effTable s0 [mk]).val 1 = 0 ∧
      (run Gen.effTable s0 [mk, fitCopy]).val 1 = 0 := by
  decide +kernel

end Lentil.C10
