import LentilVerif.Lemmas.EnergyPlane
import LentilVerif.Lemmas.FourierWiring   -- the dft2 model = the wiring regenerated from fourier.py (theorem: C01.dft2_follows_source_wiring)
/-! # C05 — propagation conserves energy

At `K = ℂ`, `R = ℝ`. The propagators are the C02 model (`propagateField`, window kernel regenerated) and the
C09 model (`propagateFft`); `Model/Energy.lean` adds `intensity`, `arrSum`, `normalizePower` (factor regenerated) and the reference
power `embedAll`. "The FFT path is the centred unitary DFT" is C09 `fft_path_is_unitary_dft`, used through
`fft_sample_eq_fraunhoferAt`. -/
namespace Lentil.C05
open Lentil Finset

/-- intensity is never negative -/
theorem intensity_nonneg (F : Arr ℂ) (i j : ℤ) : 0 ≤ (intensity (R := ℝ) F).get i j :=
  Complex.normSq_nonneg _

/-- **normalize_power.** For an array with non-zero power and a target `p ≥ 0`, the normalised array has power `p`:
`Σ |a·√(p/Σ|a|²)|² = p`. -/
theorem normalize_power_power (a : Arr ℂ) (p : ℝ) (hp : 0 ≤ p) (ha : 0 < arrSum (intensity (R := ℝ) a)) :
    arrSum (intensity (R := ℝ) (normalizePower a p)) = p := by
  rw [arrSum_intensity_scaled a (normalizePower a p) (p / arrSum (intensity (R := ℝ) a)) rfl rfl fun i j => by
    rw [normalizePower_get, Complex.normSq_mul, Complex.normSq_ofReal, Real.mul_self_sqrt (div_nonneg hp ha.le)]]
  exact mul_div_cancel₀ _ ha.ne'

/-- **`normalize_power(array)` — the call that omits the target — yields unit power**: the default of `power` is regenerated from the
signature (`Gen.npDefaultPower`), so a changed default stops this proof instead of only moving a pin. -/
theorem normalize_power_default_power (a : Arr ℂ) (ha : 0 < arrSum (intensity (R := ℝ) a)) :
    arrSum (intensity (R := ℝ) (normalizePowerDefault (R := ℝ) a)) = 1 := by
  have h := normalize_power_power a 1 zero_le_one ha
  simpa [normalizePowerDefault, Gen.npDefaultPower, RealLike.ofInt] using h

/-- **normalize_power does not depend on the scale of its input** (no tolerance, no "already normalised" shortcut): multiplying
the amplitude by any `c > 0` — nano-scale or giga-scale units alike — gives exactly the same normalised array, for every
target power. Together with `normalize_power_power` (power exactly `p` for every non-zero input power, however close to `p` it
already is) this is what a tolerance-guarded early return violates. -/
theorem normalize_power_scale_invariant (a : Arr ℂ) (p c : ℝ) (hc : 0 < c) (i j : ℤ) :
    (normalizePower { a with get := fun i j => (c : ℂ) * a.get i j } p).get i j = (normalizePower a p).get i j := by
  have hS := arrSum_intensity_scaled a { a with get := fun i j => (c : ℂ) * a.get i j } (c * c) rfl rfl fun i j => by
    rw [Complex.normSq_mul, Complex.normSq_ofReal, mul_comm]
  -- `√(p / (S·c²)) = √(p / S) / c` cancels the factor `c` of the input
  rw [normalizePower_get, normalizePower_get, hS, ← div_div, Real.sqrt_div' _ (mul_self_nonneg c), Real.sqrt_mul_self hc.le]
  have hc' : (c : ℂ) ≠ 0 := by exact_mod_cast hc.ne'
  push_cast
  field_simp

/-- `ha` of the `normalize_power` theorems is met -/
example : ∃ a : Arr ℂ, 0 < arrSum (intensity (R := ℝ) a) :=
  ⟨⟨1, 1, fun _ _ => 1⟩, by simp [arrSum, intensity, sumRange, NormSqLike.normSq]⟩

/-- **full-period energy.** Input `m × n`, sampling `α = (1/K, 1/L)` with `K ≥ m`, `L ≥ n` (`K ≠ L` allowed), output
grid `K × L` (one period), unitary normalisation, any integer offset and real shift: `Σ|F|² = Σ|f|²`. -/
theorem dft_full_period_energy (f : Arr ℂ) (m n : ℕ) (hm : f.s0 = m) (hn : f.s1 = n) (K L : ℕ) (hK : 0 < K) (hL : 0 < L)
    (hmK : m ≤ K) (hnL : n ≤ L) (shr shc : ℝ) (offr offc : ℤ) :
    arrSum (intensity (R := ℝ) (dft2 f (1 / (K : ℝ)) (1 / (L : ℝ)) K L shr shc offr offc true))
      = arrSum (intensity (R := ℝ) f) := by
  rw [arrSum_intensity, arrSum_intensity, dft2C_s0, dft2C_s1, hm, hn]
  exact dft2_energy f m n hm hn K L hK hL hmK hnL shr shc offr offc

/-! ## over the C02 propagation model (generated window kernel), for any number of fields -/

/-- **the samples `propagate_dft` produces are `fieldAt`.** For tilt-free fields, any output extent (whole array or the
bounding box of a mask) and any propagation shape, the fields built by the loop body of `propagate_dft` — C02's
`propagateField` over the window kernel `Gen.dftWindow` regenerated from `propagate.py` — sum, at plane coordinate `(r, c)`, to
the `fieldAt` the energy theorems are about inside `out_extent ∩ prop_extent`, and to `0` outside. -/
theorem propagate_dft_samples (fs : List (Fld ℂ)) (αr αc : ℝ) (oe : Extent) (P0 P1 : ℤ)
    (hoe : oe.rmin ≤ oe.rmax ∧ oe.cmin ≤ oe.cmax) (hP : 0 < P0 ∧ 0 < P1) (r c : ℤ) :
    (fs.map fun f => embO (propagateField (⟨f, 0, 0, 0, 0⟩ : TField ℂ ℝ) αr αc oe P0 P1) r c).sum
      = if oe.inb r c && (propExtent P0 P1 0 0).inb r c then fieldAt fs αr αc r c else 0 := by
  rw [propagateField_sum_sample fs αr αc 0 0 0 0 oe P0 P1 hoe hP, fieldAt_eq_fieldAtR]
  simp only [sub_zero]

/-- **energy of a propagated wavefront, any number of fields.** All fields lie on an `S0 × S1` canvas (the wavefront's
shape) with `S0 ≤ K`, `S1 ≤ L`, sampling `α = (1/K, 1/L)`. For every finite set `B` of output sample coordinates inside one
period — whatever output extent, mask box and propagation shape selected them — the intensity `|Σ fields|²` of the C02
model summed over `B` is at most the input power `Σ|total field on the canvas|²`; over the whole period, when the window
covers it, it equals the input power. (`Wavefront.intensity = |Wavefront.field|²`: C07; merged fields keep the total: C06.) -/
theorem propagate_dft_energy (fs : List (Fld ℂ)) (S0 S1 K L : ℕ) (hfit : ∀ f ∈ fs, Fits f S0 S1) (hK : 0 < K) (hL : 0 < L)
    (hS0 : S0 ≤ K) (hS1 : S1 ≤ L) (oe : Extent) (P0 P1 : ℤ) (hoe : oe.rmin ≤ oe.rmax ∧ oe.cmin ≤ oe.cmax) (hP : 0 < P0 ∧ 0 < P1)
    (B : Finset (ℤ × ℤ)) (hB : B ⊆ periodBox K L) :
    ∑ p ∈ B, Complex.normSq
        ((fs.map fun f => embO (propagateField (⟨f, 0, 0, 0, 0⟩ : TField ℂ ℝ) (1 / (K : ℝ)) (1 / (L : ℝ)) oe P0 P1) p.1 p.2).sum)
      ≤ arrSum (intensity (R := ℝ) (embedAll fs S0 S1)) ∧
    ((∀ p ∈ periodBox K L, (oe.inb p.1 p.2 && (propExtent P0 P1 0 0).inb p.1 p.2) = true) →
      ∑ p ∈ periodBox K L, Complex.normSq
        ((fs.map fun f => embO (propagateField (⟨f, 0, 0, 0, 0⟩ : TField ℂ ℝ) (1 / (K : ℝ)) (1 / (L : ℝ)) oe P0 P1) p.1 p.2).sum)
      = arrSum (intensity (R := ℝ) (embedAll fs S0 S1))) := by
  refine ⟨le_trans (sum_le_sum fun p _ => ?_) (fieldAt_energy_le fs S0 S1 K L hfit hK hL hS0 hS1 B hB),
    propagate_dft_energy_eq fs S0 S1 K L hfit hK hL hS0 hS1 oe P0 P1 hoe hP⟩
  rw [propagate_dft_samples fs _ _ oe P0 P1 hoe hP]
  split_ifs
  · exact le_refl _
  · simp [Complex.normSq_nonneg]

/-- **nested windows of two calls.** Two calls of `propagate_dft` on the same fields and sampling whose evaluated windows
(`out_extent ∩ prop_extent`: whole array or mask box, any propagation shapes) are nested — every plane coordinate the first call
evaluates, the second evaluates too. Then over *any* finite set `B` of plane coordinates (in particular the whole first window,
or the whole second one) the first call's intensity is non-negative and at most the second's: inside the first window both
calls hold the same samples, outside it the first holds zero. With `propagate_dft_energy` (`B` inside one period):
`0 ≤ E(W₁) ≤ E(W₂) ≤ input power`. -/
theorem propagate_dft_nested_windows (fs : List (Fld ℂ)) (αr αc : ℝ) (oe oe' : Extent) (P0 P1 P0' P1' : ℤ)
    (hoe : oe.rmin ≤ oe.rmax ∧ oe.cmin ≤ oe.cmax) (hP : 0 < P0 ∧ 0 < P1)
    (hoe' : oe'.rmin ≤ oe'.rmax ∧ oe'.cmin ≤ oe'.cmax) (hP' : 0 < P0' ∧ 0 < P1')
    (hsub : ∀ r c, (oe.inb r c && (propExtent P0 P1 0 0).inb r c) = true →
      (oe'.inb r c && (propExtent P0' P1' 0 0).inb r c) = true)
    (B : Finset (ℤ × ℤ)) :
    0 ≤ ∑ p ∈ B, Complex.normSq ((fs.map fun f => embO (propagateField (⟨f, 0, 0, 0, 0⟩ : TField ℂ ℝ) αr αc oe P0 P1) p.1 p.2).sum) ∧
    ∑ p ∈ B, Complex.normSq ((fs.map fun f => embO (propagateField (⟨f, 0, 0, 0, 0⟩ : TField ℂ ℝ) αr αc oe P0 P1) p.1 p.2).sum)
      ≤ ∑ p ∈ B, Complex.normSq ((fs.map fun f => embO (propagateField (⟨f, 0, 0, 0, 0⟩ : TField ℂ ℝ) αr αc oe' P0' P1') p.1 p.2).sum) := by
  refine ⟨sum_nonneg fun _ _ => Complex.normSq_nonneg _, sum_le_sum fun p _ => ?_⟩
  rw [propagate_dft_samples fs αr αc oe P0 P1 hoe hP, propagate_dft_samples fs αr αc oe' P0' P1' hoe' hP']
  by_cases h : (oe.inb p.1 p.2 && (propExtent P0 P1 0 0).inb p.1 p.2) = true
  · rw [if_pos h, if_pos (hsub _ _ h)]
  · rw [if_neg h]; simp [Complex.normSq_nonneg]

/-- the hypothesis is satisfiable by two genuinely different calls: a 3 × 3 mask box inside a 5 × 5 one, both inside an 8 × 8
propagation shape -/
example : ∃ (oe oe' : Extent) (P : ℤ), oe ≠ oe' ∧ ∀ r c, (oe.inb r c && (propExtent P P 0 0).inb r c) = true →
    (oe'.inb r c && (propExtent P P 0 0).inb r c) = true :=
  ⟨⟨-1, 1, -1, 1⟩, ⟨-2, 2, -2, 2⟩, 8, by decide, by
    intro r c h
    simp only [Bool.and_eq_true, Extent.inb_iff] at h ⊢
    omega⟩

/-- **the whole chain for nested windows: `0 ≤ E(W₁) ≤ E(W₂) ≤ input power`.** Two calls of `propagate_dft` on the same tilt-free
fields on the wavefront canvas, commensurate sampling `α = (1/K, 1/L)` with `K, L ≥` canvas, nested evaluated windows, and any
set `B` of plane coordinates inside one period: the first call's energy over `B` is non-negative, at most the second's, and the
second's is at most the input power `Σ|total field|²` (`propagate_dft_nested_windows` composed with `propagate_dft_energy`). -/
theorem propagate_dft_nested_windows_le_input_power (fs : List (Fld ℂ)) (S0 S1 K L : ℕ) (hfit : ∀ f ∈ fs, Fits f S0 S1)
    (hK : 0 < K) (hL : 0 < L) (hS0 : S0 ≤ K) (hS1 : S1 ≤ L) (oe oe' : Extent) (P0 P1 P0' P1' : ℤ)
    (hoe : oe.rmin ≤ oe.rmax ∧ oe.cmin ≤ oe.cmax) (hP : 0 < P0 ∧ 0 < P1)
    (hoe' : oe'.rmin ≤ oe'.rmax ∧ oe'.cmin ≤ oe'.cmax) (hP' : 0 < P0' ∧ 0 < P1')
    (hsub : ∀ r c, (oe.inb r c && (propExtent P0 P1 0 0).inb r c) = true →
      (oe'.inb r c && (propExtent P0' P1' 0 0).inb r c) = true)
    (B : Finset (ℤ × ℤ)) (hB : B ⊆ periodBox K L) :
    0 ≤ ∑ p ∈ B, Complex.normSq
        ((fs.map fun f => embO (propagateField (⟨f, 0, 0, 0, 0⟩ : TField ℂ ℝ) (1 / (K : ℝ)) (1 / (L : ℝ)) oe P0 P1) p.1 p.2).sum) ∧
    ∑ p ∈ B, Complex.normSq
        ((fs.map fun f => embO (propagateField (⟨f, 0, 0, 0, 0⟩ : TField ℂ ℝ) (1 / (K : ℝ)) (1 / (L : ℝ)) oe P0 P1) p.1 p.2).sum)
      ≤ ∑ p ∈ B, Complex.normSq
        ((fs.map fun f => embO (propagateField (⟨f, 0, 0, 0, 0⟩ : TField ℂ ℝ) (1 / (K : ℝ)) (1 / (L : ℝ)) oe' P0' P1') p.1 p.2).sum) ∧
    ∑ p ∈ B, Complex.normSq
        ((fs.map fun f => embO (propagateField (⟨f, 0, 0, 0, 0⟩ : TField ℂ ℝ) (1 / (K : ℝ)) (1 / (L : ℝ)) oe' P0' P1') p.1 p.2).sum)
      ≤ arrSum (intensity (R := ℝ) (embedAll fs S0 S1)) :=
  ⟨(propagate_dft_nested_windows fs _ _ oe oe' P0 P1 P0' P1' hoe hP hoe' hP' hsub B).1,
   (propagate_dft_nested_windows fs _ _ oe oe' P0 P1 P0' P1' hoe hP hoe' hP' hsub B).2,
   (propagate_dft_energy fs S0 S1 K L hfit hK hL hS0 hS1 oe' P0' P1' hoe' hP' B hB).1⟩

/-- **nested sets of output samples of one call capture nested energies** (over the C02 model, any fields, any window
parameters) — monotonicity in the summation set; for nested windows of two calls see `propagate_dft_nested_windows`. -/
theorem propagate_dft_energy_monotone (fs : List (Fld ℂ)) (αr αc : ℝ) (oe : Extent) (P0 P1 : ℤ) (B B' : Finset (ℤ × ℤ)) (h : B ⊆ B') :
    ∑ p ∈ B, Complex.normSq ((fs.map fun f => embO (propagateField (⟨f, 0, 0, 0, 0⟩ : TField ℂ ℝ) αr αc oe P0 P1) p.1 p.2).sum)
      ≤ ∑ p ∈ B', Complex.normSq ((fs.map fun f => embO (propagateField (⟨f, 0, 0, 0, 0⟩ : TField ℂ ℝ) αr αc oe P0 P1) p.1 p.2).sum) :=
  sum_le_sum_of_subset_of_nonneg h (fun _ _ _ => Complex.normSq_nonneg _)

/-- **the FFT propagator conserves energy, end to end.** Whenever `propagate_fft` answers (C09 model `propagateFft`: `_fft_shape`,
zero padding or scratch insertion, `_fft2`, crop to the requested shape) on an isotropic sampling, for any number of fields
on the wavefront canvas `W0 × W1` no larger than the grid: the intensity `|Wavefront.field|²` summed over the returned
`so.1 × so.2` samples is at most the input power `Σ|total field|²`, and equals it when the whole grid is returned. Composition of
C09 `fft_sample_eq_fraunhoferAt` (every returned sample is the wavefront's far field at the sample's coordinate, at the reported
wavelength, α = 1/S) with the plane-energy bound. -/
theorem propagate_fft_energy (fs : List (Fld ℂ)) (W0 W1 : ℕ) (dx0 dx1 du0 du1 wl z : ℝ) (os : ℤ)
    (shape : Option (ℤ × ℤ)) (scratch : Option (Arr ℂ)) (lam : ℝ) (S0 S1 : ℤ) (so : ℤ × ℤ) (g : Fld ℂ)
    (h : propagateFft 1 fs false W0 W1 dx0 dx1 du0 du1 wl z os shape scratch = FftOut.ok lam S0 S1 so g)
    (hiso : dx0 * du0 = dx1 * du1) (hp : dx0 * du0 ≠ 0) (hz : z ≠ 0) (hos : 0 < os) (hS : 0 < S0 ∧ 0 < S1)
    (hW : (W0 : ℤ) ≤ S0 ∧ (W1 : ℤ) ≤ S1) (hfit : ∀ f ∈ fs, f.within W0 W1)
    (hpos : ∀ f ∈ fs, 0 < f.arr.s0 ∧ 0 < f.arr.s1) (hso : 0 < so.1 ∧ 0 < so.2) :
    ∑ i ∈ range so.1.toNat, ∑ j ∈ range so.2.toNat, Complex.normSq ((wavefrontField 1 [g] so.1 so.2).get i j)
      ≤ arrSum (intensity (R := ℝ) (embedAll fs W0 W1)) ∧
    (so = (S0, S1) →
      ∑ i ∈ range so.1.toNat, ∑ j ∈ range so.2.toNat, Complex.normSq ((wavefrontField 1 [g] so.1 so.2).get i j)
        = arrSum (intensity (R := ℝ) (embedAll fs W0 W1))) :=
  propagate_fft_energy_aux fs W0 W1 dx0 dx1 du0 du1 wl z os shape scratch lam S0 S1 so g h hiso hp hz hos hS hW hfit hpos hso

/-- **the FFT propagator conserves energy on non-square grids too.** Same statement as `propagate_fft_energy` under C09's weaker
condition: isotropic `dx·du`, *or* a grid consistent with the two samplings, `S0·dx0·du0 = S1·dx1·du1` (then `α = (1/S0, 1/S1)` at
the reported wavelength, `S0 ≠ S1` allowed). -/
theorem propagate_fft_energy_consistent (fs : List (Fld ℂ)) (W0 W1 : ℕ) (dx0 dx1 du0 du1 wl z : ℝ) (os : ℤ)
    (shape : Option (ℤ × ℤ)) (scratch : Option (Arr ℂ)) (lam : ℝ) (S0 S1 : ℤ) (so : ℤ × ℤ) (g : Fld ℂ)
    (h : propagateFft 1 fs false W0 W1 dx0 dx1 du0 du1 wl z os shape scratch = FftOut.ok lam S0 S1 so g)
    (hcons : dx0 * du0 = dx1 * du1 ∨ (S0 : ℝ) * (dx0 * du0) = (S1 : ℝ) * (dx1 * du1))
    (hp : dx0 * du0 ≠ 0) (hp1 : dx1 * du1 ≠ 0) (hz : z ≠ 0) (hos : 0 < os) (hS : 0 < S0 ∧ 0 < S1)
    (hW : (W0 : ℤ) ≤ S0 ∧ (W1 : ℤ) ≤ S1) (hfit : ∀ f ∈ fs, f.within W0 W1)
    (hpos : ∀ f ∈ fs, 0 < f.arr.s0 ∧ 0 < f.arr.s1) (hso : 0 < so.1 ∧ 0 < so.2) :
    ∑ i ∈ range so.1.toNat, ∑ j ∈ range so.2.toNat, Complex.normSq ((wavefrontField 1 [g] so.1 so.2).get i j)
      ≤ arrSum (intensity (R := ℝ) (embedAll fs W0 W1)) ∧
    (so = (S0, S1) →
      ∑ i ∈ range so.1.toNat, ∑ j ∈ range so.2.toNat, Complex.normSq ((wavefrontField 1 [g] so.1 so.2).get i j)
        = arrSum (intensity (R := ℝ) (embedAll fs W0 W1))) :=
  propagate_fft_energy_cons fs W0 W1 dx0 dx1 du0 du1 wl z os shape scratch lam S0 S1 so g h hcons hp hp1 hz hos hS hW hfit hpos hso

/-- non-vacuity of `propagate_fft_energy` *with its equality clause*: the plain call (no shape, no scratch) of a 2 × 2 field on the
isotropic sampling `dx = du = 1/2` is accepted with grid and output `4 × 4`, and every hypothesis of the theorem is discharged for it —
so "exactly the input power on the full grid" is a statement about a real instance -/
example (lam : ℝ) (g : Fld ℂ)
    (h : propagateFft (K := ℂ) (R := ℝ) 1 [⟨⟨2, 2, fun i j => (i + 2 * j + 1 : ℤ)⟩, 0, 0⟩] false 2 2 (1/2) (1/2) (1/2) (1/2) 1 1 1
      none none = FftOut.ok lam 4 4 (4, 4) g) :=
  (propagate_fft_energy [⟨⟨2, 2, fun i j => (i + 2 * j + 1 : ℤ)⟩, 0, 0⟩] 2 2 (1/2) (1/2) (1/2) (1/2) 1 1 1 none none lam 4 4 (4, 4) g h
    rfl (by norm_num) (by norm_num) (by norm_num) (by decide) (by decide)
    (List.forall_mem_singleton.mpr (by simp only [Fld.within, Fld.extent, arrayExtent_eq]; decide))
    (List.forall_mem_singleton.mpr (by decide))
    (by decide)).2 rfl

/-- non-vacuity of `propagate_fft_energy_consistent` beyond the isotropic case: explicit `shape=(1, 2)`, a dirty 5 × 9 scratch buffer and
per-axis sampling `du = (1/2, 1/4)` (grid `4 × 8`, `S0·dx0·du0 = S1·dx1·du1` while `dx0·du0 ≠ dx1·du1`; the call is accepted: C09) —
every hypothesis is discharged and the cropped output holds at most the input power -/
example (lam : ℝ) (g : Fld ℂ)
    (h : propagateFft (K := ℂ) (R := ℝ) 1 [⟨⟨2, 2, fun i j => (i + 2 * j + 1 : ℤ)⟩, 0, 0⟩] false 2 2 (1/2) (1/2) (1/2) (1/4) 1 1 1
      (some (1, 2)) (some ⟨5, 9, fun _ _ => 3⟩) = FftOut.ok lam 4 8 (1, 2) g) :=
  (propagate_fft_energy_consistent [⟨⟨2, 2, fun i j => (i + 2 * j + 1 : ℤ)⟩, 0, 0⟩] 2 2 (1/2) (1/2) (1/2) (1/4) 1 1 1 (some (1, 2))
    (some ⟨5, 9, fun _ _ => 3⟩) lam 4 8 (1, 2) g h (Or.inr (by norm_num)) (by norm_num) (by norm_num) (by norm_num) (by decide)
    (by decide) (by decide)
    (List.forall_mem_singleton.mpr (by simp only [Fld.within, Fld.extent, arrayExtent_eq]; decide))
    (List.forall_mem_singleton.mpr (by decide))
    (by decide)).1

/-- **several fields transform like the wavefront's total field** (linearity + zero-padded embedding): the statement that lets the
single-array theorems above speak about segmented pupils -/
theorem fields_transform_as_total (fs : List (Fld ℂ)) (S0 S1 : ℕ) (hfit : ∀ f ∈ fs, Fits f S0 S1) (αr αc : ℝ) (U V : ℤ) :
    fieldAt fs αr αc U V = fieldAt [canvasFld fs S0 S1] αr αc U V := by
  rw [fieldAt_eq_fieldAtR, fieldAt_eq_fieldAtR, fieldAtR_eq_canvas fs S0 S1 hfit, fieldAtR_singleton]

/-- `hfit` of `fields_transform_as_total` is met by a list of two fields -/
example : ∃ (fs : List (Fld ℂ)) (S0 S1 : ℕ), fs.length = 2 ∧ ∀ f ∈ fs, Fits f S0 S1 :=
  ⟨[⟨⟨1, 2, fun _ _ => 1⟩, 1, 0⟩, ⟨⟨2, 1, fun _ _ => 2⟩, -1, 1⟩], 4, 4, rfl, List.forall_mem_cons.mpr
    ⟨⟨1, 2, rfl, rfl, by norm_num, by norm_num⟩, List.forall_mem_singleton.mpr ⟨2, 1, rfl, rfl, by norm_num, by norm_num⟩⟩⟩

/-- **a tilted field keeps its energy over the (displaced) period.** One field with any tilt shift `fix + sub` (integer plus
sub-pixel part), propagation shape = one period `K × L`, output extent containing the displaced propagation extent: the
intensity summed over that extent equals the field's power — the period moves with the tilt and the sub-pixel part sits in the
kernel, neither changes the energy. -/
theorem tilted_field_period_energy (t : TField ℂ ℝ) (m n : ℕ) (hm : t.fld.arr.s0 = m) (hn : t.fld.arr.s1 = n) (K L : ℕ)
    (hK : 0 < K) (hL : 0 < L) (hmK : m ≤ K) (hnL : n ≤ L) (oe : Extent) (hoe : oe.rmin ≤ oe.rmax ∧ oe.cmin ≤ oe.cmax)
    (hcover : ∀ r c, (propExtent K L t.fix0 t.fix1).inb r c = true → oe.inb r c = true) :
    ∑ u ∈ range K, ∑ v ∈ range L, Complex.normSq
        (embO (propagateField t (1 / (K : ℝ)) (1 / (L : ℝ)) oe K L) (-((K : ℤ) / 2) + t.fix0 + u) (-((L : ℤ) / 2) + t.fix1 + v))
      = arrSum (intensity (R := ℝ) t.fld.arr) := by
  obtain ⟨f, fix0, fix1, sub0, sub1⟩ := t
  rw [← fraunhoferAt_period_energy f m n hm hn K L hK hL hmK hnL (((-((K : ℤ) / 2) : ℤ) : ℝ) - sub0) (((-((L : ℤ) / 2) : ℤ) : ℝ) - sub1)]
  refine sum_congr rfl fun u hu => sum_congr rfl fun v hv => ?_
  rw [← fieldAtR_singleton, ← propagateField_sum_displaced [f] _ _ K L fix0 fix1 sub0 sub1 oe hoe hcover u v (mem_range.mp hu)
    (mem_range.mp hv), List.map_singleton, List.sum_singleton]

/-- **fields sharing one tilt keep their energy over the displaced period**, any number of fields on the wavefront canvas (a tilted
segmented pupil): with propagation shape one period `K × L` and an output extent containing the displaced propagation extent,
the intensity `|Σ fields|²` of the C02 model summed over that extent equals the input power `Σ|total field|²`. -/
theorem common_tilt_period_energy (fs : List (Fld ℂ)) (S0 S1 K L : ℕ) (hfit : ∀ f ∈ fs, Fits f S0 S1) (hK : 0 < K) (hL : 0 < L)
    (hS0 : S0 ≤ K) (hS1 : S1 ≤ L) (fix0 fix1 : ℤ) (sub0 sub1 : ℝ) (oe : Extent) (hoe : oe.rmin ≤ oe.rmax ∧ oe.cmin ≤ oe.cmax)
    (hcover : ∀ r c, (propExtent K L fix0 fix1).inb r c = true → oe.inb r c = true) :
    ∑ u ∈ range K, ∑ v ∈ range L, Complex.normSq
        ((fs.map fun f => embO (propagateField (⟨f, fix0, fix1, sub0, sub1⟩ : TField ℂ ℝ) (1 / (K : ℝ)) (1 / (L : ℝ)) oe K L)
          (-((K : ℤ) / 2) + fix0 + u) (-((L : ℤ) / 2) + fix1 + v)).sum)
      = arrSum (intensity (R := ℝ) (embedAll fs S0 S1)) := by
  rw [← fieldAtR_period_energy fs S0 S1 K L hfit hK hL hS0 hS1 (((-((K : ℤ) / 2) : ℤ) : ℝ) - sub0) (((-((L : ℤ) / 2) : ℤ) : ℝ) - sub1)]
  exact sum_congr rfl fun u hu => sum_congr rfl fun v hv => by
    rw [propagateField_sum_displaced fs _ _ K L fix0 fix1 sub0 sub1 oe hoe hcover u v (mem_range.mp hu) (mem_range.mp hv)]

/-- **a pupil images to its amplitude·mask power** ("an amplitude with power p images to total p"). The fresh wavefront
(`unitField`) multiplied by a pupil plane — `Plane.multiply` as modelled and proved in C07, monolithic mask with a bounding box of
more than one pixel, any OPD, any wavelength — and propagated over one full period `K × L ≥` plane shape gives an image whose
total is `Σ_mask |amplitude|²`: the phase factor has modulus 1 and the transform is unitary. With `normalize_power_power`
(`Σ|normalize_power(a, p)|² = p`) this is the clause "a normalised amplitude images to total p"; segmented masks reduce to
this one by C03 `segmented_eq_monolithic_end_to_end`. -/
theorem pupil_images_to_amplitude_power (wl : ℝ) (amp : Attr ℂ) (opd : Attr ℝ) (S0 S1 K L : ℕ) (g : Seg) (hc : g.covers S0 S1)
    (hbig : g.s.r0 < g.s.r1 ∧ g.s.c0 < g.s.c1 ∧ ¬ (g.s.r1 - g.s.r0 = 1 ∧ g.s.c1 - g.s.c0 = 1))
    (hK : 0 < K) (hL : 0 < L) (hS0 : S0 ≤ K) (hS1 : S1 ≤ L) (oe : Extent) (P0 P1 : ℤ)
    (hoe : oe.rmin ≤ oe.rmax ∧ oe.cmin ≤ oe.cmax) (hP : 0 < P0 ∧ 0 < P1)
    (hcover : ∀ q ∈ periodBox K L, (oe.inb q.1 q.2 && (propExtent P0 P1 0 0).inb q.1 q.2) = true) :
    ∑ q ∈ periodBox K L, Complex.normSq
        (((planeMultiply (planePh wl) ⟨amp, opd, .segs S0 S1 [g]⟩ [unitField]).map fun f =>
          embO (propagateField (⟨f, 0, 0, 0, 0⟩ : TField ℂ ℝ) (1 / (K : ℝ)) (1 / (L : ℝ)) oe P0 P1) q.1 q.2).sum)
      = ∑ i ∈ range S0, ∑ j ∈ range S1, (if g.m i j = true then Complex.normSq (amp.at i j) else 0) := by
  have hon := pupil_fields_on_canvas wl amp opd S0 S1 g hc hbig
  rw [propagate_dft_energy_eq _ S0 S1 K L (fun f hf => fits_of_within f S0 S1 (hon f hf).2 (hon f hf).1) hK hL hS0 hS1 oe P0 P1 hoe hP
    hcover, pupil_input_power wl amp opd S0 S1 g hc hbig]

/-- **a window of a commonly tilted wavefront captures no more than the input power.** Fields sharing one tilt `fix + sub`
(a tilted segmented pupil), propagation shape one period `K × L`, output extent containing the displaced propagation extent: over
any set `B` of samples of the displaced period (indexed `(u, v) ∈ [0, K) × [0, L)` from its first sample) the intensity
`|Σ fields|²` is non-negative and at most the input power `Σ|total field|²` — the "any smaller window" clause for tilted fields,
from `common_tilt_period_energy` and non-negativity of the summands. -/
theorem common_tilt_window_energy_le (fs : List (Fld ℂ)) (S0 S1 K L : ℕ) (hfit : ∀ f ∈ fs, Fits f S0 S1) (hK : 0 < K) (hL : 0 < L)
    (hS0 : S0 ≤ K) (hS1 : S1 ≤ L) (fix0 fix1 : ℤ) (sub0 sub1 : ℝ) (oe : Extent) (hoe : oe.rmin ≤ oe.rmax ∧ oe.cmin ≤ oe.cmax)
    (hcover : ∀ r c, (propExtent K L fix0 fix1).inb r c = true → oe.inb r c = true)
    (B : Finset (ℕ × ℕ)) (hB : B ⊆ range K ×ˢ range L) :
    0 ≤ ∑ q ∈ B, Complex.normSq
        ((fs.map fun f => embO (propagateField (⟨f, fix0, fix1, sub0, sub1⟩ : TField ℂ ℝ) (1 / (K : ℝ)) (1 / (L : ℝ)) oe K L)
          (-((K : ℤ) / 2) + fix0 + q.1) (-((L : ℤ) / 2) + fix1 + q.2)).sum) ∧
    ∑ q ∈ B, Complex.normSq
        ((fs.map fun f => embO (propagateField (⟨f, fix0, fix1, sub0, sub1⟩ : TField ℂ ℝ) (1 / (K : ℝ)) (1 / (L : ℝ)) oe K L)
          (-((K : ℤ) / 2) + fix0 + q.1) (-((L : ℤ) / 2) + fix1 + q.2)).sum)
      ≤ arrSum (intensity (R := ℝ) (embedAll fs S0 S1)) := by
  refine ⟨sum_nonneg fun _ _ => Complex.normSq_nonneg _, ?_⟩
  rw [← common_tilt_period_energy fs S0 S1 K L hfit hK hL hS0 hS1 fix0 fix1 sub0 sub1 oe hoe hcover, ← Finset.sum_product']
  exact sum_le_sum_of_subset_of_nonneg hB (fun _ _ _ => Complex.normSq_nonneg _)

theorem normalized_masked_power (a : Arr ℂ) (p : ℝ) (hp : 0 ≤ p) (S0 S1 : ℕ) (ha0 : a.s0 = S0) (ha1 : a.s1 = S1)
    (hpow : 0 < arrSum (intensity (R := ℝ) a)) (m : ℤ → ℤ → Bool) (hsupp : ∀ i j, m i j = false → a.get i j = 0) :
    ∑ i ∈ range S0, ∑ j ∈ range S1, (if m i j = true then Complex.normSq ((Attr.array (normalizePower a p)).at i j) else 0) = p := by
  rw [masked_power (normalizePower a p) S0 S1 ha0 ha1 m fun i j h => by rw [normalizePower_get, hsupp i j h, zero_mul]]
  exact normalize_power_power a p hp hpow

/-- **a normalised pupil images to total `p`** — the property's "and therefore images to total p" as one statement. The
amplitude is `normalize_power(a, p)` (factor regenerated from `util.py`) of an array `a` of the plane's shape with non-zero power
that vanishes outside the mask, `p ≥ 0`; the fresh wavefront times that pupil (C07 `Plane.multiply`, monolithic mask with a
bounding box of more than one pixel, any OPD and wavelength), propagated by the C02 model over one full period `K × L ≥` plane
shape, has image total exactly `p`. (Segmented masks: C03 `segmented_eq_monolithic_end_to_end`; the FFT path:
`normalized_pupil_images_to_p_fft`; segmented pupils here: oracle.) -/
theorem normalized_pupil_images_to_p (wl : ℝ) (a : Arr ℂ) (p : ℝ) (hp : 0 ≤ p) (opd : Attr ℝ) (S0 S1 K L : ℕ)
    (ha0 : a.s0 = S0) (ha1 : a.s1 = S1) (hpow : 0 < arrSum (intensity (R := ℝ) a)) (g : Seg) (hc : g.covers S0 S1)
    (hsupp : ∀ i j, g.m i j = false → a.get i j = 0)
    (hbig : g.s.r0 < g.s.r1 ∧ g.s.c0 < g.s.c1 ∧ ¬ (g.s.r1 - g.s.r0 = 1 ∧ g.s.c1 - g.s.c0 = 1))
    (hK : 0 < K) (hL : 0 < L) (hS0 : S0 ≤ K) (hS1 : S1 ≤ L) (oe : Extent) (P0 P1 : ℤ)
    (hoe : oe.rmin ≤ oe.rmax ∧ oe.cmin ≤ oe.cmax) (hP : 0 < P0 ∧ 0 < P1)
    (hcover : ∀ q ∈ periodBox K L, (oe.inb q.1 q.2 && (propExtent P0 P1 0 0).inb q.1 q.2) = true) :
    ∑ q ∈ periodBox K L, Complex.normSq
        (((planeMultiply (planePh wl) ⟨.array (normalizePower a p), opd, .segs S0 S1 [g]⟩ [unitField]).map fun f =>
          embO (propagateField (⟨f, 0, 0, 0, 0⟩ : TField ℂ ℝ) (1 / (K : ℝ)) (1 / (L : ℝ)) oe P0 P1) q.1 q.2).sum)
      = p := by
  rw [pupil_images_to_amplitude_power wl (.array (normalizePower a p)) opd S0 S1 K L g hc hbig hK hL hS0 hS1 oe P0 P1 hoe hP hcover]
  exact normalized_masked_power a p hp S0 S1 ha0 ha1 hpow g.m hsupp

/-- **a normalised pupil images to total `p` through the FFT propagator too.** The same pupil as in `normalized_pupil_images_to_p`
(amplitude `normalize_power(a, p)` vanishing outside a monolithic mask whose box spans more than one pixel, any OPD), the fresh
wavefront times it handed to `propagate_fft` (C09 model) at the same wavelength: whenever the call answers on a sampling that is
isotropic or consistent with its grid and returns the whole grid `G0 × G1 ≥` plane shape, the image total `Σ|Wavefront.field|²` is
exactly `p`. Composition of `propagate_fft_energy_consistent`, C07 `plane_multiply_exp` (through `pupil_input_power`) and
`normalize_power_power`; the fields' positions on the canvas are derived (`pupil_fields_on_canvas`), not assumed. -/
theorem normalized_pupil_images_to_p_fft (wl : ℝ) (a : Arr ℂ) (p : ℝ) (hp : 0 ≤ p) (opd : Attr ℝ) (S0 S1 : ℕ)
    (ha0 : a.s0 = S0) (ha1 : a.s1 = S1) (hpow : 0 < arrSum (intensity (R := ℝ) a)) (g : Seg) (hc : g.covers S0 S1)
    (hsupp : ∀ i j, g.m i j = false → a.get i j = 0)
    (hbig : g.s.r0 < g.s.r1 ∧ g.s.c0 < g.s.c1 ∧ ¬ (g.s.r1 - g.s.r0 = 1 ∧ g.s.c1 - g.s.c0 = 1))
    (dx0 dx1 du0 du1 z : ℝ) (os : ℤ) (shape : Option (ℤ × ℤ)) (scratch : Option (Arr ℂ)) (lam : ℝ) (G0 G1 : ℤ) (gout : Fld ℂ)
    (h : propagateFft 1 (planeMultiply (planePh wl) ⟨.array (normalizePower a p), opd, .segs S0 S1 [g]⟩ [unitField]) false S0 S1
      dx0 dx1 du0 du1 wl z os shape scratch = FftOut.ok lam G0 G1 (G0, G1) gout)
    (hcons : dx0 * du0 = dx1 * du1 ∨ (G0 : ℝ) * (dx0 * du0) = (G1 : ℝ) * (dx1 * du1))
    (hq : dx0 * du0 ≠ 0) (hq1 : dx1 * du1 ≠ 0) (hz : z ≠ 0) (hos : 0 < os) (hG : 0 < G0 ∧ 0 < G1)
    (hW : (S0 : ℤ) ≤ G0 ∧ (S1 : ℤ) ≤ G1) :
    ∑ i ∈ range G0.toNat, ∑ j ∈ range G1.toNat, Complex.normSq ((wavefrontField 1 [gout] G0 G1).get i j) = p := by
  have hon := pupil_fields_on_canvas wl (.array (normalizePower a p)) opd S0 S1 g hc hbig
  have hE := (propagate_fft_energy_consistent _ S0 S1 dx0 dx1 du0 du1 wl z os shape scratch lam G0 G1 (G0, G1) gout h hcons hq hq1 hz
    hos hG hW (fun f hf => (hon f hf).1) (fun f hf => (hon f hf).2) hG).2 rfl
  simp only at hE
  rw [hE, pupil_input_power wl (.array (normalizePower a p)) opd S0 S1 g hc hbig]
  exact normalized_masked_power a p hp S0 S1 ha0 ha1 hpow g.m hsupp

/-- the window hypothesis `hcover` of the period theorems is met by the plain call: whole output array `K × L`, propagation shape
`K × L` — the evaluated window is exactly one period -/
example (K L : ℕ) (hK : 0 < K) (hL : 0 < L) :
    ∀ q ∈ periodBox K L, ((arrayExtent K L 0 0).inb q.1 q.2 && (propExtent K L 0 0).inb q.1 q.2) = true := by
  intro q hq
  simp only [periodBox, Finset.mem_product, Finset.mem_Ico] at hq
  simp only [Bool.and_eq_true, Extent.inb_iff, propExtent, arrayExtent_eq]
  omega

/-- **fields carrying different tilts.** Every field `t` has its own shift `fix + sub`. Where every field's window covers one whole
period, the intensity `|Σ fields|²` of the C02 model summed over that period equals the power of the coherent sum of the *tilted*
input fields — each input multiplied by its own phase ramp `exp(2πi(αr·X·s_r + αc·Y·s_c))` (`rampFld`): differently tilted fields
interfere, so their untilted `Σ|field|²` is not the reference, but the propagation itself conserves energy. -/
theorem multi_tilt_period_energy (ts : List (TField ℂ ℝ)) (S0 S1 K L : ℕ) (hfit : ∀ t ∈ ts, Fits t.fld S0 S1) (hK : 0 < K) (hL : 0 < L)
    (hS0 : S0 ≤ K) (hS1 : S1 ≤ L) (oe : Extent) (P0 P1 : ℤ) (hoe : oe.rmin ≤ oe.rmax ∧ oe.cmin ≤ oe.cmax) (hP : 0 < P0 ∧ 0 < P1)
    (hcover : ∀ t ∈ ts, ∀ q ∈ periodBox K L, (oe.inb q.1 q.2 && (propExtent P0 P1 t.fix0 t.fix1).inb q.1 q.2) = true) :
    ∑ q ∈ periodBox K L, Complex.normSq
        ((ts.map fun t => embO (propagateField t (1 / (K : ℝ)) (1 / (L : ℝ)) oe P0 P1) q.1 q.2).sum)
      = arrSum (intensity (R := ℝ) (embedAll (ts.map fun t =>
          rampFld t.fld (1 / (K : ℝ)) (1 / (L : ℝ)) ((t.fix0 : ℝ) + t.sub0) ((t.fix1 : ℝ) + t.sub1)) S0 S1)) := by
  -- a ramp changes no shape and no offset, so the ramped fields lie on the canvas as well
  have hfit' : ∀ f ∈ ts.map (fun t => rampFld t.fld (1 / (K : ℝ)) (1 / (L : ℝ)) ((t.fix0 : ℝ) + t.sub0) ((t.fix1 : ℝ) + t.sub1)),
      Fits f S0 S1 := List.forall_mem_map.mpr hfit
  rw [← fieldAt_period_energy _ S0 S1 K L hfit' hK hL hS0 hS1]
  exact sum_congr rfl fun q hq => by
    rw [fieldAt_eq_fieldAtR, propagateField_sum_ramp ts _ _ oe P0 P1 hoe hP q.1 q.2 fun t ht => hcover t ht q hq]

/-- **a window of a wavefront whose fields carry different tilts captures no more than the power of the coherently summed ramped
inputs.** Under the hypotheses of `multi_tilt_period_energy` (every field's window covers the period), over any set `B` of plane
coordinates inside the period the intensity `|Σ fields|²` is non-negative and at most that reference power. -/
theorem multi_tilt_window_energy_le (ts : List (TField ℂ ℝ)) (S0 S1 K L : ℕ) (hfit : ∀ t ∈ ts, Fits t.fld S0 S1) (hK : 0 < K) (hL : 0 < L)
    (hS0 : S0 ≤ K) (hS1 : S1 ≤ L) (oe : Extent) (P0 P1 : ℤ) (hoe : oe.rmin ≤ oe.rmax ∧ oe.cmin ≤ oe.cmax) (hP : 0 < P0 ∧ 0 < P1)
    (hcover : ∀ t ∈ ts, ∀ q ∈ periodBox K L, (oe.inb q.1 q.2 && (propExtent P0 P1 t.fix0 t.fix1).inb q.1 q.2) = true)
    (B : Finset (ℤ × ℤ)) (hB : B ⊆ periodBox K L) :
    0 ≤ ∑ q ∈ B, Complex.normSq
        ((ts.map fun t => embO (propagateField t (1 / (K : ℝ)) (1 / (L : ℝ)) oe P0 P1) q.1 q.2).sum) ∧
    ∑ q ∈ B, Complex.normSq
        ((ts.map fun t => embO (propagateField t (1 / (K : ℝ)) (1 / (L : ℝ)) oe P0 P1) q.1 q.2).sum)
      ≤ arrSum (intensity (R := ℝ) (embedAll (ts.map fun t =>
          rampFld t.fld (1 / (K : ℝ)) (1 / (L : ℝ)) ((t.fix0 : ℝ) + t.sub0) ((t.fix1 : ℝ) + t.sub1)) S0 S1)) := by
  refine ⟨sum_nonneg fun _ _ => Complex.normSq_nonneg _, ?_⟩
  rw [← multi_tilt_period_energy ts S0 S1 K L hfit hK hL hS0 hS1 oe P0 P1 hoe hP hcover]
  exact sum_le_sum_of_subset_of_nonneg hB (fun _ _ _ => Complex.normSq_nonneg _)

/-- **`Wavefront.insert(out, weight)` of a propagated wavefront adds `weight ·` intensity, and over one period `weight ·` the input
power.** The output fields of `propagate_dft` (C02 model, any output extent / mask box / propagation shape, any number of tilt-free
fields) are accumulated into a caller's `K × L` array `acc` by the loop of `Wavefront.insert` as the wiring regenerated from
wavefront.py drives it (`viewRun Gen.insertWiring`: `reduce`, `intensity=True`, `weight=weight`, no fresh zeros; a call that does not
pass `weight` on would use `field.insert`'s default 1 — the statement is then false and the proof stops at `hv`) and by
`field.insert`'s regenerated accumulation statement (`out[…] += |data|²·weight`). The call always returns; the target keeps its
shape; every sample is its prior content plus `weight · |Σ fields|²` (coherent sum, not a sum of intensities); and when the evaluated
window covers the period the total added over the array is exactly `weight · Σ|input field|²`, whatever the accumulator held
(`acc` arbitrary, `w` any complex number — a real weight is the case the code documents). Positivity of the produced fields' shapes,
which `Wavefront.insert`'s `reduce` needs, is proved (`propagateField_pos`), not assumed. -/
theorem wavefront_insert_weighted_energy (fs : List (Fld ℂ)) (S0 S1 K L : ℕ) (hfit : ∀ f ∈ fs, Fits f S0 S1) (hK : 0 < K) (hL : 0 < L)
    (hS0 : S0 ≤ K) (hS1 : S1 ≤ L) (oe : Extent) (P0 P1 : ℤ) (hoe : oe.rmin ≤ oe.rmax ∧ oe.cmin ≤ oe.cmax) (hP : 0 < P0 ∧ 0 < P1)
    (acc : Arr ℂ) (hacc0 : acc.s0 = K) (hacc1 : acc.s1 = L) (w : ℂ) :
    ∃ acc', viewRun Gen.insertWiring 1 (fun z => ((Complex.normSq z : ℝ) : ℂ))
        (fs.filterMap fun f => propagateField (⟨f, 0, 0, 0, 0⟩ : TField ℂ ℝ) (1 / (K : ℝ)) (1 / (L : ℝ)) oe P0 P1) acc w = some acc' ∧
      acc'.s0 = K ∧ acc'.s1 = L ∧
      (∀ i j : ℤ, 0 ≤ i ∧ i < K → 0 ≤ j ∧ j < L → acc'.get i j = acc.get i j +
        ((Complex.normSq ((fs.map fun f => embO (propagateField (⟨f, 0, 0, 0, 0⟩ : TField ℂ ℝ) (1 / (K : ℝ)) (1 / (L : ℝ)) oe P0 P1)
            (i - (K : ℤ) / 2) (j - (L : ℤ) / 2)).sum) : ℝ) : ℂ) * w) ∧
      ((∀ p ∈ periodBox K L, (oe.inb p.1 p.2 && (propExtent P0 P1 0 0).inb p.1 p.2) = true) →
        ∑ i ∈ range K, ∑ j ∈ range L, (acc'.get i j - acc.get i j)
          = ((arrSum (intensity (R := ℝ) (embedAll fs S0 S1)) : ℝ) : ℂ) * w) := by
  have hpos : ∀ g ∈ fs.filterMap (fun f => propagateField (⟨f, 0, 0, 0, 0⟩ : TField ℂ ℝ) (1 / (K : ℝ)) (1 / (L : ℝ)) oe P0 P1),
      0 < g.arr.s0 ∧ 0 < g.arr.s1 :=
    List.forall_mem_filterMap.mpr fun _ _ g hf => propagateField_pos _ _ _ oe P0 P1 hoe hP g hf
  -- the loop as wavefront.py writes it (`Gen.insertWiring`, with `field.insert`'s own default weight 1 where the wiring passes none) is
  -- C07's `wfInsert`: this is where `weight=weight` of the regenerated call enters
  have hv : ∀ data : List (Fld ℂ), viewRun Gen.insertWiring 1 (fun z : ℂ => ((Complex.normSq z : ℝ) : ℂ)) data acc w
      = wfInsert 1 (fun z : ℂ => ((Complex.normSq z : ℝ) : ℂ)) data acc w := fun _ => rfl
  rw [hv]
  obtain ⟨acc', h, e0, e1, hget⟩ := C07.wavefront_insert_weight_total (fun z : ℂ => ((Complex.normSq z : ℝ) : ℂ)) (by simp) _ hpos acc w
  have hsample : ∀ i j : ℤ, 0 ≤ i ∧ i < K → 0 ≤ j ∧ j < L → acc'.get i j = acc.get i j +
        ((Complex.normSq ((fs.map fun f => embO (propagateField (⟨f, 0, 0, 0, 0⟩ : TField ℂ ℝ) (1 / (K : ℝ)) (1 / (L : ℝ)) oe P0 P1)
            (i - (K : ℤ) / 2) (j - (L : ℤ) / 2)).sum) : ℝ) : ℂ) * w := by
    intro i j hi hj
    rw [hget i j (by rw [hacc0]; exact hi) (by rw [hacc1]; exact hj), sumList_filterMap_emb, sumList_eq_sum, hacc0, hacc1]
  refine ⟨acc', h, by rw [e0, hacc0], by rw [e1, hacc1], hsample, ?_⟩
  intro hcover
  rw [← propagate_dft_energy_eq fs S0 S1 K L hfit hK hL hS0 hS1 oe P0 P1 hoe hP hcover,
    sum_periodBox fun r c => Complex.normSq
      ((fs.map fun f => embO (propagateField (⟨f, 0, 0, 0, 0⟩ : TField ℂ ℝ) (1 / (K : ℝ)) (1 / (L : ℝ)) oe P0 P1) r c).sum)]
  simp only [Complex.ofReal_sum, sum_mul]
  refine sum_congr rfl fun i hi => sum_congr rfl fun j hj => ?_
  have hi' := mem_range.mp hi
  have hj' := mem_range.mp hj
  rw [hsample i j ⟨by omega, by omega⟩ ⟨by omega, by omega⟩, neg_add_eq_sub, neg_add_eq_sub, add_sub_cancel_left]

/-- **the array `Wavefront.intensity` returns for a propagated wavefront sums to the input power.** The view as wavefront.py drives it
(`wfIntensity` = `viewRun Gen.intensityWiring`: fresh zeros of the output shape, `reduce`, `intensity=True`, `field.insert`'s default
weight — all regenerated) applied to the tilt-free output fields of `propagate_dft` on a `K × L` output array: it always returns, has
shape `K × L`, every sample is `|Σ fields|²` (coherent sum), and when the evaluated window covers the period the total of the array
is exactly `Σ|input field|²`. The property's headline clause as a statement about the array the caller gets (`propagate_dft_energy` is about the summed fields). -/
theorem wavefront_intensity_period_energy (fs : List (Fld ℂ)) (S0 S1 K L : ℕ) (hfit : ∀ f ∈ fs, Fits f S0 S1) (hK : 0 < K) (hL : 0 < L)
    (hS0 : S0 ≤ K) (hS1 : S1 ≤ L) (oe : Extent) (P0 P1 : ℤ) (hoe : oe.rmin ≤ oe.rmax ∧ oe.cmin ≤ oe.cmax) (hP : 0 < P0 ∧ 0 < P1) :
    ∃ I, wfIntensity 1 (fun z => ((Complex.normSq z : ℝ) : ℂ)) K L
        (fs.filterMap fun f => propagateField (⟨f, 0, 0, 0, 0⟩ : TField ℂ ℝ) (1 / (K : ℝ)) (1 / (L : ℝ)) oe P0 P1) = some I ∧
      I.s0 = K ∧ I.s1 = L ∧
      (∀ i j : ℤ, 0 ≤ i ∧ i < K → 0 ≤ j ∧ j < L → I.get i j =
        ((Complex.normSq ((fs.map fun f => embO (propagateField (⟨f, 0, 0, 0, 0⟩ : TField ℂ ℝ) (1 / (K : ℝ)) (1 / (L : ℝ)) oe P0 P1)
            (i - (K : ℤ) / 2) (j - (L : ℤ) / 2)).sum) : ℝ) : ℂ)) ∧
      ((∀ p ∈ periodBox K L, (oe.inb p.1 p.2 && (propExtent P0 P1 0 0).inb p.1 p.2) = true) →
        ∑ i ∈ range K, ∑ j ∈ range L, I.get i j = ((arrSum (intensity (R := ℝ) (embedAll fs S0 S1)) : ℝ) : ℂ)) := by
  -- `Wavefront.intensity` is `Wavefront.insert` into fresh zeros with weight 1: both wirings regenerated, the bridge is definitional
  have hv : ∀ data : List (Fld ℂ), wfIntensity 1 (fun z : ℂ => ((Complex.normSq z : ℝ) : ℂ)) K L data
      = viewRun Gen.insertWiring 1 (fun z : ℂ => ((Complex.normSq z : ℝ) : ℂ)) data (zerosArr K L) 1 := fun _ => rfl
  obtain ⟨I, h, e0, e1, hget, htot⟩ := wavefront_insert_weighted_energy fs S0 S1 K L hfit hK hL hS0 hS1 oe P0 P1 hoe hP
    (zerosArr K L) rfl rfl 1
  refine ⟨I, by rw [hv]; exact h, e0, e1, ?_, ?_⟩
  · intro i j hi hj
    rw [hget i j hi hj]; simp [zerosArr]
  · intro hcover
    have := htot hcover
    simpa [zerosArr] using this

end Lentil.C05
