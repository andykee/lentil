import LentilVerif.Lemmas.Units
import LentilVerif.Lemmas.Spectrum
/-! C14 — unit conversions are consistent; `Spectrum.to` preserves integrals/values; Planck's law is unit-independent.
`Gen.waveTo`, `Gen.fluxTo` are regenerated from lentil/radiometry.py on every run (decimal literals as exact rationals).
Statements over an arbitrary field of characteristic 0 hold in particular over ℚ (what the driver runs) and ℝ. -/
namespace Lentil.C14
open Gen Lentil.Units Lentil.Spec

/-- all 64 triples: converting A→B→C equals converting A→C -/
theorem wave_cocycle {K : Type} [Field K] [CharZero K] :
    ∀ a b c : WUnit, (waveTo a b : K) * waveTo b c = waveTo a c := waveTo_cocycle

/-- A→A is the identity -/
theorem wave_id {K : Type} [Field K] [CharZero K] : ∀ a : WUnit, (waveTo a a : K) = 1 := waveTo_self

/-- every round trip returns the original wavelength -/
theorem wave_round_trip {K : Type} [Field K] [CharZero K] :
    ∀ (a b : WUnit) (x : K), x * waveTo a b * waveTo b a = x := by
  intro a b x; rw [mul_assoc, waveTo_cocycle, waveTo_self, mul_one]

/-- the factors are positive (so conversion keeps a wavelength grid positive and strictly increasing) -/
theorem wave_factor_pos : ∀ a b : WUnit, (0 : ℚ) < waveTo a b := waveTo_pos

/-- all 27 flux triples, as identities of rational functions in flux, wave, H, C -/
theorem flux_cocycle {K : Type} [Field K] [CharZero K] (f w H C : K) (hw : w ≠ 0) (hH : H ≠ 0) (hC : C ≠ 0) :
    ∀ a b c : FUnit, fluxTo b c (fluxTo a b f w H C) w H C = fluxTo a c f w H C := by
  intro a b c
  simp only [fluxTo_eq hw hH hC]
  rw [div_mul_cancel₀ _ (wlamPer_ne_zero hw hH hC b)]

theorem flux_id {K : Type} [Field K] (f w H C : K) : ∀ a : FUnit, fluxTo a a f w H C = f := by
  intro a; cases a <;> rfl

theorem flux_round_trip {K : Type} [Field K] [CharZero K] (f w H C : K) (hw : w ≠ 0) (hH : H ≠ 0) (hC : C ≠ 0) :
    ∀ a b : FUnit, fluxTo b a (fluxTo a b f w H C) w H C = f := by
  intro a b; rw [flux_cocycle f w H C hw hH hC, flux_id]

/-- flux conversion is homogeneous of degree one in the flux (used for exitance = π·radiance) -/
theorem flux_homogeneous {K : Type} [Field K] [CharZero K] (p f w H C : K) :
    ∀ a b : FUnit, fluxTo a b (p * f) w H C = p * fluxTo a b f w H C := by
  intro a b; cases a <;> cases b <;> simp only [fluxTo] <;> ring

theorem flux_div {K : Type} [Field K] [CharZero K] (p f w H C : K) (a b : FUnit) :
    fluxTo a b (f / p) w H C = fluxTo a b f w H C / p := by
  rw [div_eq_inv_mul, flux_homogeneous, ← div_eq_inv_mul]

/-- `Spectrum.to(flux unit)` converts the density per metre at the wavelength in metres and brings the result back to the
spectrum's wavelength unit; by homogeneity the two factors cancel and only the wavelength is converted -/
theorem toFlux_closed (g : FUnit) (H C : ℚ) (s : USpec) : toFlux g H C s = s.vu.map fun f =>
    { s with value := List.zipWith (fun v w => fluxTo f g v (w * waveTo s.wu .m) H C) s.value s.wave, vu := some g } := by
  have h : ∀ (f : FUnit) (v w : ℚ), fluxTo f g (v / waveTo s.wu .m) (w * waveTo s.wu .m) H C / waveTo .m s.wu
      = fluxTo f g v (w * waveTo s.wu .m) H C := by
    intro f v w
    rw [flux_div, div_div, waveTo_cocycle, waveTo_self, div_one]
  rw [toFlux_eq]
  cases s.vu <;> simp only [Option.map_none, Option.map_some, h]

theorem toFlux_self (f : FUnit) (H C : ℚ) (s : USpec) (hf : s.vu = some f) (hl : s.value.length = s.wave.length) :
    toFlux f H C s = some s := by
  cases s with
  | mk wave value wu vu =>
    subst hf
    simp only [toFlux_closed, Option.map_some, flux_id, zipWith_fst value wave hl.le]

/-- `Spectrum.to(wave unit)` on a per-wavelength density: the trapezoid integral is unchanged -/
theorem spectrum_to_preserves_trapz_integral (s : USpec) (u : WUnit) (f : FUnit) (h : s.vu = some f) :
    trapz (toWave u s).wave (toWave u s).value = trapz s.wave s.value := by
  simp only [toWave_eq, h]
  exact trapz_scale _ (waveTo_ne_zero _ _) _ _

/-- `Spectrum.to(wave unit)` on a unitless spectrum: the values are unchanged, the wavelengths rescaled -/
theorem spectrum_to_preserves_values (s : USpec) (u : WUnit) (h : s.vu = none) :
    (toWave u s).value = s.value ∧ (toWave u s).wave = s.wave.map (· * waveTo s.wu u) ∧ (toWave u s).vu = none := by
  simp [toWave_eq, h]

/-- wavelength-unit conversions of a spectrum compose (A→B→C = A→C) and round trips restore it -/
theorem spectrum_to_wave_cocycle (s : USpec) (b c : WUnit) : toWave c (toWave b s) = toWave c s := toWave_toWave s b c

theorem spectrum_to_wave_round_trip (s : USpec) (u : WUnit) : toWave s.wu (toWave u s) = s := by
  rw [toWave_toWave, toWave_self]

/-- converting the wavelength unit keeps a valid grid valid (positive, strictly increasing): the `wave` setter, which the
model does not re-run, cannot refuse the converted grid -/
theorem toWave_valid (s : USpec) (u : WUnit) (h : validWave s.wave = true) : validWave (toWave u s).wave = true := by
  rw [toWave_wave]
  exact validWave_map_mul _ _ (waveTo_pos s.wu u) h

/-- flux-unit conversions of a spectrum compose: A→B→C = A→C at the level of `Spectrum.to` (non-zero wavelengths) -/
theorem spectrum_to_flux_cocycle (s s' : USpec) (f g h : FUnit) (H C : ℚ) (hH : H ≠ 0) (hC : C ≠ 0)
    (hf : s.vu = some f) (hw : ∀ w ∈ s.wave, w ≠ 0) (h1 : toFlux g H C s = some s') :
    toFlux h H C s' = toFlux h H C s := by
  simp only [toFlux_closed, hf, Option.map_some, Option.some.injEq] at h1
  subst h1
  simp only [toFlux_closed, hf, Option.map_some, Option.some.injEq]
  congr 1
  exact zipWith_comp _ _ _ (· ≠ 0)
    (fun v w hw' => flux_cocycle v _ H C (mul_ne_zero hw' (waveTo_ne_zero _ _)) hH hC f g h) s.value s.wave hw

/-- flux-unit round trips restore the spectrum (well-formed, non-zero wavelengths) -/
theorem spectrum_to_flux_round_trip (s s' s'' : USpec) (f g : FUnit) (H C : ℚ) (hH : H ≠ 0) (hC : C ≠ 0)
    (hf : s.vu = some f) (hl : s.value.length = s.wave.length) (hw : ∀ w ∈ s.wave, w ≠ 0)
    (h1 : toFlux g H C s = some s') (h2 : toFlux f H C s' = some s'') : s'' = s := by
  rw [spectrum_to_flux_cocycle s s' f g f H C hH hC hf hw h1, toFlux_self f H C s hf hl] at h2
  exact (Option.some.inj h2).symm

/-- a unitless spectrum cannot be given a flux unit: `toFlux` refuses (TypeError). (That the spectrum is left as the
previous arguments left it is `applyTo_refusal_keeps_prefix`; `toFlux` itself returns no state on refusal.) -/
theorem spectrum_to_flux_unitless_refused (s : USpec) (g : FUnit) (H C : ℚ) (h : s.vu = none) :
    toFlux g H C s = none := by simp [toFlux_eq, h]

/-- exitance = π × radiance in every wavelength and flux unit, between the two definitions translated separately from
`planck_exitance` and `planck_radiance` (`exp` uninterpreted): a slip in one of the two functions breaks this proof -/
theorem exitance_eq_pi_radiance {K : Type} [Field K] [CharZero K] (expf : K → K) (pi H C kB w T : K) :
    ∀ (wu : WUnit) (vu : FUnit),
      planckExitance expf pi H C kB w T wu vu = pi * planckRadiance expf pi H C kB w T wu vu := by
  intro wu vu
  cases vu <;> simp only [planckExitance, planckRadiance, fluxTo] <;> ring

/-- Planck's law describes the same physical quantity whichever wavelength unit is requested: the same physical
wavelength expressed in `u'` gives the density per `u'`, i.e. the density per `u` divided by the factor `u→u'` -/
theorem planck_unit_independent {K : Type} [Field K] [CharZero K] (expf : K → K) (pi H C kB w T : K) :
    ∀ (u u' : WUnit) (v : FUnit),
      planckRadiance expf pi H C kB (w * waveTo u u') T u' v = planckRadiance expf pi H C kB w T u v / waveTo u u' ∧
      planckExitance expf pi H C kB (w * waveTo u u') T u' v = planckExitance expf pi H C kB w T u v / waveTo u u' := by
  intro u u' v
  -- the wavelength in metres is the same, and "per u'" is "per u" divided by the factor u→u'
  have h : planckRadiance expf pi H C kB (w * waveTo u u') T u' v = planckRadiance expf pi H C kB w T u v / waveTo u u' := by
    rw [planckRadiance_eq, planckRadiance_eq, mul_assoc, waveTo_cocycle, ← waveTo_cocycle .m u u', div_div]
  exact ⟨h, by rw [exitance_eq_pi_radiance, exitance_eq_pi_radiance, h, mul_div_assoc]⟩

/-- … and whichever flux unit: converting the result in unit `v` back to `wlam` gives the `wlam` result -/
theorem planck_flux_unit_independent {K : Type} [Field K] [CharZero K] (expf : K → K) (pi H C kB w T : K)
    (hw : w ≠ 0) (hH : H ≠ 0) (hC : C ≠ 0) :
    ∀ (u : WUnit) (v : FUnit),
      fluxTo v .wlam (planckRadiance expf pi H C kB w T u v * waveTo .m u) (w * waveTo u .m) H C
        = planckRadiance expf pi H C kB w T u .wlam * waveTo .m u := by
  intro u v
  have h : ∀ x : K, x / waveTo .m u * waveTo .m u = x := fun x => div_mul_cancel₀ x (waveTo_ne_zero .m u)
  rw [planckRadiance_eq, planckRadiance_eq, h, h, flux_round_trip _ _ H C (mul_ne_zero hw (waveTo_ne_zero u .m)) hH hC]
  rfl

/-- `vegaflux` (translated from its own source lines: zero-point table, Jy → W m⁻² Hz⁻¹ → W m⁻² m⁻¹ → photons, unit split):
whatever (waveunit, valueunit) is requested, the flux is the (m, photlam) flux converted by the generated tables — per metre
to per `wu` and photlam to `vu` at the band's wavelength — and the wavelength is the band's wavelength in `wu` -/
theorem vegaflux_unit_consistent {K : Type} [Field K] [CharZero K] (H C : K) :
    ∀ (band : Band) (wu : WUnit) (vu : FUnit),
      (vegaflux H C band wu vu).1 = fluxTo .photlam vu (vegaflux H C band .m .photlam).1 (vegaWave band) H C / waveTo .m wu ∧
      (vegaflux H C band wu vu).2 = vegaWave band * waveTo .m wu := by
  intro band wu vu
  have h1 : (waveTo .m .m : K) = 1 := waveTo_self .m
  cases vu <;> simp only [vegaflux, fluxTo, h1, div_one, and_self]

/-! ### absolute anchors: the theorems above establish CONSISTENCY of the tables; these fix their absolute scale, so that a
self-consistently wrong table, constant or Planck formula breaks a theorem and not only the oracle -/

/-- every wavelength factor is the ratio of the SI sizes of the two units (with the cocycle this pins all 16 cells) -/
theorem wave_factor_absolute : ∀ a b : WUnit, (waveTo a b : ℚ) = metresPer a / metresPer b := by
  intro a b; rw [waveTo_eq, Rat.cast_id, Rat.cast_id]

/-- the flux conversions against their physical definitions: a photon of wavelength w carries h·c/w joules; 1 W m⁻² = 10³ erg s⁻¹ cm⁻² -/
theorem flux_factor_absolute {K : Type} [Field K] [CharZero K] (f w H C : K) :
    fluxTo .photlam .wlam f w H C = f * (H * C) / w ∧ fluxTo .wlam .flam f w H C = f * 1000 ∧
    fluxTo .flam .wlam f w H C = f / 1000 := by
  refine ⟨rfl, ?_, ?_⟩ <;> simp only [fluxTo, Nat.cast_ofNat, Nat.cast_one] <;> ring

/-- the module constants against CODATA 2018 (h = 6.62607015e-34 J s, c = 299792458 m/s, k = 1.380649e-23 J/K): equal to
1e-6 relative or better (h, k are the CODATA 2010 values; c = 299792456 is a typo for …458, 6.7e-9 off — noted) -/
theorem constants_near_codata :
    |(constH : ℚ) - 662607015 / 10 ^ 42| < (662607015 / 10 ^ 42) / 10 ^ 6 ∧
    |(constC : ℚ) - 299792458| < 299792458 / 10 ^ 6 ∧
    |(constK : ℚ) - 1380649 / 10 ^ 29| < (1380649 / 10 ^ 29) / 10 ^ 6 := by
  refine ⟨?_, ?_, ?_⟩ <;> norm_num [constH, constC, constK, abs_lt]

/-- the translated functions ARE Planck's law: in SI units (wavelength in metres, W m⁻² m⁻¹) the radiance is
2hc²/(λ⁵(exp(hc/(λkT)) − 1)) and the exitance 2πhc²/(…) — an edited exponent or constant in both functions stops this proof -/
theorem planck_closed_form {K : Type} [Field K] [CharZero K] (expf : K → K) (pi H C kB w T : K) :
    planckRadiance expf pi H C kB w T .m .wlam = 2 * H * C ^ 2 / (w ^ 5 * (expf (H * C / (w * kB * T)) - 1)) ∧
    planckExitance expf pi H C kB w T .m .wlam = 2 * pi * H * C ^ 2 / (w ^ 5 * (expf (H * C / (w * kB * T)) - 1)) := by
  have h : planckRadiance expf pi H C kB w T .m .wlam = 2 * H * C ^ 2 / (w ^ 5 * (expf (H * C / (w * kB * T)) - 1)) := by
    simp only [planckRadiance_eq, waveTo_self, mul_one, div_one, fluxTo, planckSI]; ring
  exact ⟨h, by rw [exitance_eq_pi_radiance, h]; ring⟩

/-- non-vacuity: 700 nm → µm on a `wlam` density, concrete numbers -/
example : toWave .um ⟨[500, 700], [2, 4], .nm, some .wlam⟩ = ⟨[1/2, 7/10], [2000, 4000], .um, some .wlam⟩ := by
  decide +kernel

example : trapz [500, 700] [2, 4] = 600 ∧ trapz [1/2, 7/10] [2000, 4000] = (600 : ℚ) := by
  decide +kernel

/-! ### `Spectrum.to(*units)` for ARBITRARY argument lists -/

/-- arguments compose: `to(*l₁, *l₂)` is `to(*l₁)` followed — when nothing was refused — by `to(*l₂)`; after a refusal in `l₁`
the remaining arguments are not looked at and the spectrum stays as the accepted prefix left it -/
theorem applyTo_append (H C : ℚ) (l₁ l₂ : List String) : ∀ s : USpec, applyTo H C s (l₁ ++ l₂) =
    (match applyTo H C s l₁ with
     | (s', none) => applyTo H C s' l₂
     | (s', some e) => (s', some e)) := by
  induction l₁ with
  | nil => intro s; simp [applyTo]
  | cons u rest ih =>
    intro s
    simp only [List.cons_append, applyTo]
    cases WUnit.ofName? u with
    | some w => exact ih _
    | none =>
      dsimp only
      cases FUnit.ofName? u with
      | none => rfl
      | some f =>
        dsimp only
        cases toFlux f H C s with
        | none => rfl
        | some s' => exact ih _

/-- any number of wavelength-unit arguments act as the last one alone (n-ary form of `applyTo_wave_last_wins`) -/
theorem applyTo_waves_last_wins (H C : ℚ) : ∀ (ws : List WUnit) (a : WUnit) (s : USpec),
    applyTo H C s ((a :: ws).map WUnit.name) = (toWave ((a :: ws).getLast (by simp)) s, none) := by
  intro ws
  induction ws with
  | nil => intro a s; rw [List.map_cons, applyTo_wave]; rfl
  | cons b ws ih =>
    intro a s
    rw [List.map_cons, applyTo_wave, ih b (toWave a s), toWave_toWave]
    rfl

/-- multi-argument `Spectrum.to(*units)` (model `applyTo`): two wavelength units in a row act as the last one alone -/
theorem applyTo_wave_last_wins (H C : ℚ) (s : USpec) (a b : WUnit) :
    applyTo H C s [a.name, b.name] = (toWave b s, none) := applyTo_waves_last_wins H C [b] a s

/-- … and a refused argument (a flux unit asked of a unitless spectrum) leaves the spectrum as the previous arguments left it -/
theorem applyTo_refusal_keeps_prefix (H C : ℚ) (s : USpec) (a : WUnit) (g : FUnit) (h : s.vu = none) :
    applyTo H C s [a.name, g.name] = (toWave a s, some "TypeError") := by
  rw [applyTo_wave, applyTo_flux, toFlux_eq, toWave_vu, h]

/-- an argument that names neither a wavelength unit nor a flux unit is a ValueError wherever it stands in the list; the
spectrum is left as the arguments before it left it and the arguments after it are ignored -/
theorem applyTo_unknown_stops (H C : ℚ) (s s' : USpec) (l₁ l₂ : List String) (u : String)
    (hw : WUnit.ofName? u = none) (hf : FUnit.ofName? u = none) (h : applyTo H C s l₁ = (s', none)) :
    applyTo H C s (l₁ ++ u :: l₂) = (s', some "ValueError") := by
  rw [applyTo_append, h]
  simp [applyTo, hw, hf]

/-- wavelength-unit and flux-unit conversion of a spectrum commute (no hypotheses: the flux conversion is carried out in
metres whatever the wavelength unit) -/
theorem spectrum_to_wave_flux_commute (s : USpec) (u : WUnit) (g : FUnit) (H C : ℚ) :
    toFlux g H C (toWave u s) = (toFlux g H C s).map (toWave u) := by
  cases hv : s.vu with
  | none => simp [toFlux_eq, toWave_eq, hv]
  | some f =>
    simp only [toFlux_closed, toWave_eq, hv, Option.map_some, List.zipWith_map, List.map_zipWith, flux_div, mul_assoc,
      waveTo_cocycle]

/-- an argument of `Spectrum.to`: a wavelength unit or a flux unit -/
abbrev ToArg := WUnit ⊕ FUnit
def ToArg.name : ToArg → String
  | .inl w => w.name
  | .inr f => f.name
/-- the last wavelength unit among the arguments (`d` if there is none); likewise the last flux unit -/
def lastW : List ToArg → WUnit → WUnit
  | [], d => d
  | .inl w :: l, _ => lastW l w
  | .inr _ :: l, d => lastW l d
def lastF : List ToArg → FUnit → FUnit
  | [], d => d
  | .inl _ :: l, d => lastF l d
  | .inr f :: l, _ => lastF l f

/-- NORMAL FORM of `Spectrum.to(*units)` on a per-wavelength density for an arbitrary list of valid unit names, wavelength and flux
units in any order and number: nothing is refused, and the result is the spectrum converted ONCE to the last flux unit named
and ONCE to the last wavelength unit named (its own units where none is named) — the order of the arguments and all the
intermediate conversions do not matter. (Well-formed spectrum with non-zero wavelengths; h, c ≠ 0.) -/
theorem applyTo_normal_form (H C : ℚ) (hH : H ≠ 0) (hC : C ≠ 0) : ∀ (l : List ToArg) (s : USpec) (f : FUnit),
    s.vu = some f → s.value.length = s.wave.length → (∀ w ∈ s.wave, w ≠ 0) →
    ∃ s₁, toFlux (lastF l f) H C s = some s₁ ∧ applyTo H C s (l.map ToArg.name) = (toWave (lastW l s.wu) s₁, none) := by
  intro l
  induction l with
  | nil =>
    intro s f hf hl _
    exact ⟨s, toFlux_self f H C s hf hl, by rw [lastW, toWave_self]; rfl⟩
  | cons a l ih =>
    intro s f hf hl hw
    cases a with
    | inl a =>
      have hw' : ∀ w ∈ (toWave a s).wave, w ≠ 0 := by
        rw [toWave_wave]
        exact List.forall_mem_map.2 fun x hx => mul_ne_zero (hw x hx) (waveTo_ne_zero _ _)
      obtain ⟨s₁, e1, e2⟩ := ih (toWave a s) f (by rw [toWave_vu, hf])
        (by simp [toWave_eq', hl]) hw'
      rw [spectrum_to_wave_flux_commute, Option.map_eq_some_iff] at e1
      obtain ⟨s₀, hs, rfl⟩ := e1
      refine ⟨s₀, hs, ?_⟩
      rw [List.map_cons, ToArg.name, applyTo_wave, e2, toWave_toWave, toWave_wu]
      rfl
    | inr g =>
      obtain ⟨s', h1, hg, hwave, hwu, hl'⟩ : ∃ s', toFlux g H C s = some s' ∧ s'.vu = some g ∧ s'.wave = s.wave ∧
          s'.wu = s.wu ∧ s'.value.length = s'.wave.length :=
        ⟨{ s with value := List.zipWith (fun v w => fluxTo f g v (w * waveTo s.wu .m) H C) s.value s.wave, vu := some g },
          by rw [toFlux_closed, hf]; rfl, rfl, rfl, rfl, by simp [hl]⟩
      obtain ⟨s₁, e1, e2⟩ := ih s' g hg hl' (hwave ▸ hw)
      rw [spectrum_to_flux_cocycle s s' f g _ H C hH hC hf hw h1] at e1
      exact ⟨s₁, e1, by rw [List.map_cons, ToArg.name, applyTo_flux, h1]; exact e2.trans (by rw [hwu]; rfl)⟩

/-- `Unit(name)` (regenerated dispatch `Gen.unitOfName`): the canonical name of every wavelength and flux unit — the names
the conversion tables `waveTo`/`fluxTo` are indexed by — resolves to the class carrying exactly that name, so a spectrum built
with unit `u` reports unit `u` and converts with `u`'s row of the table -/
theorem unit_canonical_names_fixed :
    (∀ u : WUnit, Gen.unitOfName u.name = some u.name) ∧ (∀ f : FUnit, Gen.unitOfName f.name = some f.name) := by
  refine ⟨fun u => ?_, fun f => ?_⟩
  · cases u <;> rfl
  · cases f <;> rfl

/-- the documented aliases (table in `Unit`'s docstring: ``m``/``meter``, ``um``/``micron``, ``nm``/``nanometer``) resolve to
the same unit as the canonical name, and every accepted name resolves to a unit of one of the two tables (nothing else is
accepted by `Unit`): wavelength and flux names do not collide -/
theorem unit_aliases_resolve :
    Gen.unitOfName "meter" = Gen.unitOfName "m" ∧ Gen.unitOfName "micron" = Gen.unitOfName "um" ∧
    Gen.unitOfName "nanometer" = Gen.unitOfName "nm" ∧
    (∀ n ∈ Gen.unitNames, ∃ c, Gen.unitOfName n = some c ∧ Gen.unitOfName c = some c ∧
        ((WUnit.ofName? c).isSome ≠ (FUnit.ofName? c).isSome)) ∧
    (∀ n, n ∉ Gen.unitNames → Gen.unitOfName n = none) := by
  refine ⟨rfl, rfl, rfl, by decide, ?_⟩
  intro n hn
  unfold Gen.unitOfName
  -- the eleventh alternative of the regenerated `match` is its default `_ => none`; in the ten before it `n` is a literal of `unitNames`
  split
  case h_11 => rfl
  all_goals exact absurd (by decide) hn

/-- the unit a spectrum REPORTS is always a name `Spectrum.to` converts to: whatever accepted spelling a spectrum was built
with (`Gen.reportedUnit`, from the `waveunit`/`valueunit` setters and getters: `Unit(name).name`), the reported name is one
of the names `to` dispatches on (`Gen.toWaveNames`/`toFluxNames`, read from `Spectrum.to`), which are exactly the canonical
names of the two conversion tables — so `s.to(t.waveunit)` / `s.to(t.valueunit)` is never refused for a unit some spectrum
carries; the aliases `Unit` accepts are NOT among `to`'s names (the documented discrepancy, as a fact about the code) -/
theorem reported_units_are_to_targets :
    (∀ n ∈ Gen.unitNames, ∃ c, Gen.reportedUnit n = some c ∧ c ∈ Gen.toWaveNames ++ Gen.toFluxNames) ∧
    Gen.toWaveNames = WUnit.all.map WUnit.name ∧ Gen.toFluxNames = FUnit.all.map FUnit.name ∧
    (∀ u : WUnit, Gen.reportedUnit u.name = some u.name) ∧ (∀ f : FUnit, Gen.reportedUnit f.name = some f.name) ∧
    Gen.reportedUnit "micron" = some "um" ∧ ("micron" ∈ Gen.unitNames ∧ "micron" ∉ Gen.toWaveNames ++ Gen.toFluxNames) := by
  refine ⟨by decide, rfl, rfl, fun u => by cases u <;> decide, fun f => by cases f <;> decide, by decide, by decide⟩

/-- non-vacuity / instance: `to('um', 'flam', 'nm', 'wlam', 'angstrom')` = flux → wlam once, wavelengths → angstrom once -/
example (H C : ℚ) (hH : H ≠ 0) (hC : C ≠ 0) (s : USpec) (f : FUnit) (hf : s.vu = some f) (hl : s.value.length = s.wave.length)
    (hw : ∀ w ∈ s.wave, w ≠ 0) : ∃ s₁, toFlux .wlam H C s = some s₁ ∧
      applyTo H C s ["um", "flam", "nm", "wlam", "angstrom"] = (toWave .angstrom s₁, none) :=
  applyTo_normal_form H C hH hC [.inl .um, .inr .flam, .inl .nm, .inr .wlam, .inl .angstrom] s f hf hl hw

end Lentil.C14
