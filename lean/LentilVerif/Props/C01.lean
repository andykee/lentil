import LentilVerif.Lemmas.Fourier
import LentilVerif.Lemmas.FourierWiring
import LentilVerif.Model.FourierOut
/-! # C01 — the matrix-triple-product DFT equals the defining Fourier sum and is invertible

`dft2`/`idft2` are the executable model of `lentil/fourier.py` (Model/Fourier.lean) instantiated
at `K = ℂ`, `R = ℝ` (`Lemmas/Fourier.lean`); the same definitions run at complex doubles in the correspondence. -/
namespace Lentil.C01
open Lentil Finset

/-- **the model is the source's wiring.** `Gen/FourierWiring.lean` is regenerated from `fourier.py` on every run: the centring
`arange(n) − floor(n/2)`, which coordinate vector / offset / shift / sampling feeds which factor of `E1`, `E2`, the `.T`, the
product `np.dot(E1.dot(f), E2)` with its contraction lengths, the `broadcast_to(·, (2,))` unpackings and the expression
applied under `if unitary:`. The hand model `dft2` equals those generated definitions entry by entry (and has the generated
output shape), so an edit of any of these in the source breaks this theorem. -/
theorem dft2_follows_source_wiring (f : Arr ℂ) (αr αc : ℝ) (M N : ℤ) (shr shc : ℝ) (offr offc : ℤ) (unitary : Bool) (u v : ℤ) :
    (dft2 f αr αc M N shr shc offr offc unitary).get u v =
      (if unitary then
        Gen.fwDft2Prod sumRange
          (fun row col => srcExp (Gen.fwExpPhase1 (fun i : ℤ => (i : ℝ)) Real.pi (Gen.fwDft2E1Arg (fun i : ℤ => (i : ℝ)) f.s0 f.s1 αr αc M N shr shc offr offc row col)))
          (fun row col => srcExp (Gen.fwExpPhase2 (fun i : ℤ => (i : ℝ)) Real.pi (Gen.fwDft2E2Arg (fun i : ℤ => (i : ℝ)) f.s0 f.s1 αr αc M N shr shc offr offc row col)))
          f.get f.s0 f.s1 M N u v
        * ((Gen.fwDft2Scale (fun i : ℤ => (i : ℝ)) Real.sqrt (fun x => |x|) f.s0 f.s1 αr αc M N shr shc offr offc : ℝ) : ℂ)
      else
        Gen.fwDft2Prod sumRange
          (fun row col => srcExp (Gen.fwExpPhase1 (fun i : ℤ => (i : ℝ)) Real.pi (Gen.fwDft2E1Arg (fun i : ℤ => (i : ℝ)) f.s0 f.s1 αr αc M N shr shc offr offc row col)))
          (fun row col => srcExp (Gen.fwExpPhase2 (fun i : ℤ => (i : ℝ)) Real.pi (Gen.fwDft2E2Arg (fun i : ℤ => (i : ℝ)) f.s0 f.s1 αr αc M N shr shc offr offc row col)))
          f.get f.s0 f.s1 M N u v) ∧
    ((dft2 f αr αc M N shr shc offr offc unitary).s0, (dft2 f αr αc M N shr shc offr offc unitary).s1)
      = Gen.fwDft2OutShape f.s0 f.s1 M N ∧
    Gen.fwDft2ShapeDefault f.s0 f.s1 = (f.s0, f.s1) := by
  refine ⟨?_, rfl, rfl⟩
  unfold dft2
  simp only [dftKernel_eq_srcExp, Gen.fwDft2Prod, Gen.fwDft2Scale, Gen.fwExpPhase1, Gen.fwExpPhase2, Gen.fwDft2E1Arg,
    Gen.fwDft2E2Arg, Gen.fwE1Arg, Gen.fwE2Arg, Gen.fwCoord0, Gen.fwCoord1, Gen.fwCoord2, Gen.fwCoord3, Int.ofNat_eq_natCast,
    CxLike.ofReal, RealLike.sqrt, RealLike.abs]

open ComplexConjugate in
/-- **`idft2` is the source's plumbing.** `Gen.fwIdft2` is obtained by evaluating `idft2`'s body symbolically (which array is
conjugated, which parameter feeds which parameter of `dft2`, the divisor `F.size`, the condition on `unitary`, the default
offset); the hand model equals it, so conjugating the wrong array, dividing unconditionally or by another size, or passing
`shift` for `shape` changes the generated definition and breaks this theorem. -/
theorem idft2_follows_source_wiring (F : Arr ℂ) (αr αc : ℝ) (M N : ℤ) (shr shc : ℝ) (unitary : Bool) (i j : ℤ) :
    (idft2 F αr αc M N shr shc unitary).get i j =
      Gen.fwIdft2 (starRingEnd ℂ) (fun z n => z / (n : ℂ))
        (fun G (al : ℝ × ℝ) (sh : ℤ × ℤ) (sf : ℝ × ℝ) un a b =>
          (dft2 { F with get := G } al.1 al.2 sh.1 sh.2 sf.1 sf.2 Gen.fwIdft2Offset.1 Gen.fwIdft2Offset.2 un).get a b)
        F.get F.s0 F.s1 (αr, αc) (M, N) (shr, shc) unitary i j := by
  unfold idft2 Gen.fwIdft2
  simp only [Gen.fwIdft2Offset, CxLike.conj, CxLike.divInt]

/-- **writing into a caller-supplied buffer.** In the buffer model of the `out=` path (`Model/FourierOut.lean`): `dft2`'s own dtype
guard (regenerated from the source) comes first and refuses with `TypeError` a buffer whose dtype cannot hold complex values; a
buffer passing it that `np.dot(out=)` does not accept (`dotAccepts`: exactly complex128, shape `(M, N)`, C-contiguous by its strides,
writeable — NumPy's contract written by hand, TRUSTED, compared with the real outcome by the op `c01.out` on every generated buffer) is
refused with `ValueError`; a buffer passing both — whatever it held before — ends up holding exactly the values of a fresh
allocation and is the returned object. *Outside the model, no theorem:* the in-place call `out=f` (buffer aliasing the input: the
input is read as a snapshot here; that `E1.dot(f)` is evaluated before the buffer is written is NumPy's evaluation order) and
alignment — observed by the correspondence and the oracle only. (`idft2(out=)`: `idft2_out_buffer`.) -/
theorem dft2_out_buffer (f : Arr ℂ) (αr αc : ℝ) (M N : ℤ) (shr shc : ℝ) (offr offc : ℤ) (unitary : Bool) (b : OutBuf ℂ) :
    (b.dtype.canCastComplex = false → dft2Out f αr αc M N shr shc offr offc unitary (some b) = OutCall.typeError) ∧
    (b.dtype.canCastComplex = true → dotAccepts b M N = false →
      dft2Out f αr αc M N shr shc offr offc unitary (some b) = OutCall.valueError) ∧
    (b.dtype.canCastComplex = true → dotAccepts b M N = true → dft2Out f αr αc M N shr shc offr offc unitary (some b)
      = OutCall.ok (dft2 f αr αc M N shr shc offr offc unitary) (some (dft2 f αr αc M N shr shc offr offc unitary)) true) ∧
    dft2Out f αr αc M N shr shc offr offc unitary none = OutCall.ok (dft2 f αr αc M N shr shc offr offc unitary) none false := by
  rw [dft2Out_some]
  obtain ⟨h1, h2, h3⟩ := outcome_spec b M N (dft2 f αr αc M N shr shc offr offc unitary)
  exact ⟨h1, h2, h3, rfl⟩

/-- **which buffers are written.** The call with `out=b` returns normally exactly when `b` is a writeable complex128 array of shape
`(M, N)` whose strides `(s, t)` (in elements) are C-contiguous in NumPy's sense: `t = 1` unless `N = 1`, and `s = N` unless `M = 1`.
So Fortran-ordered, strided, read-only, complex64, clongdouble, object, real and wrongly shaped buffers are all refused, while a
Fortran-ordered single row or a 1×1 buffer is accepted. -/
theorem dft2_out_accepted_iff (f : Arr ℂ) (αr αc : ℝ) (M N : ℤ) (shr shc : ℝ) (offr offc : ℤ) (unitary : Bool) (b : OutBuf ℂ) :
    (∃ r a t, dft2Out f αr αc M N shr shc offr offc unitary (some b) = OutCall.ok r a t) ↔
      b.dtype = BufDtype.complex128 ∧ b.writeable = true ∧
        ∃ s t, b.shape = [M, N] ∧ b.strides = [s, t] ∧ (N = 1 ∨ t = 1) ∧ (M = 1 ∨ s = N) := by
  rw [dft2Out_some, outcome_ok_iff]

/-- non-vacuity of both directions: a Fortran-ordered 2×5 complex128 buffer (strides 1, 2) is refused with `ValueError`, a
Fortran-ordered 1×5 one (strides 1, 1) is written, a clongdouble buffer passes `dft2`'s guard and is refused by `np.dot`, a
complex64 buffer is refused by the guard whatever its shape -/
example (f : Arr ℂ) (x : Arr ℂ) :
    dft2Out f (0.2 : ℝ) 0.2 2 5 0 0 0 0 true (some ⟨.complex128, [2, 5], [1, 2], true, x⟩) = OutCall.valueError ∧
    (∃ r a t, dft2Out f (0.2 : ℝ) 0.2 1 5 0 0 0 0 true (some ⟨.complex128, [1, 5], [1, 1], true, x⟩) = OutCall.ok r a t) ∧
    dft2Out f (0.2 : ℝ) 0.2 2 5 0 0 0 0 true (some ⟨.clongdouble, [2, 5], [5, 1], true, x⟩) = OutCall.valueError ∧
    dft2Out f (0.2 : ℝ) 0.2 2 5 0 0 0 0 true (some ⟨.complex64, [3, 5], [5, 1], true, x⟩) = OutCall.typeError :=
  ⟨(dft2_out_buffer ..).2.1 rfl rfl, (dft2_out_accepted_iff ..).mpr ⟨rfl, rfl, 1, 1, rfl, rfl, Or.inr rfl, Or.inl rfl⟩,
    (dft2_out_buffer ..).2.1 rfl rfl, (dft2_out_buffer ..).1 rfl⟩

/-- **defining sum.** For every input array, real samplings `αr`, `αc` (independent), output shape, real shifts, integer
offsets, both flags and every output index `(u, v)`: the triple product `E1·f·E2` is the double sum over input samples of
`f x y · exp(-2πi(αr·X·U + αc·Y·V))` with `X = x - ⌊m/2⌋ + off_r`, `U = u - ⌊M/2⌋ - shift_r` (origins at index `⌊n/2⌋`),
multiplied by `√|αr αc|` exactly when `unitary`. -/
theorem dft2_eq_defining_sum (f : Arr ℂ) (αr αc : ℝ) (M N : ℤ) (shr shc : ℝ) (offr offc : ℤ) (unitary : Bool) (u v : ℤ) :
    (dft2 f αr αc M N shr shc offr offc unitary).get u v =
      (if unitary then ((Real.sqrt |αr * αc| : ℝ) : ℂ) else 1) *
      ∑ x ∈ range f.s0.toNat, ∑ y ∈ range f.s1.toNat, f.get x y *
        Complex.exp (-(2 * Real.pi * Complex.I) *
          ((αr * (((x : ℤ) - f.s0 / 2 + offr : ℤ) : ℝ) * (((u - M / 2 : ℤ) : ℝ) - shr)
            + αc * (((y : ℤ) - f.s1 / 2 + offc : ℤ) : ℝ) * (((v - N / 2 : ℤ) : ℝ) - shc) : ℝ) : ℂ)) := by
  rw [dft2_get_eq, dft2Sum, sum_comm]
  refine congrArg _ (sum_congr rfl fun y _ => ?_)
  rw [sum_mul]
  refine sum_congr rfl fun x _ => ?_
  rw [mul_comm (ker _ _ _ _ _ _ _) (f.get _ _), mul_assoc]
  unfold ker cc
  rw [← Complex.exp_add, ← mul_add, ← Complex.ofReal_add]

/-- **defining sum of the inverse transform.** For every array, real samplings, output shape, real shifts and both flags:
`idft2` is the double sum `Σ_u Σ_v F[u,v]·exp(+2πi(αr·U·X + αc·V·Y))` with `U = u − ⌊m/2⌋` (input origin at `⌊n/2⌋`, no
offset), `X = i − ⌊M/2⌋ − shift_r`, multiplied by `√|αr αc|` when unitary and by `1/F.size` otherwise. -/
theorem idft2_eq_defining_sum (F : Arr ℂ) (αr αc : ℝ) (M N : ℤ) (shr shc : ℝ) (unitary : Bool) (i j : ℤ) :
    (idft2 F αr αc M N shr shc unitary).get i j =
      (if unitary then ((Real.sqrt |αr * αc| : ℝ) : ℂ) else 1 / ((F.s0 * F.s1 : ℤ) : ℂ)) *
      ∑ u ∈ range F.s0.toNat, ∑ v ∈ range F.s1.toNat, F.get u v *
        Complex.exp ((2 * Real.pi * Complex.I) *
          ((αr * (((u : ℤ) - F.s0 / 2 : ℤ) : ℝ) * (((i - M / 2 : ℤ) : ℝ) - shr)
            + αc * (((v : ℤ) - F.s1 / 2 : ℤ) : ℝ) * (((j - N / 2 : ℤ) : ℝ) - shc) : ℝ) : ℂ)) := by
  rw [idft2_eq_conj_dft2, dft2_eq_defining_sum, idft2_scale]
  simp only [map_mul, map_sum, Complex.conj_conj, conj_cexp, add_zero]

/-- **an accepted buffer ends up holding the defining sum.** Composition of the `out=` clause with the defining-sum clause: for a
buffer `dft2`'s guard and `np.dot(out=)` accept (`dft2_out_accepted_iff`), whatever it held before, the call returns the buffer
and its sample `[u, v]` afterwards is `Σ_x Σ_y f[x,y]·exp(−2πi(αr·X·U + αc·Y·V))` times `√|αr αc|` when unitary — the same
value a fresh allocation gets, for every shape, sampling, shift, offset and flag. -/
theorem dft2_out_buffer_holds_defining_sum (f : Arr ℂ) (αr αc : ℝ) (M N : ℤ) (shr shc : ℝ) (offr offc : ℤ) (unitary : Bool)
    (b : OutBuf ℂ) (hc : b.dtype.canCastComplex = true) (ha : dotAccepts b M N = true) :
    ∃ F : Arr ℂ, dft2Out f αr αc M N shr shc offr offc unitary (some b) = OutCall.ok F (some F) true ∧
      ∀ u v : ℤ, F.get u v =
        (if unitary then ((Real.sqrt |αr * αc| : ℝ) : ℂ) else 1) *
        ∑ x ∈ range f.s0.toNat, ∑ y ∈ range f.s1.toNat, f.get x y *
          Complex.exp (-(2 * Real.pi * Complex.I) *
            ((αr * (((x : ℤ) - f.s0 / 2 + offr : ℤ) : ℝ) * (((u - M / 2 : ℤ) : ℝ) - shr)
              + αc * (((y : ℤ) - f.s1 / 2 + offc : ℤ) : ℝ) * (((v - N / 2 : ℤ) : ℝ) - shc) : ℝ) : ℂ)) :=
  ⟨dft2 f αr αc M N shr shc offr offc unitary, (dft2_out_buffer f αr αc M N shr shc offr offc unitary b).2.2.1 hc ha,
    fun u v => dft2_eq_defining_sum f αr αc M N shr shc offr offc unitary u v⟩

/-- **`idft2` writing into a caller-supplied buffer.** `idft2(F, …, out=b)` hands `b` to `dft2` (regenerated: `Gen.fwIdft2PassesOut`),
so the same two checks decide — `TypeError` for a dtype that cannot hold complex values, `ValueError` for a buffer `np.dot(out=)` does
not accept (`dotAccepts`, NumPy's contract by hand, TRUSTED, compared with the real outcome by the op `c01.iout`) — and a buffer passing
both, whatever it held, ends up holding exactly the values `idft2` returns without `out=` **after** the in-place conjugation and the
in-place division (`np.conj(X, out=X)`, `np.divide(X, n, out=X)`: regenerated flags `Gen.fwIdft2ConjInPlace`,
`Gen.fwIdft2DivideInPlace`), for both normalisation flags, and is the returned object. A source that divides into a fresh array
(`np.divide(F, N)` / `F / N`) or does not pass `out` on changes a regenerated flag and this proof stops checking. -/
theorem idft2_out_buffer (F : Arr ℂ) (αr αc : ℝ) (M N : ℤ) (shr shc : ℝ) (unitary : Bool) (b : OutBuf ℂ) :
    (b.dtype.canCastComplex = false → idft2Out F αr αc M N shr shc unitary (some b) = OutCall.typeError) ∧
    (b.dtype.canCastComplex = true → dotAccepts b M N = false →
      idft2Out F αr αc M N shr shc unitary (some b) = OutCall.valueError) ∧
    (b.dtype.canCastComplex = true → dotAccepts b M N = true → idft2Out F αr αc M N shr shc unitary (some b)
      = OutCall.ok (idft2 F αr αc M N shr shc unitary) (some (idft2 F αr αc M N shr shc unitary)) true) ∧
    idft2Out F αr αc M N shr shc unitary none = OutCall.ok (idft2 F αr αc M N shr shc unitary) none false := by
  rw [idft2Out_some]
  obtain ⟨h1, h2, h3⟩ := outcome_spec b M N (idft2 F αr αc M N shr shc unitary)
  exact ⟨h1, h2, h3, rfl⟩

/-- the same set of buffers as for `dft2` is written: `idft2(out=b)` returns normally exactly when `dft2(out=b)` does -/
theorem idft2_out_accepted_iff (F : Arr ℂ) (αr αc : ℝ) (M N : ℤ) (shr shc : ℝ) (unitary : Bool) (b : OutBuf ℂ) :
    (∃ r a t, idft2Out F αr αc M N shr shc unitary (some b) = OutCall.ok r a t) ↔
      b.dtype = BufDtype.complex128 ∧ b.writeable = true ∧
        ∃ s t, b.shape = [M, N] ∧ b.strides = [s, t] ∧ (N = 1 ∨ t = 1) ∧ (M = 1 ∨ s = N) := by
  rw [idft2Out_some, outcome_ok_iff]

/-- … and the accepted buffer then holds the defining inverse sum (`idft2_eq_defining_sum`), factor `√|α_r α_c|` under the unitary
flag and `1/(rows·cols of the input)` otherwise -/
theorem idft2_out_buffer_holds_defining_sum (F : Arr ℂ) (αr αc : ℝ) (M N : ℤ) (shr shc : ℝ) (unitary : Bool)
    (b : OutBuf ℂ) (hc : b.dtype.canCastComplex = true) (ha : dotAccepts b M N = true) :
    ∃ g : Arr ℂ, idft2Out F αr αc M N shr shc unitary (some b) = OutCall.ok g (some g) true ∧
      ∀ i j : ℤ, g.get i j =
        (if unitary then ((Real.sqrt |αr * αc| : ℝ) : ℂ) else 1 / ((F.s0 * F.s1 : ℤ) : ℂ)) *
        ∑ u ∈ range F.s0.toNat, ∑ v ∈ range F.s1.toNat, F.get u v *
          Complex.exp ((2 * Real.pi * Complex.I) *
            ((αr * (((u : ℤ) - F.s0 / 2 : ℤ) : ℝ) * (((i - M / 2 : ℤ) : ℝ) - shr)
              + αc * (((v : ℤ) - F.s1 / 2 : ℤ) : ℝ) * (((j - N / 2 : ℤ) : ℝ) - shc) : ℝ) : ℂ)) :=
  ⟨idft2 F αr αc M N shr shc unitary, (idft2_out_buffer F αr αc M N shr shc unitary b).2.2.1 hc ha,
    fun i j => idft2_eq_defining_sum F αr αc M N shr shc unitary i j⟩

/-- **linearity (sum).** The transform of a pointwise sum of two arrays of one shape is the sum of the transforms. -/
theorem dft2_add (f g : Arr ℂ) (h0 : g.s0 = f.s0) (h1 : g.s1 = f.s1) (αr αc : ℝ) (M N : ℤ) (shr shc : ℝ)
    (offr offc : ℤ) (unitary : Bool) (u v : ℤ) :
    (dft2 { f with get := fun i j => f.get i j + g.get i j } αr αc M N shr shc offr offc unitary).get u v =
      (dft2 f αr αc M N shr shc offr offc unitary).get u v + (dft2 g αr αc M N shr shc offr offc unitary).get u v := by
  simp only [dft2_get_eq, dft2Sum, h0, h1, mul_add, add_mul, sum_add_distrib]

/-- **linearity (scalar).** The transform of `c · f` is `c ·` the transform of `f`. -/
theorem dft2_smul (f : Arr ℂ) (c : ℂ) (αr αc : ℝ) (M N : ℤ) (shr shc : ℝ) (offr offc : ℤ) (unitary : Bool) (u v : ℤ) :
    (dft2 { f with get := fun i j => c * f.get i j } αr αc M N shr shc offr offc unitary).get u v =
      c * (dft2 f αr αc M N shr shc offr offc unitary).get u v := by
  simp only [dft2_get_eq, dft2Sum, mul_sum, sum_mul]
  refine sum_congr rfl fun y _ => sum_congr rfl fun x _ => ?_
  ring

/-- **sub-array with offset = zero-padded embedding.** Placing an `m × n` array with integer offset
`(o0, o1)` on any canvas `S0 × S1` of zeros that contains it (both origins at index `⌊n/2⌋`, `padded`) and transforming
with zero offset gives exactly the transform of the array itself with `offset = (o0, o1)` — for all samplings, output
shapes, shifts and both flags. -/
theorem dft2_subarray_offset (f : Arr ℂ) (m n S0 S1 : ℕ) (hm : f.s0 = m) (hn : f.s1 = n) (o0 o1 : ℤ)
    (hr : 0 ≤ (S0 : ℤ) / 2 - (m : ℤ) / 2 + o0 ∧ (S0 : ℤ) / 2 - (m : ℤ) / 2 + o0 + m ≤ S0)
    (hc : 0 ≤ (S1 : ℤ) / 2 - (n : ℤ) / 2 + o1 ∧ (S1 : ℤ) / 2 - (n : ℤ) / 2 + o1 + n ≤ S1)
    (αr αc : ℝ) (M N : ℤ) (shr shc : ℝ) (unitary : Bool) (u v : ℤ) :
    (dft2 (padded f o0 o1 S0 S1) αr αc M N shr shc 0 0 unitary).get u v
      = (dft2 f αr αc M N shr shc o0 o1 unitary).get u v := by
  rw [← hm] at hr
  rw [← hn] at hc
  -- the columns and the rows outside the window are zero
  have h := sum_window2 (fun i => ker αr S0 M 0 shr i u) (fun j => ker αc S1 N 0 shc j v) (padded f o0 o1 S0 S1).get
    (S0 / 2 - f.s0 / 2 + o0) (S1 / 2 - f.s1 / 2 + o1) f.s0.toNat f.s1.toNat 0 0 S0 S1 ⟨hr.1, by omega⟩ ⟨hc.1, by omega⟩
    (fun i j h => padded_get_outside_rows f o0 o1 S0 S1 i j (by omega))
    (fun i j h => padded_get_outside_cols f o0 o1 S0 S1 i j (by omega))
  simp only [zero_add] at h
  rw [dft2_get_eq, dft2_get_eq, dft2Sum, dft2Sum]
  refine congrArg _ ?_
  show ∑ j ∈ range (S1 : ℤ).toNat, (∑ i ∈ range (S0 : ℤ).toNat, ker αr S0 M 0 shr i u * (padded f o0 o1 S0 S1).get i j)
    * ker αc S1 N 0 shc j v = _
  rw [Int.toNat_natCast, Int.toNat_natCast, h]
  refine sum_congr rfl fun y hy => ?_
  rw [ker_embed]
  refine congrArg (· * _) (sum_congr rfl fun x hx => ?_)
  rw [ker_embed, padded_get_inside f o0 o1 S0 S1 x y (mem_range.mp hx) (mem_range.mp hy)]

example : ∃ (m S0 : ℕ) (o0 : ℤ), o0 ≠ 0 ∧ 0 ≤ (S0 : ℤ) / 2 - (m : ℤ) / 2 + o0 ∧ (S0 : ℤ) / 2 - (m : ℤ) / 2 + o0 + m ≤ S0 :=
  ⟨3, 8, -2, by norm_num, by norm_num, by norm_num⟩

/-- **a shift is a phase ramp on the input.** Transforming with output shift `(shr, shc)` equals transforming,
with zero shift, the input multiplied by `exp(2πi(αr·X·shr + αc·Y·shc))`, `X = x - ⌊m/2⌋ + off_r`, `Y = y - ⌊n/2⌋ + off_c`. -/
theorem dft2_phase_ramp_eq_shift (f : Arr ℂ) (αr αc : ℝ) (M N : ℤ) (shr shc : ℝ) (offr offc : ℤ) (unitary : Bool) (u v : ℤ) :
    (dft2 f αr αc M N shr shc offr offc unitary).get u v =
      (dft2 { f with get := fun x y => f.get x y * Complex.exp ((2 * Real.pi * Complex.I) *
          ((αr * ((x - f.s0 / 2 + offr : ℤ) : ℝ) * shr + αc * ((y - f.s1 / 2 + offc : ℤ) : ℝ) * shc : ℝ) : ℂ)) }
        αr αc M N 0 0 offr offc unitary).get u v := by
  simp only [dft2_get_eq, dft2Sum, ker_shift αr _ _ _ shr, ker_shift αc _ _ _ shc, sum_mul]
  refine congrArg _ (sum_congr rfl fun y _ => sum_congr rfl fun x _ => ?_)
  rw [Complex.ofReal_add, mul_add, Complex.exp_add]
  unfold ramp cc
  ring

/-- **on a full period an integer shift is a circular roll of the output.** With `α = (1/m, 1/n)`, output shape = input shape and
integer shifts `(sr, sc)`: sample `[u, v]` of the shifted transform is sample `[(u − sr) mod m, (v − sc) mod n]` of the unshifted one
(any offsets, both flags). This is why Parseval holds for every shift while the round trip `idft2 ∘ dft2` with a non-zero shift
returns a rolled copy, not `f`. -/
theorem dft2_integer_shift_full_period (f : Arr ℂ) (m n : ℕ) (hm : f.s0 = m) (hn : f.s1 = n) (hm0 : 0 < m) (hn0 : 0 < n)
    (sr sc offr offc : ℤ) (unitary : Bool) (u v : ℤ) :
    (dft2 f (1 / (m : ℝ)) (1 / (n : ℝ)) m n ((sr : ℤ) : ℝ) ((sc : ℤ) : ℝ) offr offc unitary).get u v
      = (dft2 f (1 / (m : ℝ)) (1 / (n : ℝ)) m n 0 0 offr offc unitary).get ((u - sr) % m) ((v - sc) % n) := by
  rw [dft2_get_eq, dft2_get_eq, dft2Sum, dft2Sum, hm, hn]
  refine congrArg _ (sum_congr rfl fun y _ => ?_)
  rw [ker_int_shift_roll n, sum_congr rfl fun x _ => by rw [ker_int_shift_roll m]]

example : ∃ sr sc : ℤ, sr < 0 ∧ 0 < sc := ⟨-2, 3, by norm_num, by norm_num⟩

/-- **an oversampled round trip with a forward shift returns a phased copy.** Forward transform with `α = (1/K, 1/L)` onto `K × L`
samples, `K ≥ m`, `L ≥ n`, with any real output shift `(shr, shc)`; inverse with the same sampling and flag (zero shift) back onto
the input shape: sample `[x, y]` is `f[x, y]` times the shift's phase ramp `exp(2πi((x − ⌊m/2⌋)·shr/K + (y − ⌊n/2⌋)·shc/L))` —
modulus 1, so the round trip keeps every `|f[x, y]|`. (`shr = shc = 0`: `idft2_dft2_oversampled`.) -/
theorem idft2_dft2_oversampled_shifted (f : Arr ℂ) (m n K L : ℕ) (hm : f.s0 = m) (hn : f.s1 = n) (hK : 0 < K) (hL : 0 < L)
    (hmK : m ≤ K) (hnL : n ≤ L) (shr shc : ℝ) (unitary : Bool) (x y : ℕ) (hx : x < m) (hy : y < n) :
    (idft2 (dft2 f (1 / (K : ℝ)) (1 / (L : ℝ)) K L shr shc 0 0 unitary) (1 / (K : ℝ)) (1 / (L : ℝ)) m n 0 0 unitary).get x y
      = Complex.exp ((2 * Real.pi * Complex.I) * ((1 / (K : ℝ) * (((x : ℤ) - (m : ℤ) / 2 : ℤ) : ℝ) * shr : ℝ) : ℂ))
        * Complex.exp ((2 * Real.pi * Complex.I) * ((1 / (L : ℝ) * (((y : ℤ) - (n : ℤ) / 2 : ℤ) : ℝ) * shc : ℝ) : ℂ))
        * f.get x y := by
  have ex : ((x : ℤ) - 0 - 0) % K = x := by rw [sub_zero, sub_zero]; exact Int.emod_eq_of_lt (by omega) (by omega)
  have ey : ((y : ℤ) - 0 - 0) % L = y := by rw [sub_zero, sub_zero]; exact Int.emod_eq_of_lt (by omega) (by omega)
  have h := idft2_dft2_period f m n K L hm hn hK hL hmK hnL shr shc 0 0 0 0 unitary x y (by omega) (by omega)
  rw [ex, ey, Int.cast_zero] at h
  simpa only [ramp, cc, add_zero] using h

/-- **inversion of an oversampled period.** Forward transform with `α = (1/K, 1/L)` onto `K × L` samples, `K ≥ m`, `L ≥ n` (the
input zero-padded to one period in effect), inverse transform with the same sampling and flag back onto the input shape
`m × n`: `idft2 (dft2 f) = f` at every sample. (`K = m`, `L = n` is `idft2_dft2_full_period`.) -/
theorem idft2_dft2_oversampled (f : Arr ℂ) (m n K L : ℕ) (hm : f.s0 = m) (hn : f.s1 = n) (hK : 0 < K) (hL : 0 < L)
    (hmK : m ≤ K) (hnL : n ≤ L) (unitary : Bool) (x y : ℕ) (hx : x < m) (hy : y < n) :
    (idft2 (dft2 f (1 / (K : ℝ)) (1 / (L : ℝ)) K L 0 0 0 0 unitary) (1 / (K : ℝ)) (1 / (L : ℝ)) m n 0 0 unitary).get x y
      = f.get x y := by
  rw [idft2_dft2_oversampled_shifted f m n K L hm hn hK hL hmK hnL 0 0 unitary x y hx hy]
  simp only [Complex.ofReal_zero, mul_zero, Complex.exp_zero, one_mul]

/-- **inversion on a full period.** With `α = (1/m, 1/n)`, output shape = input shape, zero shift and offset and the
*same* normalisation flag on both sides (either value), `idft2 (dft2 f) = f` at every sample. -/
theorem idft2_dft2_full_period (f : Arr ℂ) (m n : ℕ) (hm : f.s0 = m) (hn : f.s1 = n) (hm0 : 0 < m) (hn0 : 0 < n)
    (unitary : Bool) (x y : ℕ) (hx : x < m) (hy : y < n) :
    (idft2 (dft2 f (1 / (m : ℝ)) (1 / (n : ℝ)) m n 0 0 0 0 unitary) (1 / (m : ℝ)) (1 / (n : ℝ)) m n 0 0 unitary).get x y
      = f.get x y :=
  idft2_dft2_oversampled f m n m n hm hn hm0 hn0 le_rfl le_rfl unitary x y hx hy

/-- **the plain calls invert each other.** `dft2(f, α)` and `idft2(F, α)` — nothing passed but the sampling, every other argument at
the default regenerated from the signatures (shape = input shape, zero shift and offset, and the *same* normalisation flag on both
sides: `Gen.fwDft2DefaultUnitary`, `Gen.fwIdft2DefaultUnitary`) — satisfy `idft2(dft2(f, α), α) = f` at `α = (1/m, 1/n)`, and the plain
forward call is the unitary, centred, unshifted transform. A default changed on one side only (say `idft2(…, unitary=False)`) makes
this false and the proof stops. -/
theorem default_calls_roundtrip (f : Arr ℂ) (m n : ℕ) (hm : f.s0 = m) (hn : f.s1 = n) (hm0 : 0 < m) (hn0 : 0 < n)
    (x y : ℕ) (hx : x < m) (hy : y < n) :
    (idft2Default (R := ℝ) (dft2Default f (1 / (m : ℝ)) (1 / (n : ℝ))) (1 / (m : ℝ)) (1 / (n : ℝ))).get x y = f.get x y ∧
    dft2Default f (1 / (m : ℝ)) (1 / (n : ℝ)) = dft2 f (1 / (m : ℝ)) (1 / (n : ℝ)) m n 0 0 0 0 true := by
  rw [idft2Default_eq, dft2Default_eq, dft2C_s0, dft2C_s1, hm, hn]
  exact ⟨idft2_dft2_full_period f m n hm hn hm0 hn0 true x y hx hy, rfl⟩

/-- **the round trip with shifts and offsets is a rolled, phased copy.** Full period (`α = (1/m, 1/n)`, output shape = input
shape, same flag on both sides), forward transform with any real shift `(shr, shc)` and integer offset `(offr, offc)`, inverse
transform with an integer shift `(tr, tc)`: sample `[i, j]` of `idft2 (dft2 f)` is input sample
`[x, y] = [(i − tr − offr) mod m, (j − tc − offc) mod n]` times the phase ramp the forward shift puts on that sample,
`exp(2πi((x − ⌊m/2⌋ + offr)·shr/m + (y − ⌊n/2⌋ + offc)·shc/n))`. (All zero: `idft2_dft2_full_period`.) -/
theorem idft2_dft2_full_period_rolled (f : Arr ℂ) (m n : ℕ) (hm : f.s0 = m) (hn : f.s1 = n) (hm0 : 0 < m) (hn0 : 0 < n)
    (shr shc : ℝ) (offr offc tr tc : ℤ) (unitary : Bool) (i j : ℤ) :
    (idft2 (dft2 f (1 / (m : ℝ)) (1 / (n : ℝ)) m n shr shc offr offc unitary) (1 / (m : ℝ)) (1 / (n : ℝ)) m n
        ((tr : ℤ) : ℝ) ((tc : ℤ) : ℝ) unitary).get i j
      = Complex.exp ((2 * Real.pi * Complex.I) *
          ((1 / (m : ℝ) * (((i - tr - offr) % m - (m : ℤ) / 2 + offr : ℤ) : ℝ) * shr : ℝ) : ℂ))
        * Complex.exp ((2 * Real.pi * Complex.I) *
          ((1 / (n : ℝ) * (((j - tc - offc) % n - (n : ℤ) / 2 + offc : ℤ) : ℝ) * shc : ℝ) : ℂ))
        * f.get ((i - tr - offr) % m) ((j - tc - offc) % n) :=
  idft2_dft2_period f m n m n hm hn hm0 hn0 le_rfl le_rfl shr shc offr offc tr tc unitary i j
    (Int.emod_lt_of_pos _ (Int.natCast_pos.mpr hm0)) (Int.emod_lt_of_pos _ (Int.natCast_pos.mpr hn0))

/-- **with no forward shift the round trip is a circular roll.** Integer offsets on the way forward and an integer shift on the
way back move the samples circularly and change nothing else: `idft2 (dft2 f)[i, j] = f[(i − tr − offr) mod m, (j − tc − offc) mod n]`. -/
theorem idft2_dft2_full_period_roll (f : Arr ℂ) (m n : ℕ) (hm : f.s0 = m) (hn : f.s1 = n) (hm0 : 0 < m) (hn0 : 0 < n)
    (offr offc tr tc : ℤ) (unitary : Bool) (i j : ℤ) :
    (idft2 (dft2 f (1 / (m : ℝ)) (1 / (n : ℝ)) m n 0 0 offr offc unitary) (1 / (m : ℝ)) (1 / (n : ℝ)) m n
        ((tr : ℤ) : ℝ) ((tc : ℤ) : ℝ) unitary).get i j
      = f.get ((i - tr - offr) % m) ((j - tc - offc) % n) := by
  rw [idft2_dft2_full_period_rolled f m n hm hn hm0 hn0 0 0 offr offc tr tc unitary i j]
  simp only [Complex.ofReal_zero, mul_zero, Complex.exp_zero, one_mul]

/-- **Parseval, forward.** Under the unitary flag, over one full period (`α = (1/m, 1/n)`, output shape = input shape; any
integer offsets and real shifts) `Σ|dft2 f|² = Σ|f|²`. -/
theorem dft2_parseval_full_period (f : Arr ℂ) (m n : ℕ) (hm : f.s0 = m) (hn : f.s1 = n) (hm0 : 0 < m) (hn0 : 0 < n)
    (shr shc : ℝ) (offr offc : ℤ) :
    ∑ u ∈ range m, ∑ v ∈ range n,
        Complex.normSq ((dft2 f (1 / (m : ℝ)) (1 / (n : ℝ)) m n shr shc offr offc true).get u v)
      = ∑ x ∈ range m, ∑ y ∈ range n, Complex.normSq (f.get x y) :=
  dft2_energy f m n hm hn m n hm0 hn0 le_rfl le_rfl shr shc offr offc

open ComplexConjugate in
/-- **Parseval, inverse.** Under the unitary flag the inverse transform over one full period conserves energy just as the
forward transform does: `Σ|idft2 F|² = Σ|F|²` (any real shifts). -/
theorem idft2_parseval_full_period (F : Arr ℂ) (m n : ℕ) (hm : F.s0 = m) (hn : F.s1 = n) (hm0 : 0 < m) (hn0 : 0 < n)
    (shr shc : ℝ) :
    ∑ x ∈ range m, ∑ y ∈ range n,
        Complex.normSq ((idft2 F (1 / (m : ℝ)) (1 / (n : ℝ)) m n shr shc true).get x y)
      = ∑ u ∈ range m, ∑ v ∈ range n, Complex.normSq (F.get u v) := by
  simp only [idft2_eq_conj_dft2, if_true, one_mul, Complex.normSq_conj]
  exact (dft2_energy { F with get := fun i j => conj (F.get i j) } m n hm hn m n hm0 hn0 le_rfl le_rfl shr shc 0 0).trans
    (by simp only [Complex.normSq_conj])

/-- the hypotheses of the full-period theorems are satisfiable by a non-trivial array -/
example : ∃ (f : Arr ℂ) (m n : ℕ), f.s0 = m ∧ f.s1 = n ∧ 0 < m ∧ 0 < n ∧ m ≠ n ∧ f.get 1 2 ≠ f.get 0 0 :=
  ⟨⟨2, 3, fun i j => (i + 2 * j : ℂ)⟩, 2, 3, rfl, rfl, by norm_num, by norm_num, by norm_num, by norm_num⟩

end Lentil.C01
