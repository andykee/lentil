import LentilVerif.Lemmas.Stochastic
import LentilVerif.Gen.Effects
import LentilVerif.Gen.PowerSpectrum
import LentilVerif.Gen.ShotDark
/-! # C18 — stochastic models are reproducible from their seed and physically bounded

**Partial by nature.** Each function is modelled as a deterministic wrapper around an *uninterpreted sampler* (contract:
NumPy's `Generator.poisson/normal/lognormal` are pure functions of the generator state and their parameters; Poisson draws
are non-negative integers). The theorems are about the wrappers. Distributional clauses (means, variances, "different
seeds give different draws") are facts about NumPy's generators: they have no theorem and are sampled as assumption
checks by tools/harness/c18.py. -/
set_option linter.unusedSectionVars false
namespace Lentil.C18
open Lentil Lentil.Stoch Finset

section
variable {K : Type} [Field K] [LinearOrder K] [IsStrictOrderedRing K]

/-- Poisson shot noise is a non-negative integer at every pixel (integer by type; non-negative by the sampler's contract) -/
theorem shot_noise_support (lamMax : K) (draw : Int → Nat → K → Int) (hdraw : ∀ s i lam, 0 ≤ draw s i lam)
    (seed : Int) (n : Nat) (img : Nat → K) (v : Nat → Int) (h : shotPoisson lamMax draw seed n img = some v) (i : Nat) : 0 ≤ v i := by
  rw [(shotPoisson_eq_some h).2]
  exact hdraw _ _ _

/-- both methods reject a frame exactly when it has a negative count or a count above the largest representable mean
(`ValueError`), and only then -/
theorem shot_noise_rejects_negative_and_huge (lamMax : K) (draw : Int → Nat → K → Int) (sqrt : K → K) (trunc : K → Int)
    (z : Int → Nat → K) (seed : Int) (n : Nat) (img : Nat → K) :
    (shotPoisson lamMax draw seed n img = none ↔ ∃ i, i < n ∧ (img i < 0 ∨ lamMax < img i)) ∧
    (shotGaussian lamMax sqrt trunc z seed n img = none ↔ ∃ i, i < n ∧ (img i < 0 ∨ lamMax < img i)) := by
  rw [← shotGuard_iff]
  constructor
  · unfold shotPoisson; split_ifs with h <;> simp [h]
  · unfold shotGaussian; split_ifs with h <;> simp [h]

/-- **tie to the source guards** (regenerated from `shot_noise`: `Gen.shotGuardPoisson` = the tests of the `except ValueError` chain,
`Gen.shotGuardGaussian` = the tests before the draw, each on `np.min(img)` / `np.max(img)` with the literal bound of the source):
for a frame whose minimum is `mn` and maximum `mx`, the source refuses exactly when the model does, the model's largest
representable mean being the literal `9.223372006484771e18` of the source — a changed comparison, reduction or bound breaks this proof -/
theorem shot_guards_follow_source (lit : Nat → Bool → Nat → K) (draw : Int → Nat → K → Int) (sqrt : K → K) (trunc : K → Int)
    (z : Int → Nat → K) (seed : Int) (n : Nat) (img : Nat → K) (mn mx : K)
    (hmn : (∃ i, i < n ∧ img i = mn) ∧ ∀ i, i < n → mn ≤ img i) (hmx : (∃ i, i < n ∧ img i = mx) ∧ ∀ i, i < n → img i ≤ mx) :
    (Gen.shotGuardPoisson lit mn mx = true ↔ shotPoisson (lit 9223372006484771 false 3) draw seed n img = none) ∧
    (Gen.shotGuardGaussian lit mn mx = true ↔ shotGaussian (lit 9223372006484771 false 3) sqrt trunc z seed n img = none) := by
  have key : (decide (mn < 0) || decide (lit 9223372006484771 false 3 < mx)) = true ↔
      ∃ i, i < n ∧ (img i < 0 ∨ lit 9223372006484771 false 3 < img i) := by
    simp only [Bool.or_eq_true, decide_eq_true_eq]
    constructor
    · rintro (h | h)
      · obtain ⟨i, hi, e⟩ := hmn.1; exact ⟨i, hi, Or.inl (e ▸ h)⟩
      · obtain ⟨i, hi, e⟩ := hmx.1; exact ⟨i, hi, Or.inr (e ▸ h)⟩
    · rintro ⟨i, hi, h | h⟩
      · exact Or.inl (lt_of_le_of_lt (hmn.2 i hi) h)
      · exact Or.inr (lt_of_lt_of_le h (hmx.2 i hi))
  have h := shot_noise_rejects_negative_and_huge (lit 9223372006484771 false 3) draw sqrt trunc z seed n img
  exact ⟨by rw [h.1]; exact key, by rw [h.2]; exact key⟩

/-- non-vacuity, and the bound read as a number: at the rationals the regenerated Gaussian guard refuses a frame of maximum `mx`
(minimum 0) exactly when `mx` exceeds 9223372006484771000 (the largest mean NumPy's Poisson sampler accepts) -/
theorem shot_guard_bound_value (mx : ℚ) :
    Gen.shotGuardGaussian (fun m b e => (OfScientific.ofScientific m b e : ℚ)) 0 mx = decide ((9223372006484771000 : ℚ) < mx) := by
  simp only [Gen.shotGuardGaussian, lt_self_iff_false, decide_false, Bool.false_or]
  norm_num

/-- Gaussian shot noise is non-negative whenever the normal draw is not below `-sqrt(count)` (always, in the documented
large-count regime); `sqrt`/`trunc` contracts as hypotheses -/
theorem shot_gaussian_support (lamMax : K) (sqrt : K → K) (trunc : K → Int) (z : Int → Nat → K)
    (hsq : ∀ y, 0 ≤ y → sqrt y * sqrt y = y ∧ 0 ≤ sqrt y) (htr : ∀ y, 0 ≤ y → 0 ≤ trunc y)
    (seed : Int) (n : Nat) (img : Nat → K) (v : Nat → Int) (h : shotGaussian lamMax sqrt trunc z seed n img = some v)
    (i : Nat) (hi : i < n) (hz : -(sqrt (img i)) ≤ z seed i) : 0 ≤ v i := by
  obtain ⟨hpos, rfl⟩ := shotGaussian_eq_some h
  apply htr
  obtain ⟨h1, h2⟩ := hsq (img i) (hpos i hi)
  -- `sqrt · z ≥ sqrt · (−sqrt) = −count`
  have := mul_le_mul_of_nonneg_left hz h2
  rw [mul_neg, h1] at this
  exact neg_le_iff_add_nonneg'.mp this

/-- the documented regime, unconditionally: a normal draw within `k` standard deviations on a count of at least `k²` gives a
non-negative result (for the documented `count > 1000` that is every draw within 31 σ) -/
theorem shot_gaussian_nonneg_in_regime (lamMax : K) (sqrt : K → K) (trunc : K → Int) (z : Int → Nat → K)
    (hsq : ∀ y, 0 ≤ y → sqrt y * sqrt y = y ∧ 0 ≤ sqrt y) (htr : ∀ y, 0 ≤ y → 0 ≤ trunc y)
    (seed : Int) (n : Nat) (img : Nat → K) (v : Nat → Int) (h : shotGaussian lamMax sqrt trunc z seed n img = some v)
    (i : Nat) (hi : i < n) (k : K) (hk : 0 ≤ k) (hz : -k ≤ z seed i) (hreg : k * k ≤ img i) : 0 ≤ v i := by
  apply shot_gaussian_support lamMax sqrt trunc z hsq htr seed n img v h i hi
  have hpos : 0 ≤ img i := le_trans (mul_nonneg hk hk) hreg
  obtain ⟨h1, h2⟩ := hsq (img i) hpos
  have hks : k ≤ sqrt (img i) := (mul_self_le_mul_self_iff hk h2).mpr (hreg.trans_eq h1.symm)
  exact (neg_le_neg hks).trans hz

example : shotGaussian (K := ℚ) 100 (fun y => y) (fun _ => 0) (fun _ _ => 0) 0 2 (fun i => if i = 0 then 4 else -1) = none := by
  decide +kernel

/-- **tie to the source line** (regenerated from `read_noise`: `Gen.readNoiseFrame` = `img + rng.normal(loc=0.0, scale=electrons,
size=img.shape)` with the draw written `loc + scale·z`): the model read noise is that expression at every pixel — a changed `loc`,
`scale` or sign of the sum breaks this proof -/
theorem read_noise_follows_source (lit : Nat → Bool → Nat → K) (z : Int → Nat → K) (e : K) (seed : Int) (img : Nat → K) (i : Nat) :
    readNoise z e seed img i = Gen.readNoiseFrame lit (img i) (z seed i) e := by
  simp [readNoise, Gen.readNoiseFrame]

/-- read noise is additive and independent of the signal; with zero read noise the frame is returned unchanged -/
theorem read_noise_additive (z : Int → Nat → K) (e : K) (seed : Int) (img : Nat → K) (i : Nat) :
    readNoise z e seed img i - img i = e * z seed i ∧ readNoise z 0 seed img i = img i :=
  ⟨add_sub_cancel_left _ _, by rw [readNoise, zero_mul, add_zero]⟩

variable [FloorRing K]

/-- a dark frame without pattern noise equals `floor(rate)` at every pixel, whatever the seed -/
theorem dark_no_fpn_eq_floor_rate (fpn : Int → Nat → K) (rate f : K) (hf : ¬ 0 < f) (seed : Int) (i : Nat) :
    darkCurrent Int.floor fpn rate f seed i = ⌊rate⌋ := by
  rw [darkCurrent, if_neg hf, mul_one, mul_one]

/-- … and the floor is exact: the pattern-free dark level never exceeds the rate, however close the rate is to the next electron -/
theorem dark_never_rounds_up (fpn : Int → Nat → K) (rate f : K) (hf : ¬ 0 < f) (seed : Int) (i : Nat) (n : Int) (h : rate < (n : K)) :
    darkCurrent Int.floor fpn rate f seed i < n ∧ ((darkCurrent Int.floor fpn rate f seed i : Int) : K) ≤ rate := by
  rw [dark_no_fpn_eq_floor_rate fpn rate f hf]
  exact ⟨Int.floor_lt.mpr h, Int.floor_le _⟩

/-- **tie to the source frame** (regenerated from `dark_current`: `Gen.darkUsesFpn` = the test `fpn_factor > 0`, `Gen.darkFloorArg` =
the argument of `np.floor`): the model dark frame is the floor of the source expression with the draw, or the constant 1, as pattern -/
theorem dark_follows_source (fpn : Int → Nat → K) (rate f : K) (seed : Int) (i : Nat) :
    darkCurrent Int.floor fpn rate f seed i = ⌊Gen.darkFloorArg rate 1 (if Gen.darkUsesFpn f = true then fpn seed i else 1)⌋ := by
  by_cases h : 0 < f <;> simp [darkCurrent, Gen.darkUsesFpn, Gen.darkFloorArg, h]

/-- the Rule-07 rate as the source computes it (regenerated) is proportional to the pixel AREA: a pixel `c` times larger collects
`c²` times the dark current, at every temperature and cut-off wavelength (a statement about the translated expression, so an edit
of the area or unit-conversion factors in the source is seen here) -/
theorem rule07_rate_scales_with_pixel_area (exp : K → K) (pow : K → K → K) (lit : Nat → Bool → Nat → K) (T cw px c : K) :
    rule07Rate exp pow lit T cw (c * px) = c * c * rule07Rate exp pow lit T cw px := by
  simp only [rule07Rate, Gen.rule07Rate]
  ring

/-- composition: without pattern noise the Rule-07 dark frame is the floor of the rate **as the source computes it** (regenerated
`Gen.rule07Rate` through `rule07Rate`), at every pixel and for every seed -/
theorem rule07_no_fpn_is_floor_of_source_rate (exp : K → K) (pow : K → K → K) (lit : Nat → Bool → Nat → K) (fpn : Int → Nat → K)
    (T cw px f : K) (hf : ¬ 0 < f) (seed : Int) (i : Nat) :
    rule07Dark Int.floor fpn (rule07Rate exp pow lit T cw px) f seed i = ⌊Gen.rule07Rate exp pow lit T cw px⌋ :=
  dark_no_fpn_eq_floor_rate fpn _ f hf seed i

/-- with pattern noise the frame is `floor(rate · fpn)`: non-negative for a non-negative rate (lognormal draws are positive) -/
theorem dark_fpn_nonneg (fpn : Int → Nat → K) (hfpn : ∀ s i, 0 < fpn s i) (rate f : K) (hr : 0 ≤ rate) (seed : Int) (i : Nat) :
    0 ≤ darkCurrent Int.floor fpn rate f seed i := by
  by_cases hf : 0 < f
  · rw [darkCurrent_of_pos hf]; exact Int.floor_nonneg.mpr (mul_nonneg hr (hfpn seed i).le)
  · rw [dark_no_fpn_eq_floor_rate fpn rate f hf]; exact Int.floor_nonneg.mpr hr

/-- the Rule-07 dark frame is the `dark_current` frame of its rate **for the same seed**: its fixed-pattern noise is the
lognormal draw of that seed (so two calls with equal arguments and seed agree), and without pattern noise it is `floor(rate)` -/
theorem rule07_forwards_seed (fpn : Int → Nat → K) (rate f : K) (seed : Int) (i : Nat) :
    -- regenerated call site: `rule07_dark_current` passes its own `seed` in `dark_current`'s seed position
    (Gen.effTable.filter fun r => r.fn == "detector.rule07_dark_current").map (·.seedForward) = [[("detector.dark_current", "seed")]] ∧
    rule07Dark Int.floor fpn rate f seed i = darkCurrent Int.floor fpn rate f seed i ∧
    (0 < f → rule07Dark Int.floor fpn rate f seed i = ⌊rate * fpn seed i⌋) ∧
    (¬ 0 < f → rule07Dark Int.floor fpn rate f seed i = ⌊rate⌋) := by
  exact ⟨by decide +kernel, rfl, fun h => darkCurrent_of_pos h fpn rate seed i, fun h => dark_no_fpn_eq_floor_rate fpn rate f h seed i⟩
end

/-! ## power_spectrum -/

section
variable {K : Type} [Field K] [DecidableEq K]

/-- a surface-error map is zero outside its mask -/
theorem power_spectrum_zero_outside_mask (sqrt : K → K) (rms : K) (mask : Nat → K) (x : Int → Nat → K) (seed : Int) (n i : Nat)
    (hm : mask i = 0) : powerSpectrum (fun y => decide (y ≠ 0)) sqrt (· / ·) (fun k => (k : K)) rms mask x seed n i = 0 := by
  rw [powerSpectrum_eq, hm, mul_zero, zero_mul, zero_mul]

/-- … with exactly the requested RMS over its non-zero pixels: the mean square over them is `rms²`, for every mask shape
(`rms(x·s) = target` for `s = target/rms(x)`). `sqrt` contract as hypothesis; `hS`: the masked noise is not identically 0. -/
theorem power_spectrum_rms_exact [LinearOrder K] [IsStrictOrderedRing K] (sqrt : K → K) (hsq : ∀ y, 0 ≤ y → sqrt y * sqrt y = y)
    (rms : K) (mask : Nat → K) (x : Int → Nat → K) (seed : Int) (n : Nat)
    (hS : (∑ i ∈ range n, (x seed i * mask i) * (x seed i * mask i)) ≠ 0) :
    (∑ i ∈ range n, powerSpectrum (fun y => decide (y ≠ 0)) sqrt (· / ·) (fun k => (k : K)) rms mask x seed n i ^ 2)
      = (countNonzero (fun y => decide (y ≠ 0)) n (fun i => x seed i * mask i) : K) * rms ^ 2 := by
  simp only [powerSpectrum_eq]
  set S := ∑ i ∈ range n, (x seed i * mask i) * (x seed i * mask i) with hSdef
  set c : K := (countNonzero (fun y => decide (y ≠ 0)) n (fun i => x seed i * mask i) : K)
  have hSpos : 0 ≤ S := Finset.sum_nonneg fun i _ => mul_self_nonneg _
  have hc : 0 ≤ c := Nat.cast_nonneg _
  have hs := hsq (c / S) (div_nonneg hc hSpos)
  have : ∀ i, (x seed i * mask i * sqrt (c / S) * rms) ^ 2 = ((x seed i * mask i) * (x seed i * mask i)) * ((sqrt (c / S) * sqrt (c / S)) * rms ^ 2) := by
    intro i; ring
  simp only [this, ← Finset.sum_mul, hs]
  rw [← hSdef, ← mul_assoc, mul_div_assoc', mul_div_cancel_left₀ _ hS]

/-- … over the **mask**: for a binary mask and filtered noise that is non-zero on it (probability 1), the count the code uses
(`count_nonzero(opd)`) is the number of mask pixels, so the mean square of the surface over the mask is exactly `rms²` -/
theorem power_spectrum_rms_over_mask [LinearOrder K] [IsStrictOrderedRing K] (sqrt : K → K) (hsq : ∀ y, 0 ≤ y → sqrt y * sqrt y = y)
    (rms : K) (mask : Nat → K) (x : Int → Nat → K) (seed : Int) (n : Nat)
    (hbin : ∀ i, i < n → mask i = 0 ∨ mask i = 1) (hx : ∀ i, i < n → mask i = 1 → x seed i ≠ 0)
    (hne : ∃ i, i < n ∧ mask i = 1) :
    countNonzero (fun y => decide (y ≠ 0)) n (fun i => x seed i * mask i) = ((List.range n).filter fun i => decide (mask i = 1)).length ∧
    (∑ i ∈ range n, powerSpectrum (fun y => decide (y ≠ 0)) sqrt (· / ·) (fun k => (k : K)) rms mask x seed n i ^ 2)
      = (((List.range n).filter fun i => decide (mask i = 1)).length : K) * rms ^ 2 := by
  have hcount : countNonzero (fun y => decide (y ≠ 0)) n (fun i => x seed i * mask i)
      = ((List.range n).filter fun i => decide (mask i = 1)).length := by
    refine countNonzero_eq_length_filter fun i hi => ?_
    rcases hbin i hi with h0 | h1
    · simp [h0]
    · simp [h1, hx i hi h1]
  refine ⟨hcount, ?_⟩
  rw [← hcount]
  refine power_spectrum_rms_exact sqrt hsq rms mask x seed n fun h0 => ?_
  -- a sum of squares vanishes only if every term does, but the noise is non-zero on the mask
  obtain ⟨i, hi, hm⟩ := hne
  have := (Finset.sum_eq_zero_iff_of_nonneg fun j _ => mul_self_nonneg _).mp h0 i (Finset.mem_range.mpr hi)
  rw [hm, mul_one] at this
  exact hx i hi hm (mul_self_eq_zero.mp this)

/-- the surface scales linearly with the requested RMS (and nothing else depends on it) -/
theorem power_spectrum_homogeneous (sqrt : K → K) (rms k : K) (mask : Nat → K) (x : Int → Nat → K) (seed : Int) (n i : Nat) :
    powerSpectrum (fun y => decide (y ≠ 0)) sqrt (· / ·) (fun k => (k : K)) (k * rms) mask x seed n i
      = k * powerSpectrum (fun y => decide (y ≠ 0)) sqrt (· / ·) (fun k => (k : K)) rms mask x seed n i := by
  simp only [powerSpectrum_eq]; ring

/-- the normalisation of the noise filter cannot matter: multiplying the filtered noise by any `c > 0` (another PSD normalisation,
the `sqrt(m·n)` factor, a different FFT norm) returns the same surface — for a `sqrt` that is homogeneous on positive scales -/
theorem power_spectrum_invariant_under_noise_scale [LinearOrder K] [IsStrictOrderedRing K] (sqrt : K → K)
    (hsc : ∀ y c : K, 0 < c → sqrt (y / (c * c)) = sqrt y / c) (rms c : K) (hc : 0 < c) (mask : Nat → K) (x : Int → Nat → K)
    (seed : Int) (n i : Nat) :
    powerSpectrum (fun y => decide (y ≠ 0)) sqrt (· / ·) (fun k => (k : K)) rms mask (fun sd j => c * x sd j) seed n i =
      powerSpectrum (fun y => decide (y ≠ 0)) sqrt (· / ·) (fun k => (k : K)) rms mask x seed n i := by
  have hc0 : c ≠ 0 := ne_of_gt hc
  have hcount : countNonzero (fun y => decide (y ≠ 0)) n (fun j => c * x seed j * mask j) =
      countNonzero (fun y => decide (y ≠ 0)) n (fun j => x seed j * mask j) :=
    countNonzero_eq_length_filter fun j _ => by simp only [mul_assoc, mul_ne_zero_iff, ne_eq, hc0, not_false_eq_true, true_and]
  have hsum : (∑ j ∈ range n, (c * x seed j * mask j) * (c * x seed j * mask j)) =
      (c * c) * ∑ j ∈ range n, (x seed j * mask j) * (x seed j * mask j) := by
    rw [Finset.mul_sum]; apply Finset.sum_congr rfl; intro j _; ring
  simp only [powerSpectrum_eq, hcount, hsum]
  rw [mul_comm (c * c), ← div_div, hsc _ c hc, mul_div_assoc', mul_assoc c, mul_assoc c, mul_div_cancel_left₀ _ hc0]

/-- once a map has mean square `rms²` over its `c` non-zero pixels, normalising it again multiplies it by exactly 1 — the
normalisation the code applies is a projection (this is what the correspondence op `st.power` checks on the returned map) -/
theorem power_spectrum_fixed_point [LinearOrder K] [IsStrictOrderedRing K] (sqrt : K → K) (hsqr : ∀ y, 0 ≤ y → sqrt (y * y) = y)
    (c rms : K) (hc : 0 < c) (hr : 0 < rms) : sqrt (c / (c * rms ^ 2)) * rms = 1 := by
  rw [div_mul_cancel_left₀ hc.ne', sq, mul_inv, hsqr _ (inv_nonneg.mpr hr.le), inv_mul_cancel₀ hr.ne']
end

/-! ## power_spectrum: index bookkeeping regenerated from wfe.py (Gen/PowerSpectrum.lean) -/

/-- (a PIN on regenerated text: the numeric model works on the flattened map and does not consume these shapes) the frequency grid /
filter and the noise array both have the mask's (rows, cols) shape, square or not — stated about
the shapes **as the source builds them** (`n, m = mask.shape; mgrid[0:n, 0:m]; normal(size=[n, m])`, re-read on every run):
swapping rows and columns anywhere changes a generated definition and this stops checking -/
theorem filter_shape_eq_mask_shape (rows cols : Int) :
    Gen.psGridShape rows cols = (rows, cols) ∧ Gen.psNoiseShape rows cols = Gen.psGridShape rows cols := ⟨rfl, rfl⟩

/-- each axis of the frequency grid is centred on index `⌊len/2⌋ + 1` of **its own** length and normalised by it
(cycles per pixel along rows use the row count, along columns the column count) -/
theorem frequency_grid_per_axis (rows cols i j : Int) :
    Gen.psFreqRow rows cols i j = (i - (rows / 2 + 1), rows) ∧ Gen.psFreqCol rows cols i j = (j - (cols / 2 + 1), cols) := ⟨rfl, rfl⟩

/-! ## reproducibility -/

/-- every seeded model is a function of its arguments and seed only (regenerated part, read off the source on every run):
EVERY function with a parameter named `seed` (the filter is on the signature, `takesSeed`) either builds its generator as `default_rng(seed)` — the bare parameter, nothing derived
from it (`seed % 2**32`, `seed or 0`, no argument) — or hands `seed` on unchanged to such a function (`rule07_dark_current →
dark_current`); none of them touches the global generator, a cache or a module global, or writes an argument in place;
in the model the wrappers take the sampler, the seed and the arguments and nothing else -/
theorem seeded_is_function_of_args :
    (Gen.effTable.filter fun r => r.takesSeed).map (fun r => (r.fn, r.rngArgs, r.seedForward)) =
      [("detector.dark_current", ["seed"], []), ("detector.read_noise", ["seed"], []),
       ("detector.rule07_dark_current", [], [("detector.dark_current", "seed")]),
       ("detector.shot_noise", ["seed"], []), ("wfe.power_spectrum", ["seed"], [])] ∧
    (Gen.effTable.filter fun r => r.takesSeed).map
        (fun r => (r.globalRng, r.writes, r.cacheWrites, r.globalWrites)) = List.replicate 5 (false, [], [], []) ∧
    -- no other function builds a generator at all
    (Gen.effTable.filter fun r => !r.rngArgs.isEmpty && !r.seeded).map (·.fn) = [] := by decide +kernel

/-! ## cosmic rays -/

/-- the accumulation of ray deposits is non-negative at every pixel when every deposit is `flux · distance` with both
non-negative. (That `cosmic_rays` IS this accumulation — zeros frame of the requested shape, `+=` of per-ray frames, every
deposit non-negative — is sampled by the correspondence op `st.cosmic` on recorded per-ray frames, not proved: see UNPROVEN.) -/
theorem cosmic_accumulation_nonneg {K : Type} [Field K] [LinearOrder K] [IsStrictOrderedRing K]
    (deps : List (Nat × K × K)) (h : ∀ d ∈ deps, 0 ≤ d.2.1 ∧ 0 ≤ d.2.2) (i : Nat) : 0 ≤ cosmicFrame deps i := by
  rw [cosmicFrame_eq_sum]
  refine List.sum_nonneg (List.forall_mem_map.2 fun d hd => ?_)
  split_ifs
  · exact mul_nonneg (h d hd).1 (h d hd).2
  · exact le_rfl

/-- support of a cosmic-ray frame (the accumulation model `cosmicFrame`, a total function of the pixel index): the frame
is exactly 0 at every pixel no ray segment deposits into — in particular the whole frame is 0 when no ray strikes (`nrays = 0`) — and
adding one more deposit changes only its own pixel, by `flux · distance` -/
theorem cosmic_frame_support {K : Type} [Field K] (deps : List (Nat × K × K)) (i : Nat) :
    ((∀ d ∈ deps, d.1 ≠ i) → cosmicFrame deps i = 0) ∧ cosmicFrame ([] : List (Nat × K × K)) i = 0 ∧
    (∀ d : Nat × K × K, cosmicFrame (deps ++ [d]) i = cosmicFrame deps i + if d.1 = i then d.2.1 * d.2.2 else 0) := by
  refine ⟨fun h => ?_, rfl, fun d => ?_⟩
  · rw [cosmicFrame_eq_sum]
    exact List.sum_eq_zero (List.forall_mem_map.2 fun d hd => if_neg (h d hd))
  · simp only [cosmicFrame_eq_sum, List.map_append, List.sum_append, List.map_cons, List.map_nil, List.sum_singleton]

/-- a cosmic-ray frame is finite in the only sense a real-valued model has: every pixel is bounded by the total charge deposited,
`0 ≤ frame i ≤ Σ flux · distance` over all deposits (non-negative deposits) -/
theorem cosmic_frame_bounded {K : Type} [Field K] [LinearOrder K] [IsStrictOrderedRing K]
    (deps : List (Nat × K × K)) (h : ∀ d ∈ deps, 0 ≤ d.2.1 ∧ 0 ≤ d.2.2) (i : Nat) :
    0 ≤ cosmicFrame deps i ∧ cosmicFrame deps i ≤ (deps.map fun d => d.2.1 * d.2.2).sum := by
  refine ⟨cosmic_accumulation_nonneg deps h i, ?_⟩
  rw [cosmicFrame_eq_sum]
  apply List.sum_le_sum
  intro d hd
  split_ifs
  · exact le_rfl
  · exact mul_nonneg (h d hd).1 (h d hd).2

end Lentil.C18
