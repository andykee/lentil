import LentilVerif.Lemmas.PropLinear
import LentilVerif.Lemmas.SplitPlane
import LentilVerif.Props.C07
import LentilVerif.Props.C09
import LentilVerif.Props.C04
/-! # C03 — splitting an aperture into segments never changes the result

The lemmas the theorems rest on are in Lemmas/PlaneAlg, ChainExtents, SplitPlane and PropLinear, for the slices in Lemmas/PlaneLoop.
`Gen.sliceOffset` is regenerated from lentil/helper.py on every run. -/
namespace Lentil.C03
open Lentil

/-- **index lemma**: the sub-array `arr[r0:r1, c0:c1]` of an array of shape `(S0, S1)`, carried as a field at
`slice_offset(s, shape)`, embeds to `arr` restricted to the slice: pixel `(i, j)` of the array sits at the global
coordinate `(i - S0/2, j - S1/2)` whatever slice it was cut with -/
theorem slice_offset_embeds {K : Type} [Zero K] (g : Int → Int → K) (r0 r1 c0 c1 S0 S1 r c : Int) :
    (Fld.mk ⟨r1 - r0, c1 - c0, fun i j => g (i + r0) (j + c0)⟩
        (Gen.sliceOffset r0 r1 c0 c1 S0 S1).1 (Gen.sliceOffset r0 r1 c0 c1 S0 S1).2).emb r c
      = if r0 ≤ r + S0 / 2 ∧ r + S0 / 2 < r1 ∧ c0 ≤ c + S1 / 2 ∧ c + S1 / 2 < c1 then g (r + S0 / 2) (c + S1 / 2) else 0 :=
  emb_slice g r0 r1 c0 c1 S0 S1 r c

section segments
variable {K R : Type} [NonUnitalNonAssocSemiring K]

/-- **segments add up to the monolithic aperture**: for masks with pairwise disjoint supports the segment transmissions
sum, at every pixel, to the transmission of the union mask — whatever the amplitude and OPD (scalar or array), and
whatever the bounding boxes (they do not even appear: `segPhasor_emb` shows the mask factor zeroes the foreign pixels
of an overlapping box) -/
theorem segments_sum (ph : R → K) (amp : Attr K) (opd : Attr R) (S0 S1 : Int) (ms : List (Int → Int → Bool))
    (hdis : ms.Pairwise (fun a b => ∀ i j, ¬ (a i j = true ∧ b i j = true))) (r c : Int) :
    sumList ms (fun m => segFactor ph amp opd S0 S1 m r c)
      = segFactor ph amp opd S0 S1 (fun i j => ms.any (fun m => m i j)) r c :=
  segFactor_sum_disjoint ph amp opd S0 S1 ms hdis r c

/-- **one plane, two descriptions**: a plane whose mask is split into segments with pairwise disjoint supports (any
bounding slices covering them, overlapping or not) produces the same total field, at every pixel, as the plane with the
single union mask — for any number of incoming fields. Hypotheses `hbig*`: no bounding box is a single pixel (known
finding KF-C03-one-pixel-segment). -/
theorem segmented_eq_monolithic (ph : R → K) (amp : Attr K) (opd : Attr R) (S0 S1 : Int) (l : List Seg) (g0 : Seg)
    (hc : ∀ g ∈ l, g.covers S0 S1) (hc0 : g0.covers S0 S1)
    (hbig : ∀ g ∈ l, g.s.r0 < g.s.r1 ∧ g.s.c0 < g.s.c1 ∧ ¬ (g.s.r1 - g.s.r0 = 1 ∧ g.s.c1 - g.s.c0 = 1))
    (hbig0 : g0.s.r0 < g0.s.r1 ∧ g0.s.c0 < g0.s.c1 ∧ ¬ (g0.s.r1 - g0.s.r0 = 1 ∧ g0.s.c1 - g0.s.c0 = 1))
    (hdis : (l.map Seg.m).Pairwise (fun a b => ∀ i j, ¬ (a i j = true ∧ b i j = true)))
    (hM : ∀ i j, g0.m i j = (l.map Seg.m).any (fun m => m i j))
    (data : List (Fld K)) (hd : ∀ f ∈ data, 0 < f.arr.s0 ∧ 0 < f.arr.s1) (r c : Int) :
    sumList (planeMultiply ph ⟨amp, opd, .segs S0 S1 l⟩ data) (fun g => g.emb r c)
      = sumList (planeMultiply ph ⟨amp, opd, .segs S0 S1 [g0]⟩ data) (fun g => g.emb r c) := by
  have hl : SegsOK S0 S1 l := fun g hg => ⟨hc g hg, hbig g hg⟩
  have h0 : SegsOK S0 S1 [g0] := List.forall_mem_singleton.mpr ⟨hc0, hbig0⟩
  have hT : planeT ph ⟨amp, opd, .segs S0 S1 l⟩ = planeT ph ⟨amp, opd, .segs S0 S1 [g0]⟩ :=
    SplitPlane.planeT_eq ph ⟨amp, opd, S0, S1, l, g0⟩ ⟨hl, h0, hdis, hM⟩
  rw [C07.plane_multiply_ok ph ⟨amp, opd, .segs S0 S1 l⟩ hl data hd, C07.plane_multiply_ok ph ⟨amp, opd, .segs S0 S1 [g0]⟩ h0 data hd, hT]

/-- non-vacuity: two segments with overlapping bounding *rows/columns ranges* but disjoint supports, their union, and a
field on which both descriptions give the same total -/
example : ([Witness.g2, Witness.g3].map Seg.m).Pairwise (fun a b => ∀ i j, ¬ (a i j = true ∧ b i j = true)) ∧
    sumList (planeMultiply Witness.ph1 ⟨.scalar 2, .scalar 0, .segs 5 5 [Witness.g2, Witness.g3]⟩ [Witness.a55]) (fun g => g.emb (-2) 0) = 10 ∧
    sumList (planeMultiply Witness.ph1 ⟨.scalar 2, .scalar 0, .segs 5 5 [Witness.g23]⟩ [Witness.a55]) (fun g => g.emb (-2) 0) = 10 :=
  ⟨Witness.g23_disjoint, by rfl, by rfl⟩

/-- **known finding KF-C03-one-pixel-segment, on the model** (the negation of `segmented_eq_monolithic` without `hbig`):
the partition {one pixel (1,1)} ∪ {2×3 block} of a 5×5 aperture against the monolithic union mask, on a 5×5 field of ones:
at the global coordinate (-2, -2) — pixel (0, 0), outside every mask — the monolithic total is 0 and the segmented total
is 1, because the 1×1 phasor of the one-pixel segment is broadcast over the whole field -/
theorem kf_one_pixel_segment :
    ([Witness.g1, Witness.g2].map Seg.m).Pairwise (fun a b => ∀ i j, ¬ (a i j = true ∧ b i j = true)) ∧
    (∀ i j, Witness.g12.m i j = ([Witness.g1, Witness.g2].map Seg.m).any (fun m => m i j)) ∧
    sumList (planeMultiply Witness.ph1 ⟨.scalar 1, .scalar 0, .segs 5 5 [Witness.g1, Witness.g2]⟩ [Witness.ones55]) (fun g => g.emb (-2) (-2)) = 1 ∧
    sumList (planeMultiply Witness.ph1 ⟨.scalar 1, .scalar 0, .segs 5 5 [Witness.g12]⟩ [Witness.ones55]) (fun g => g.emb (-2) (-2)) = 0 :=
  ⟨Witness.g12_disjoint, fun _ _ => rfl, by rfl, by rfl⟩

/-- non-vacuity of `ChainOK`: the fresh wavefront through a two-segment plane -/
example : ChainOK Witness.ph1 [(⟨.scalar 2, .scalar 0, .segs 5 5 [Witness.g2, Witness.g3]⟩ : PlaneM Int Int)] [Witness.w0] :=
  Witness.chain_ok

/-- **chains of planes distribute**: after any chain of planes the total field is the total incoming field times the
product of the plane transmissions, pixel by pixel — the sum over all (field × segment × segment × …) products equals
the product of the sums. (`ChainOK`: positive shapes and no one-element intermediate field.) -/
theorem chain_distrib (ph : R → K) (ps : List (PlaneM K R)) (data : List (Fld K)) (hok : ChainOK ph ps data) (r c : Int) :
    sumList (chainMultiply ph ps data) (fun g => g.sem r c)
      = ps.foldl (fun acc p => acc * planeT ph p r c) (sumList data (fun f => f.sem r c)) := by
  induction ps generalizing data with
  | nil => rfl
  | cons p ps ih =>
    obtain ⟨hd, hq, h1, hs, hrest⟩ := hok
    show sumList (chainMultiply ph ps (planeMultiply ph p data)) (fun g => g.sem r c) = _
    rw [ih _ hrest, List.foldl_cons, sumList_sem_eq_emb _ hs, C07.plane_multiply_total ph p data hd hq h1 r c]
    rfl

/-- hence two chains whose planes have pairwise equal transmissions (e.g. segmented vs monolithic, plane by plane, by
`segments_sum`) give the same total field at every pixel -/
theorem chain_segmented_eq (ph : R → K) (ps qs : List (PlaneM K R)) (data : List (Fld K))
    (hp : ChainOK ph ps data) (hq : ChainOK ph qs data)
    (hT : ps.map (planeT ph) = qs.map (planeT ph)) (r c : Int) :
    sumList (chainMultiply ph ps data) (fun g => g.sem r c) = sumList (chainMultiply ph qs data) (fun g => g.sem r c) := by
  rw [chain_distrib ph ps data hp, chain_distrib ph qs data hq]
  rw [← List.foldl_map (f := planeT ph) (g := fun acc t => acc * t r c),
      ← List.foldl_map (f := planeT ph) (g := fun acc t => acc * t r c), hT]

end segments

section propagate
variable {K R : Type} [Add R] [Sub R] [Mul R] [Neg R] [RealLike R] [NonUnitalNonAssocSemiring K] [CxLike K R]

/-- **propagation is additive in the embedded field**: two descriptions of a wavefront — any numbers of fields of any
shapes and offsets — with the same total field at every pixel of the infinite plane (e.g. segmented and monolithic, by
`chain_segmented_eq`) give, after `propagate_dft` with any sampling `αr, αc`, output shape and propagation shape, fields
whose sum is the same at every output sample: each sub-array is re-centred by its own offset inside `dft2`, which makes
its transform the transform of its zero-padded embedding (`dft2_eq_boxDft`), and the transform is additive. The unitary
scale factor is common. (Tilt-free fields, no output mask: `propagateDftNoTilt`.) -/
theorem propagate_linear (A B : List (Fld K)) (hA : ∀ f ∈ A, 0 < f.arr.s0 ∧ 0 < f.arr.s1) (hB : ∀ f ∈ B, 0 < f.arr.s0 ∧ 0 < f.arr.s1)
    (htot : ∀ r c, sumList A (fun f => f.emb r c) = sumList B (fun f => f.emb r c))
    (αr αc : R) (shapeOut propOut : Int × Int) (u v : Int) :
    sumList (propagateDftNoTilt A αr αc shapeOut propOut) (fun g => g.arr.get u v)
      = sumList (propagateDftNoTilt B αr αc shapeOut propOut) (fun g => g.arr.get u v) := by
  unfold propagateDftNoTilt
  cases propWindow shapeOut propOut with
  | none => rfl
  | some w =>
    simp only [sumList_map_comp]
    exact dft2_total_congr A B (shape_nonneg_of_pos hA) (shape_nonneg_of_pos hB) htot αr αc _ _ _ _ true u v

/-- all output fields of the propagation occupy the same window, so the statement carries over to the embedded total:
the propagated `Wavefront.field` (and with `views_depend_on_total` the intensity) of both descriptions agree -/
theorem propagate_linear_emb (A B : List (Fld K)) (hA : ∀ f ∈ A, 0 < f.arr.s0 ∧ 0 < f.arr.s1) (hB : ∀ f ∈ B, 0 < f.arr.s0 ∧ 0 < f.arr.s1)
    (htot : ∀ r c, sumList A (fun f => f.emb r c) = sumList B (fun f => f.emb r c))
    (αr αc : R) (shapeOut propOut : Int × Int) (r c : Int) :
    sumList (propagateDftNoTilt A αr αc shapeOut propOut) (fun g => g.emb r c)
      = sumList (propagateDftNoTilt B αr αc shapeOut propOut) (fun g => g.emb r c) := by
  unfold propagateDftNoTilt
  cases propWindow shapeOut propOut with
  | none => rfl
  | some w =>
    simp only [sumList_map_comp]
    exact dftFields_total_congr A B (shape_nonneg_of_pos hA) (shape_nonneg_of_pos hB) htot αr αc _ _ _ _ true _ _ r c

/-- **additivity of the propagation of one field loop body, for any output window**: `propagateField` of Model/Propagate.lean
(the body of `propagate_dft`'s loop) with a common shift, any output extent `oe` (whole array or mask box) and any propagation shape —
descriptions with the same total embedded field give the same summed output at every global coordinate (a dropped field
counts as zero, `embO`) -/
theorem propagateField_linear (A B : List (Fld K)) (hA : ∀ f ∈ A, 0 < f.arr.s0 ∧ 0 < f.arr.s1) (hB : ∀ f ∈ B, 0 < f.arr.s0 ∧ 0 < f.arr.s1)
    (htot : ∀ r c, sumList A (fun f => f.emb r c) = sumList B (fun f => f.emb r c))
    (αr αc : R) (oe : Extent) (P0 P1 fix0 fix1 : Int) (sub0 sub1 : R) (r c : Int) :
    sumList A (fun f => embO (propagateField ⟨f, fix0, fix1, sub0, sub1⟩ αr αc oe P0 P1) r c)
      = sumList B (fun f => embO (propagateField ⟨f, fix0, fix1, sub0, sub1⟩ αr αc oe P0 P1) r c) := by
  simp only [propagateField]
  cases dftWindow oe P0 P1 fix0 fix1 with
  | none => exact (sumList_zero (K := K) A).trans (sumList_zero B).symm
  | some w => exact dftFields_total_congr A B (shape_nonneg_of_pos hA) (shape_nonneg_of_pos hB) htot αr αc _ _ _ _ true _ _ r c

/-- **propagation with a common tilt shift and an output mask is additive in the embedded field**: as `propagate_linear_emb`,
for C02's `propagateDft` (the model the driver runs) when all fields carry the same shift `fix + sub` — whatever the
shift, the output mask box, the output and propagation shapes and the sampling -/
theorem propagate_common_linear (A B : List (Fld K)) (hA : ∀ f ∈ A, 0 < f.arr.s0 ∧ 0 < f.arr.s1) (hB : ∀ f ∈ B, 0 < f.arr.s0 ∧ 0 < f.arr.s1)
    (htot : ∀ r c, sumList A (fun f => f.emb r c) = sumList B (fun f => f.emb r c))
    (αr αc : R) (S0 S1 P0 P1 os : Int) (mask : Option Extent) (fix0 fix1 : Int) (sub0 sub1 : R) (r c : Int) :
    sumList (propagateDftCommon A αr αc S0 S1 P0 P1 os mask fix0 fix1 sub0 sub1) (fun g => g.emb r c)
      = sumList (propagateDftCommon B αr αc S0 S1 P0 P1 os mask fix0 fix1 sub0 sub1) (fun g => g.emb r c) := by
  unfold propagateDftCommon propagateDft
  rw [List.filterMap_map, List.filterMap_map, sumList_filterMap_emb, sumList_filterMap_emb]
  exact propagateField_linear A B hA hB htot αr αc _ _ _ fix0 fix1 sub0 sub1 r c

end propagate

section coherent
variable {K : Type} [NonAssocSemiring K]

/-- **contributions add coherently**: `Wavefront.intensity` at a sample is the squared modulus of the *sum of the complex
amplitudes* of all fields landing there (`nsq z = |z^2|`), for any number of overlapping fields — e.g. the one field per
segment that `propagate_dft` produces — never the sum of their intensities -/
theorem intensity_coherent (nsq : K → K) (h0 : nsq 0 = 0) (S0 S1 : Int) (data : List (Fld K))
    (hpos : ∀ f ∈ data, 0 < f.arr.s0 ∧ 0 < f.arr.s1) (I : Arr K) (h : wfIntensity 1 nsq S0 S1 data = some I)
    (i j : Int) (hi : 0 ≤ i ∧ i < S0) (hj : 0 ≤ j ∧ j < S1) :
    I.get i j = nsq (sumList data (fun f => f.emb (i - S0 / 2) (j - S1 / 2))) := by
  obtain ⟨_, _, hget⟩ := C07.intensity_eq_normSq_field nsq h0 S0 S1 data hpos I h
  rw [hget i j hi hj, C07.field_eq_sum S0 S1 data i j hi hj]

/-- hence two descriptions with the same total field (segmented / monolithic) have the same `field` and the same
`intensity`, sample by sample -/
theorem views_depend_on_total (nsq : K → K) (h0 : nsq 0 = 0) (S0 S1 : Int) (A B : List (Fld K))
    (hA : ∀ f ∈ A, 0 < f.arr.s0 ∧ 0 < f.arr.s1) (hB : ∀ f ∈ B, 0 < f.arr.s0 ∧ 0 < f.arr.s1)
    (htot : ∀ r c, sumList A (fun f => f.emb r c) = sumList B (fun f => f.emb r c))
    (IA IB : Arr K) (hIA : wfIntensity 1 nsq S0 S1 A = some IA) (hIB : wfIntensity 1 nsq S0 S1 B = some IB)
    (i j : Int) (hi : 0 ≤ i ∧ i < S0) (hj : 0 ≤ j ∧ j < S1) :
    (wfField 1 S0 S1 A).get i j = (wfField 1 S0 S1 B).get i j ∧ IA.get i j = IB.get i j := by
  rw [C07.field_eq_sum S0 S1 A i j hi hj, C07.field_eq_sum S0 S1 B i j hi hj,
      intensity_coherent nsq h0 S0 S1 A hA IA hIA i j hi hj, intensity_coherent nsq h0 S0 S1 B hB IB hIB i j hi hj, htot]
  exact ⟨rfl, rfl⟩

theorem views_agree (nsq : K → K) (h0 : nsq 0 = 0) (S0 S1 : Int) (A B : List (Fld K))
    (hA : ∀ f ∈ A, 0 < f.arr.s0 ∧ 0 < f.arr.s1) (hB : ∀ f ∈ B, 0 < f.arr.s0 ∧ 0 < f.arr.s1)
    (htot : ∀ r c, sumList A (fun f => f.emb r c) = sumList B (fun f => f.emb r c))
    (i j : Int) (hi : 0 ≤ i ∧ i < S0) (hj : 0 ≤ j ∧ j < S1) :
    (wfField 1 S0 S1 A).get i j = (wfField 1 S0 S1 B).get i j ∧
    ∃ IA IB, wfIntensity 1 nsq S0 S1 A = some IA ∧ wfIntensity 1 nsq S0 S1 B = some IB ∧ IA.get i j = IB.get i j := by
  obtain ⟨IA, hIA⟩ := C07.intensity_defined nsq S0 S1 A
  obtain ⟨IB, hIB⟩ := C07.intensity_defined nsq S0 S1 B
  obtain ⟨hf, hI⟩ := views_depend_on_total nsq h0 S0 S1 A B hA hB htot IA IB hIA hIB i j hi hj
  exact ⟨hf, IA, IB, hIA, hIB, hI⟩

end coherent

/-! ## Independence of array size and of the unit of length -/
section invariance
variable {K R : Type} [Add R] [Sub R] [Mul R] [Neg R] [RealLike R] [NonUnitalNonAssocSemiring K] [CxLike K R]

/-- **`dft2` may be evaluated in blocks of any height**: if a family of sub-arrays (row blocks, column blocks, tiles — of any
sizes, each carried with its own offset) has the same total embedding as the field `f`, the sum of their transforms is
the transform of `f`, at every output sample. There is no size beyond which a different formula applies. -/
theorem dft2_any_blocks (f : Fld K) (blocks : List (Fld K)) (hf : 0 < f.arr.s0 ∧ 0 < f.arr.s1)
    (hb : ∀ b ∈ blocks, 0 < b.arr.s0 ∧ 0 < b.arr.s1)
    (htot : ∀ r c, sumList blocks (fun b => b.emb r c) = f.emb r c)
    (αr αc : R) (M N : Int) (shr shc : R) (u v : Int) :
    sumList blocks (fun b => (dft2 b.arr αr αc M N shr shc b.o0 b.o1 false).get u v)
      = (dft2 f.arr αr αc M N shr shc f.o0 f.o1 false).get u v := by
  have key := dft2_total_congr blocks [f] (shape_nonneg_of_pos hb) (List.forall_mem_singleton.mpr (hf.imp le_of_lt le_of_lt))
    (fun r c => by rw [sumList_singleton]; exact htot r c) αr αc M N shr shc false u v
  rwa [sumList_singleton] at key

end invariance

section units
attribute [local instance] PlaneC.realLikeReal

/-- **the sampling parameter is unit-free**: `_dft_alpha` is unchanged when every length (both pixel scales, wavelength, focal
length) is multiplied by the same `k ≠ 0` — propagating in metres, millimetres or nanometres is the same computation -/
theorem dftAlpha_unit_free (k dx0 dx1 du0 du1 wl z : ℝ) (os : Int) (hk : k ≠ 0) :
    dftAlpha (k * dx0) (k * dx1) (k * du0) (k * du1) (k * wl) (k * z) os = dftAlpha dx0 dx1 du0 du1 wl z os :=
  (C02.alpha_scale_invariant k dx0 dx1 du0 du1 wl z os hk 0 0 0 0).1

end units

/-! ## Shared tilts stay common; constructed planes are well formed -/
section tilts
variable {K R : Type} [Zero K] [Mul K]

/-- a plane without fitted tilts hands every incoming tilt list on unchanged: if all fields carry the list `t`, so do all
products (per segment) — the premise "common shift" of `segmented_eq_monolithic_propagateDft` survives masked planes -/
theorem common_tilts_plane (ph : R → K) (p : PlaneM K R) (t : List (TiltEl R)) (data : List (TFld K R))
    (hd : ∀ ft ∈ data, ft.2 = t) : ∀ gt ∈ planeMultiplyT ph p [] data, gt.2 = t := by
  intro gt hgt
  unfold planeMultiplyT at hgt
  obtain ⟨ft, hft, hgt⟩ := List.mem_flatMap.mp hgt
  obtain ⟨⟨q, n⟩, _, hq⟩ := List.mem_filterMap.mp hgt
  obtain ⟨g, _, rfl⟩ := Option.map_eq_some_iff.mp hq
  simpa using hd ft hft

/-- a Tilt plane appends itself exactly once to every field's list, and acts on the data as the default plane does (identity,
`C07.default_plane_identity`) — whatever the number of fields (segments) -/
theorem common_tilts_tilt (ph : R → K) (one : K) (z : R) (e : TiltEl R) (t : List (TiltEl R)) (data : List (TFld K R))
    (hd : ∀ ft ∈ data, ft.2 = t) :
    (∀ gt ∈ tiltMultiplyT ph one z e data, gt.2 = t ++ [e]) ∧
    (tiltMultiplyT ph one z e data).map Prod.fst = planeMultiply ph ⟨.scalar one, .scalar z, .scalar true⟩ (data.map Prod.fst) := by
  refine ⟨List.forall_mem_map.mpr fun ft hft => congrArg (· ++ [e]) (common_tilts_plane ph _ t data hd ft hft), ?_⟩
  unfold tiltMultiplyT
  rw [List.map_map]
  exact planeMultiplyT_data ph _ [] data

end tilts

section constructed
variable {K R : Type}

/-- **well-formedness from the masks alone**: when the bounding slices are the ones the model of `_plane_slice` /
`boundary_slice` computes (`mkMask`), `SplitPlane.WF` needs no assumption about slices — only that the segment masks are
pairwise disjoint with union `g0.m`, and that every mask (each segment's and the union) has two different set entries
(i.e. is not a one-pixel mask: the scope exclusion of the known finding, stated on the masks) -/
theorem splitPlane_wf_of_masks (sp : SplitPlane K R)
    (hl : mkMask sp.S0 sp.S1 (sp.l.map Seg.m) = some (.segs sp.S0 sp.S1 sp.l))
    (h0 : mkMask sp.S0 sp.S1 [sp.g0.m] = some (.segs sp.S0 sp.S1 [sp.g0]))
    (hdis : (sp.l.map Seg.m).Pairwise (fun a b => ∀ i j, ¬ (a i j = true ∧ b i j = true)))
    (hM : ∀ i j, sp.g0.m i j = (sp.l.map Seg.m).any (fun m => m i j))
    (htwo : ∀ g ∈ sp.g0 :: sp.l, ∃ i j i' j', 0 ≤ i ∧ i < sp.S0 ∧ 0 ≤ j ∧ j < sp.S1 ∧ 0 ≤ i' ∧ i' < sp.S0 ∧ 0 ≤ j' ∧ j' < sp.S1 ∧
        g.m i j = true ∧ g.m i' j' = true ∧ (i ≠ i' ∨ j ≠ j')) :
    sp.WF := by
  have hcl := (C07.constructed_plane_covers sp.S0 sp.S1 (sp.l.map Seg.m) sp.S0 sp.S1 sp.l hl).2.2
  have hc0 := (C07.constructed_plane_covers sp.S0 sp.S1 [sp.g0.m] sp.S0 sp.S1 [sp.g0] h0).2.2 sp.g0 (List.mem_cons_self ..)
  -- a covering slice that holds two different set entries is not a single pixel
  have key : ∀ g ∈ sp.g0 :: sp.l, g.covers sp.S0 sp.S1 →
      g.covers sp.S0 sp.S1 ∧ (g.s.r0 < g.s.r1 ∧ g.s.c0 < g.s.c1 ∧ ¬ (g.s.r1 - g.s.r0 = 1 ∧ g.s.c1 - g.s.c0 = 1)) := by
    intro g hg hc
    obtain ⟨i, j, i', j', a1, a2, a3, a4, b1, b2, b3, b4, m1, m2, hne⟩ := htwo g hg
    have c1 := hc.2.2.2.2 i j a1 a2 a3 a4 m1
    have c2 := hc.2.2.2.2 i' j' b1 b2 b3 b4 m2
    exact ⟨hc, by omega, by omega, by omega⟩
  exact ⟨fun g hg => key g (List.mem_cons_of_mem _ hg) (hcl g hg),
    List.forall_mem_singleton.mpr (key _ (List.mem_cons_self ..) hc0), hdis, hM⟩

end constructed

/-! ## Tilt planes anywhere in the chain -/
section interleaved
variable {K R : Type} [MulZeroOneClass K]

/-- **Tilt planes interleaved with masked planes change nothing but the tilt lists**: for array fields that all carry the
list `t`, a chain of masked planes (`ok`, `ExtOK`) and Tilt planes in any order produces exactly the fields of the chain
with the Tilt planes removed, and every one of them carries `t ++` (the Tilt planes in order) — each exactly once, however
many segments the planes have -/
theorem interleaved_data (ph : R → K) (o : R) (hph : ph o = 1) (els : List (ChainEl K R)) (hps : ∀ p ∈ chainPlanes els, p.ok)
    (t : List (TiltEl R)) (d : List (TFld K R)) (hd : ∀ ft ∈ d, ft.1.size1 = false ∧ ft.1.extent.valid)
    (ht : ∀ ft ∈ d, ft.2 = t) (hE : ExtOK ((chainPlanes els).map PlaneM.boxes) ((d.map Prod.fst).map Fld.extent)) :
    (runChainT ph 1 o els d).map Prod.fst = chainMultiply ph (chainPlanes els) (d.map Prod.fst) ∧
    ∀ gt ∈ runChainT ph 1 o els d, gt.2 = t ++ chainTilts els := by
  induction els generalizing d t with
  | nil => exact ⟨rfl, by intro gt hgt; rw [ht gt hgt]; simp [chainTilts]⟩
  | cons el els ih =>
    have hd' : ArrData (d.map Prod.fst) := List.forall_mem_map.mpr hd
    cases el with
    | pl p =>
      have hdata := planeMultiplyT_data ph p [] d
      obtain ⟨hout, hE2⟩ := step_ext_ok ph p (hps p (by simp [chainPlanes])) _ hd' _ hE
      rw [← hdata] at hout hE2
      obtain ⟨h1, h2⟩ := ih (fun q hq => hps q (by simp [chainPlanes, hq])) t _ (List.forall_mem_map.mp hout)
        (common_tilts_plane ph p t d ht) hE2
      exact ⟨h1.trans (by rw [hdata]; rfl), h2⟩
    | tl e =>
      obtain ⟨hl, hdat⟩ := common_tilts_tilt ph 1 o e t d ht
      have hid : (tiltMultiplyT ph 1 o e d).map Prod.fst = d.map Prod.fst := by
        rw [hdat, planeMultiply_default_id ph o hph _ hd']
      obtain ⟨h1, h2⟩ := ih (fun q hq => hps q (by simpa [chainPlanes] using hq)) (t ++ [e]) _
        (List.forall_mem_map.mp (by rw [hid]; exact hd')) hl (by rw [hid]; exact hE)
      exact ⟨h1.trans (by rw [hid]; rfl), fun gt hgt => by rw [h2 gt hgt]; simp [chainTilts]⟩

theorem interleaved_fresh (ph : R → K) (o : R) (hph : ph o = 1) (w0 : Fld K) (h0 : w0.size1 = true) (t0 : List (TiltEl R))
    (p : PlaneM K R) (hp : p.ok) (els : List (ChainEl K R)) (hps : ∀ q ∈ chainPlanes els, q.ok)
    (hE : ExtOK ((chainPlanes els).map PlaneM.boxes) p.boxes) :
    (runChainT ph 1 o (.pl p :: els) [(w0, t0)]).map Prod.fst = chainMultiply ph (p :: chainPlanes els) [w0] ∧
    ∀ gt ∈ runChainT ph 1 o (.pl p :: els) [(w0, t0)], gt.2 = t0 ++ chainTilts els := by
  obtain ⟨hout, hext⟩ := fresh_step_ok ph w0 h0 p hp
  have hdata : (planeMultiplyT ph p [] [(w0, t0)]).map Prod.fst = planeMultiply ph p [w0] :=
    planeMultiplyT_data ph p [] [(w0, t0)]
  rw [← hdata] at hout hext
  obtain ⟨h1, h2⟩ := interleaved_data ph o hph els hps t0 _ (List.forall_mem_map.mp hout)
    (common_tilts_plane ph p t0 [(w0, t0)] (List.forall_mem_singleton.mpr rfl)) (by rw [hext]; exact hE)
  exact ⟨h1.trans (by rw [hdata]; rfl), h2⟩

end interleaved

/-! ## Chains with the explicit exponential -/
section chainexp
attribute [local instance] PlaneC.realLikeReal PlaneC.cxLikeComplex

/-- **a chain of planes multiplies the field by the product of `amplitude · exp(+2πi·OPD/λ)` over the planes** (`K = ℂ`):
after any chain of array-mask planes (`ok`: covering slices, no one-pixel box; `ChainOK`) the total field at every pixel is
the total incoming field times, plane after plane, the sum over that plane's segments of `amplitude · exp(2πi·opd/λ)` on the
segment's mask and `0` off it — `chain_distrib` with the phase factor the code uses, made explicit by `C07.planePh_eq_exp` -/
theorem chain_exp (wavelength : ℝ) (ps : List (PlaneM ℂ ℝ)) (hps : ∀ p ∈ ps, p.ok) (data : List (Fld ℂ))
    (hok : ChainOK (planePh wavelength) ps data) (r c : Int) :
    sumList (chainMultiply (planePh wavelength) ps data) (fun g => g.sem r c)
      = ps.foldl (fun acc p => acc * PlaneC.planeExpT wavelength p r c) (sumList data (fun f => f.sem r c)) := by
  rw [chain_distrib (planePh wavelength) ps data hok r c]
  apply List.foldl_ext
  intro a p hp
  obtain ⟨amp, opd, mask⟩ := p
  cases mask with
  | scalar on => exact absurd (hps _ hp) (by simp [PlaneM.ok])
  | segs S0 S1 l =>
    rw [planeT_segs (planePh wavelength) amp opd S0 S1 l (hps _ hp) r c, C07.planePh_eq_exp_fun]
    rfl

end chainexp

/-! ## End to end -/
section endtoend
variable {K R : Type} [Add R] [Sub R] [Mul R] [Neg R] [RealLike R] [NonAssocSemiring K] [CxLike K R]

/-- every output field of the propagation has a positive shape (positive output and propagation shapes) -/
theorem propagate_pos (data : List (Fld K)) (αr αc : R) (shapeOut propOut : Int × Int)
    (hso : 0 < shapeOut.1 ∧ 0 < shapeOut.2) (hpo : 0 < propOut.1 ∧ 0 < propOut.2) :
    ∀ g ∈ propagateDftNoTilt data αr αc shapeOut propOut, 0 < g.arr.s0 ∧ 0 < g.arr.s1 := by
  intro g hg
  unfold propagateDftNoTilt at hg
  cases hw : propWindow shapeOut propOut with
  | none => rw [hw] at hg; simp at hg
  | some w =>
    rw [hw] at hg
    obtain ⟨f, _, rfl⟩ := List.mem_map.mp hg
    exact dftWindow_pos _ _ _ _ _ (by rw [arrayExtent_eq]; simp only; omega) hpo w hw

/-- the chain part of the end-to-end statement: after the same chain in both descriptions the total embedded field is the
same at every pixel, and all fields have positive shapes. Hypotheses on the input only (`WF`, `ExtOK`). -/
theorem chain_total_emb_eq {K R : Type} [NonAssocSemiring K] (ph : R → K) (w0 : Fld K) (h0 : w0.size1 = true)
    (s : SplitPlane K R) (ss : List (SplitPlane K R)) (hwf : ∀ x ∈ s :: ss, x.WF)
    (hEseg : ExtOK (ss.map fun x => x.seg.boxes) s.seg.boxes) (hEmono : ExtOK (ss.map fun x => x.mono.boxes) s.mono.boxes) :
    (∀ r c, sumList (chainMultiply ph ((s :: ss).map SplitPlane.seg) [w0]) (fun g => g.emb r c)
        = sumList (chainMultiply ph ((s :: ss).map SplitPlane.mono) [w0]) (fun g => g.emb r c)) ∧
    (∀ f ∈ chainMultiply ph ((s :: ss).map SplitPlane.seg) [w0], 0 < f.arr.s0 ∧ 0 < f.arr.s1) ∧
    (∀ f ∈ chainMultiply ph ((s :: ss).map SplitPlane.mono) [w0], 0 < f.arr.s0 ∧ 0 < f.arr.s1) := by
  obtain ⟨okS, finS⟩ := chainOK_fresh ph w0 h0 s.seg (ss.map SplitPlane.seg)
    (List.forall_mem_map.mpr fun x hx => (hwf x hx).seg_ok) (by rw [List.map_map]; exact hEseg)
  obtain ⟨okM, finM⟩ := chainOK_fresh ph w0 h0 s.mono (ss.map SplitPlane.mono)
    (List.forall_mem_map.mpr fun x hx => (hwf x hx).mono_ok) (by rw [List.map_map]; exact hEmono)
  have hT : ((s :: ss).map SplitPlane.seg).map (planeT ph) = ((s :: ss).map SplitPlane.mono).map (planeT ph) := by
    rw [List.map_map, List.map_map]
    exact List.map_congr_left fun x hx => SplitPlane.planeT_eq ph x (hwf x hx)
  refine ⟨fun r c => ?_, finS.pos, finM.pos⟩
  -- no one-element field at the end: `sem` is `emb`
  rw [List.map_cons, List.map_cons, ← sumList_sem_eq_emb _ (fun g hg => (finS g hg).1),
    ← sumList_sem_eq_emb _ (fun g hg => (finM g hg).1)]
  exact chain_segmented_eq ph _ _ [w0] okS okM hT r c

/-- **segmented = monolithic, end to end.** A fresh wavefront (one one-element field) passes a non-empty chain of planes;
every plane is given twice, with its mask split into segments `l` (pairwise disjoint supports, bounding slices that cover
them, possibly overlapping) and with the single union mask `g0` (`SplitPlane.WF`); then `propagate_dft` (tilt-free fields,
no output mask) with any sampling and any output / propagation shape. Then at every sample of the output the complex
`Wavefront.field` of the two descriptions agree, and so do the intensities (`Wavefront.intensity` always returns: C07 `intensity_defined`).
All hypotheses are on the *input*: `WF` per plane, and `ExtOK` — computed from the bounding slices and shapes alone — says
that no box and no intersection of boxes along the chain is a single pixel (the scope exclusion of the known finding
KF-C03-one-pixel-segment). Composes `segments_sum`, `chain_distrib`, `propagate_linear_emb`, C07 `intensity_eq_normSq_field`
and C06 `reduce_total`/`reduce_pairwise_disjoint`. -/
theorem segmented_eq_monolithic_end_to_end (ph : R → K) (w0 : Fld K) (h0 : w0.size1 = true)
    (s : SplitPlane K R) (ss : List (SplitPlane K R)) (hwf : ∀ x ∈ s :: ss, x.WF)
    (hEseg : ExtOK (ss.map fun x => x.seg.boxes) s.seg.boxes) (hEmono : ExtOK (ss.map fun x => x.mono.boxes) s.mono.boxes)
    (αr αc : R) (shapeOut propOut : Int × Int) (hpo : 0 < propOut.1 ∧ 0 < propOut.2) (nsq : K → K) (hn : nsq 0 = 0) (i j : Int)
    (hi : 0 ≤ i ∧ i < shapeOut.1) (hj : 0 ≤ j ∧ j < shapeOut.2) :
    let A := propagateDftNoTilt (chainMultiply ph ((s :: ss).map SplitPlane.seg) [w0]) αr αc shapeOut propOut
    let B := propagateDftNoTilt (chainMultiply ph ((s :: ss).map SplitPlane.mono) [w0]) αr αc shapeOut propOut
    (wfField 1 shapeOut.1 shapeOut.2 A).get i j = (wfField 1 shapeOut.1 shapeOut.2 B).get i j ∧
    ∃ IA IB, wfIntensity 1 nsq shapeOut.1 shapeOut.2 A = some IA ∧ wfIntensity 1 nsq shapeOut.1 shapeOut.2 B = some IB ∧
      IA.get i j = IB.get i j := by
  intro A B
  obtain ⟨hemb, hposS, hposM⟩ := chain_total_emb_eq ph w0 h0 s ss hwf hEseg hEmono
  exact views_agree nsq hn _ _ A B (propagate_pos _ αr αc shapeOut propOut ⟨by omega, by omega⟩ hpo)
    (propagate_pos _ αr αc shapeOut propOut ⟨by omega, by omega⟩ hpo)
    (propagate_linear_emb _ _ hposS hposM hemb αr αc shapeOut propOut) i j hi hj

/-- every output field of the common-shift propagation has a positive shape -/
theorem propagate_common_pos (data : List (Fld K)) (αr αc : R) (S0 S1 P0 P1 os : Int) (mask : Option Extent)
    (fix0 fix1 : Int) (sub0 sub1 : R)
    (hoe : (outExtent (S0 * os) (S1 * os) mask).rmin ≤ (outExtent (S0 * os) (S1 * os) mask).rmax ∧
           (outExtent (S0 * os) (S1 * os) mask).cmin ≤ (outExtent (S0 * os) (S1 * os) mask).cmax)
    (hP : 0 < P0 * os ∧ 0 < P1 * os) :
    ∀ g ∈ propagateDftCommon data αr αc S0 S1 P0 P1 os mask fix0 fix1 sub0 sub1, 0 < g.arr.s0 ∧ 0 < g.arr.s1 :=
  List.forall_mem_filterMap.mpr fun t _ g ht => propagateField_pos t αr αc _ _ _ hoe hP g ht

/-- **segmented = monolithic, end to end, through the propagation model the driver runs** (C02's `propagateDft`:
generated window block `Gen.dftWindow`, generated output shapes): as `segmented_eq_monolithic_end_to_end`, but the fields may
carry a common tilt shift `fix + sub` of any size (Tilt planes shared by all segments, `Wavefront(tilt=…)`) and
`propagate_dft` may be given an output mask (its bounding box `mask`), any output shape, propagation shape and oversampling.
The two descriptions then give the same `Wavefront.field` and intensity at every output sample. -/
theorem segmented_eq_monolithic_propagateDft (ph : R → K) (w0 : Fld K) (h0 : w0.size1 = true)
    (s : SplitPlane K R) (ss : List (SplitPlane K R)) (hwf : ∀ x ∈ s :: ss, x.WF)
    (hEseg : ExtOK (ss.map fun x => x.seg.boxes) s.seg.boxes) (hEmono : ExtOK (ss.map fun x => x.mono.boxes) s.mono.boxes)
    (αr αc : R) (S0 S1 P0 P1 os : Int) (mask : Option Extent) (fix0 fix1 : Int) (sub0 sub1 : R)
    (hoe : (outExtent (S0 * os) (S1 * os) mask).rmin ≤ (outExtent (S0 * os) (S1 * os) mask).rmax ∧
           (outExtent (S0 * os) (S1 * os) mask).cmin ≤ (outExtent (S0 * os) (S1 * os) mask).cmax)
    (hP : 0 < P0 * os ∧ 0 < P1 * os) (nsq : K → K) (hn : nsq 0 = 0) (i j : Int)
    (hi : 0 ≤ i ∧ i < S0 * os) (hj : 0 ≤ j ∧ j < S1 * os) :
    let A := propagateDftCommon (chainMultiply ph ((s :: ss).map SplitPlane.seg) [w0]) αr αc S0 S1 P0 P1 os mask fix0 fix1 sub0 sub1
    let B := propagateDftCommon (chainMultiply ph ((s :: ss).map SplitPlane.mono) [w0]) αr αc S0 S1 P0 P1 os mask fix0 fix1 sub0 sub1
    (wfField 1 (S0 * os) (S1 * os) A).get i j = (wfField 1 (S0 * os) (S1 * os) B).get i j ∧
    ∃ IA IB, wfIntensity 1 nsq (S0 * os) (S1 * os) A = some IA ∧ wfIntensity 1 nsq (S0 * os) (S1 * os) B = some IB ∧
      IA.get i j = IB.get i j := by
  intro A B
  obtain ⟨hemb, hposS, hposM⟩ := chain_total_emb_eq ph w0 h0 s ss hwf hEseg hEmono
  exact views_agree nsq hn _ _ A B (propagate_common_pos _ αr αc S0 S1 P0 P1 os mask fix0 fix1 sub0 sub1 hoe hP)
    (propagate_common_pos _ αr αc S0 S1 P0 P1 os mask fix0 fix1 sub0 sub1 hoe hP)
    (propagate_common_linear _ _ hposS hposM hemb αr αc S0 S1 P0 P1 os mask fix0 fix1 sub0 sub1) i j hi hj

/-- non-vacuity: a chain of two planes, each split into the segments `g2`, `g3` (union `g23`), satisfies `WF` and `ExtOK` -/
example : (∀ x ∈ [Witness.sp, Witness.sp], x.WF) ∧
    ExtOK ([Witness.sp].map fun x => x.seg.boxes) Witness.sp.seg.boxes ∧
    ExtOK ([Witness.sp].map fun x => x.mono.boxes) Witness.sp.mono.boxes :=
  ⟨Witness.sp_sp_wf, Witness.sp_ext.1, Witness.sp_ext.2⟩

end endtoend

section fft

/-- **segmented = monolithic through `propagate_fft`** (`K = ℂ`), composing C09 `fft_eq_propagate_dft` (the FFT path returns the
field of `propagate_dft` at the wavelength it reports) with `propagate_common_linear`: when `propagate_fft` answers for both
descriptions (same grid, output shape and reported wavelength — these depend on the sampling only), every sample of the two
`Wavefront.field`s agrees, for a fresh wavefront through any non-empty chain of partitioned planes (`WF`, `ExtOK`) -/
theorem segmented_eq_monolithic_propagate_fft (ph : ℝ → ℂ) (w0 : Fld ℂ) (h0 : w0.size1 = true)
    (s : SplitPlane ℂ ℝ) (ss : List (SplitPlane ℂ ℝ)) (hwf : ∀ x ∈ s :: ss, x.WF)
    (hEseg : ExtOK (ss.map fun x => x.seg.boxes) s.seg.boxes) (hEmono : ExtOK (ss.map fun x => x.mono.boxes) s.mono.boxes)
    (W0 W1 : Int) (dx0 dx1 du0 du1 wl z : ℝ) (os : Int) (shape : Option (Int × Int)) (scrA scrB : Option (Arr ℂ))
    (lam : ℝ) (S0 S1 : Int) (so : Int × Int) (gA gB : Fld ℂ)
    (hfA : propagateFft 1 (chainMultiply ph ((s :: ss).map SplitPlane.seg) [w0]) false W0 W1 dx0 dx1 du0 du1 wl z os shape scrA
      = FftOut.ok lam S0 S1 so gA)
    (hfB : propagateFft 1 (chainMultiply ph ((s :: ss).map SplitPlane.mono) [w0]) false W0 W1 dx0 dx1 du0 du1 wl z os shape scrB
      = FftOut.ok lam S0 S1 so gB)
    (hcons : dx0 * du0 = dx1 * du1 ∨ (S0 : ℝ) * (dx0 * du0) = (S1 : ℝ) * (dx1 * du1))
    (hp : dx0 * du0 ≠ 0) (hp1 : dx1 * du1 ≠ 0) (hz : z ≠ 0) (hos : 0 < os) (hS : 0 < S0 ∧ 0 < S1)
    (hW : 0 ≤ W0 ∧ W0 ≤ S0 ∧ 0 ≤ W1 ∧ W1 ≤ S1)
    (hfitA : ∀ f ∈ chainMultiply ph ((s :: ss).map SplitPlane.seg) [w0], f.within W0 W1)
    (hfitB : ∀ f ∈ chainMultiply ph ((s :: ss).map SplitPlane.mono) [w0], f.within W0 W1)
    (hso : 0 < so.1 ∧ 0 < so.2) (i j : Int) (hi : 0 ≤ i ∧ i < so.1) (hj : 0 ≤ j ∧ j < so.2) :
    (wavefrontField 1 [gA] so.1 so.2).get i j = (wavefrontField 1 [gB] so.1 so.2).get i j := by
  obtain ⟨hemb, hposS, hposM⟩ := chain_total_emb_eq ph w0 h0 s ss hwf hEseg hEmono
  rw [C09.fft_eq_propagate_dft _ W0 W1 dx0 dx1 du0 du1 wl z os shape scrA lam S0 S1 so gA hfA hcons hp hp1 hz hos hS hW hfitA hposS hso i j hi hj,
      C09.fft_eq_propagate_dft _ W0 W1 dx0 dx1 du0 du1 wl z os shape scrB lam S0 S1 so gB hfB hcons hp hp1 hz hos hS hW hfitB hposM hso i j hi hj]
  rw [wavefrontField_eq_wfField, wavefrontField_eq_wfField, C07.field_eq_sum _ _ _ i j hi hj, C07.field_eq_sum _ _ _ i j hi hj]
  exact propagate_common_linear _ _ hposS hposM hemb _ _ so.1 so.2 so.1 so.2 1 none 0 0 0 0 _ _

/-- the intensity clause for `propagate_fft`: under the hypotheses of `segmented_eq_monolithic_propagate_fft` (and positive shapes of
the two returned fields) both intensities exist and agree at every sample -/
theorem segmented_eq_monolithic_propagate_fft_intensity (ph : ℝ → ℂ) (w0 : Fld ℂ) (h0 : w0.size1 = true)
    (s : SplitPlane ℂ ℝ) (ss : List (SplitPlane ℂ ℝ)) (hwf : ∀ x ∈ s :: ss, x.WF)
    (hEseg : ExtOK (ss.map fun x => x.seg.boxes) s.seg.boxes) (hEmono : ExtOK (ss.map fun x => x.mono.boxes) s.mono.boxes)
    (W0 W1 : Int) (dx0 dx1 du0 du1 wl z : ℝ) (os : Int) (shape : Option (Int × Int)) (scrA scrB : Option (Arr ℂ))
    (lam : ℝ) (S0 S1 : Int) (so : Int × Int) (gA gB : Fld ℂ)
    (hfA : propagateFft 1 (chainMultiply ph ((s :: ss).map SplitPlane.seg) [w0]) false W0 W1 dx0 dx1 du0 du1 wl z os shape scrA
      = FftOut.ok lam S0 S1 so gA)
    (hfB : propagateFft 1 (chainMultiply ph ((s :: ss).map SplitPlane.mono) [w0]) false W0 W1 dx0 dx1 du0 du1 wl z os shape scrB
      = FftOut.ok lam S0 S1 so gB)
    (hcons : dx0 * du0 = dx1 * du1 ∨ (S0 : ℝ) * (dx0 * du0) = (S1 : ℝ) * (dx1 * du1))
    (hp : dx0 * du0 ≠ 0) (hp1 : dx1 * du1 ≠ 0) (hz : z ≠ 0) (hos : 0 < os) (hS : 0 < S0 ∧ 0 < S1)
    (hW : 0 ≤ W0 ∧ W0 ≤ S0 ∧ 0 ≤ W1 ∧ W1 ≤ S1)
    (hfitA : ∀ f ∈ chainMultiply ph ((s :: ss).map SplitPlane.seg) [w0], f.within W0 W1)
    (hfitB : ∀ f ∈ chainMultiply ph ((s :: ss).map SplitPlane.mono) [w0], f.within W0 W1)
    (hgA : 0 < gA.arr.s0 ∧ 0 < gA.arr.s1) (hgB : 0 < gB.arr.s0 ∧ 0 < gB.arr.s1)
    (hso : 0 < so.1 ∧ 0 < so.2) (nsq : ℂ → ℂ) (hn : nsq 0 = 0) (i j : Int) (hi : 0 ≤ i ∧ i < so.1) (hj : 0 ≤ j ∧ j < so.2) :
    ∃ IA IB, wfIntensity 1 nsq so.1 so.2 [gA] = some IA ∧ wfIntensity 1 nsq so.1 so.2 [gB] = some IB ∧ IA.get i j = IB.get i j := by
  have hf := segmented_eq_monolithic_propagate_fft ph w0 h0 s ss hwf hEseg hEmono W0 W1 dx0 dx1 du0 du1 wl z os shape scrA scrB
    lam S0 S1 so gA gB hfA hfB hcons hp hp1 hz hos hS hW hfitA hfitB hso i j hi hj
  rw [wavefrontField_eq_wfField, wavefrontField_eq_wfField] at hf
  obtain ⟨IA, hIA, _, _, hgetA⟩ := C07.intensity_eq_normSq_field_total nsq hn so.1 so.2 [gA] (List.forall_mem_singleton.mpr hgA)
  obtain ⟨IB, hIB, _, _, hgetB⟩ := C07.intensity_eq_normSq_field_total nsq hn so.1 so.2 [gB] (List.forall_mem_singleton.mpr hgB)
  exact ⟨IA, IB, hIA, hIB, by rw [hgetA i j hi hj, hgetB i j hi hj, hf]⟩

end fft

section afterprop
variable {K R : Type} [Add R] [Sub R] [Mul R] [Neg R] [RealLike R] [NonAssocSemiring K] [CxLike K R]

/-- **a plane after a propagation** (chains of planes AND propagations, one more link): two descriptions with the same total field are
propagated (common shift, any window) and then pass a masked plane (e.g. an image-plane mask given in segments `l`); if the
propagation window is not a single sample, the total field after the plane is again the same for both, at every pixel — the
propagated total times the plane's transmission (`C07.plane_multiply_ok` after `propagate_common_linear`) -/
theorem plane_after_propagation (ph : R → K) (amp : Attr K) (opd : Attr R) (T0 T1 : Int) (l : List Seg)
    (hc : ∀ g ∈ l, g.covers T0 T1)
    (hbig : ∀ g ∈ l, g.s.r0 < g.s.r1 ∧ g.s.c0 < g.s.c1 ∧ ¬ (g.s.r1 - g.s.r0 = 1 ∧ g.s.c1 - g.s.c0 = 1))
    (X Y : List (Fld K)) (hX : ∀ f ∈ X, 0 < f.arr.s0 ∧ 0 < f.arr.s1) (hY : ∀ f ∈ Y, 0 < f.arr.s0 ∧ 0 < f.arr.s1)
    (htot : ∀ r c, sumList X (fun f => f.emb r c) = sumList Y (fun f => f.emb r c))
    (αr αc : R) (S0 S1 P0 P1 os : Int) (mask : Option Extent) (fix0 fix1 : Int) (sub0 sub1 : R)
    (hoe : (outExtent (S0 * os) (S1 * os) mask).rmin ≤ (outExtent (S0 * os) (S1 * os) mask).rmax ∧
           (outExtent (S0 * os) (S1 * os) mask).cmin ≤ (outExtent (S0 * os) (S1 * os) mask).cmax)
    (hP : 0 < P0 * os ∧ 0 < P1 * os)
    (h1X : ∀ g ∈ propagateDftCommon X αr αc S0 S1 P0 P1 os mask fix0 fix1 sub0 sub1, g.size1 = false)
    (h1Y : ∀ g ∈ propagateDftCommon Y αr αc S0 S1 P0 P1 os mask fix0 fix1 sub0 sub1, g.size1 = false) (r c : Int) :
    sumList (planeMultiply ph ⟨amp, opd, .segs T0 T1 l⟩ (propagateDftCommon X αr αc S0 S1 P0 P1 os mask fix0 fix1 sub0 sub1)) (fun g => g.emb r c)
      = sumList (planeMultiply ph ⟨amp, opd, .segs T0 T1 l⟩ (propagateDftCommon Y αr αc S0 S1 P0 P1 os mask fix0 fix1 sub0 sub1)) (fun g => g.emb r c) := by
  have hl : SegsOK T0 T1 l := fun g hg => ⟨hc g hg, hbig g hg⟩
  rw [C07.plane_multiply_ok ph ⟨amp, opd, .segs T0 T1 l⟩ hl _ (propagate_common_pos X αr αc S0 S1 P0 P1 os mask fix0 fix1 sub0 sub1 hoe hP),
      C07.plane_multiply_ok ph ⟨amp, opd, .segs T0 T1 l⟩ hl _ (propagate_common_pos Y αr αc S0 S1 P0 P1 os mask fix0 fix1 sub0 sub1 hoe hP),
      sumList_sem_eq_emb _ h1X, sumList_sem_eq_emb _ h1Y,
      propagate_common_linear X Y hX hY htot αr αc S0 S1 P0 P1 os mask fix0 fix1 sub0 sub1 r c]

end afterprop

section e2e_example
/-- toy number system for the non-vacuity example below (the theorem is generic in `K`, `R`) -/
local instance : RealLike Int := ⟨id, 6, id, fun x => x.natAbs⟩
local instance : CxLike Int Int := ⟨fun t => t, id, id, fun z _ => z⟩

/-- non-vacuity of `segmented_eq_monolithic_propagateDft` as a whole: all its hypotheses hold together for the two-plane chain of the
split plane `Witness.sp` (two segments with overlapping row/column ranges and their union), a 4×4 oversampled output, the full
propagation window and a non-zero common shift (the instantiated conclusion — equality of field and intensity at sample (1, 2) — is the type Lean infers for this term) -/
example :=
  segmented_eq_monolithic_propagateDft Witness.ph1 Witness.w0 rfl Witness.sp [Witness.sp] Witness.sp_sp_wf
    Witness.sp_ext.1 Witness.sp_ext.2 1 1 2 2 2 2 2 none 1 0 0 0
    (by rw [outExtent_nomask]; decide) (by decide) (fun z => z * z) (by simp) 1 2 (by decide) (by decide)

end e2e_example

section fitted

/-- **segments with their own fitted tilts against the monolithic aperture** (`K = ℂ`; composes C04 `segmented_tilt_equiv_complex`
with `propagateField_linear`): the fields of the segments, each carrying its own tilt as metadata (what `fit_tilt` on a segmented
plane produces: a different shift and window per field), sum — at every output coordinate that lies in every segment's window and
in the window of the tilt-free propagation — to the propagated field of ANY description `M` whose total embedded field equals that
of the segments with their ramps written back into the OPD (`htot`; e.g. the monolithic plane, by `segments_sum` /
`segmented_eq_monolithic`). Outside the common window the two computations crop differently and are not claimed equal. -/
theorem fitted_tilts_eq_monolithic (segs : List (SegTilt ℂ ℝ)) (M : List (Fld ℂ)) (dx0 dx1 du0 du1 wl z : ℝ) (os : Int)
    (hw : wl ≠ 0) (hz : z ≠ 0) (hos : os ≠ 0) (hdu : du0 ≠ 0 ∧ du1 ≠ 0)
    (hsplit : ∀ s ∈ segs, ((s.fix0 : ℝ) + s.sub0, (s.fix1 : ℝ) + s.sub1) = fieldShift [TiltEl.angular s.thx s.thy] z wl du0 du1 os true)
    (hpos : ∀ s ∈ segs, 0 < s.s0 ∧ 0 < s.s1) (hM : ∀ f ∈ M, 0 < f.arr.s0 ∧ 0 < f.arr.s1)
    (htot : ∀ r c, sumList segs (fun s => (phasorField s.amp (fun x y => s.opd0 x y + (s.thx * RealLike.ofInt (cc s.s0 x + s.o0) * dx0
          - s.thy * RealLike.ofInt (cc s.s1 y + s.o1) * dx1)) wl s.s0 s.s1 s.o0 s.o1 : Fld ℂ).emb r c) = sumList M (fun f => f.emb r c))
    (oe oe' : Extent) (P0 P1 P0' P1' : Int)
    (hoe : oe.rmin ≤ oe.rmax ∧ oe.cmin ≤ oe.cmax) (hP : 0 < P0 ∧ 0 < P1)
    (hoe' : oe'.rmin ≤ oe'.rmax ∧ oe'.cmin ≤ oe'.cmax) (hP' : 0 < P0' ∧ 0 < P1') (r c : Int)
    (hin : ∀ s ∈ segs, (oe.inb r c && (propExtent P0 P1 s.fix0 s.fix1).inb r c) = true)
    (hin' : (oe'.inb r c && (propExtent P0' P1' 0 0).inb r c) = true) :
    (segs.map fun s => embO (propagateField ⟨phasorField s.amp s.opd0 wl s.s0 s.s1 s.o0 s.o1, s.fix0, s.fix1, s.sub0, s.sub1⟩
        (dftAlpha dx0 dx1 du0 du1 wl z os).1 (dftAlpha dx0 dx1 du0 du1 wl z os).2 oe P0 P1) r c).sum
      = sumList M (fun f => embO (propagateField ⟨f, 0, 0, 0, 0⟩
          (dftAlpha dx0 dx1 du0 du1 wl z os).1 (dftAlpha dx0 dx1 du0 du1 wl z os).2 oe' P0' P1') r c) := by
  rw [C04.segmented_tilt_equiv_complex segs dx0 dx1 du0 du1 wl z os hw hz hos hdu hsplit oe oe' P0 P1 P0' P1' hoe hP hoe' hP' r c hin hin']
  have hA : ∀ f ∈ segs.map (fun s => (phasorField s.amp (fun x y => s.opd0 x y + (s.thx * RealLike.ofInt (cc s.s0 x + s.o0) * dx0
          - s.thy * RealLike.ofInt (cc s.s1 y + s.o1) * dx1)) wl s.s0 s.s1 s.o0 s.o1 : Fld ℂ)), 0 < f.arr.s0 ∧ 0 < f.arr.s1 :=
    List.forall_mem_map.mpr hpos
  have key := propagateField_linear _ M hA hM (by intro r c; rw [sumList_map_comp]; exact htot r c)
    (dftAlpha dx0 dx1 du0 du1 wl z os).1 (dftAlpha dx0 dx1 du0 du1 wl z os).2 oe' P0' P1' 0 0 (0 : ℝ) (0 : ℝ) r c
  rw [← key, sumList_map_comp, sumList_eq_sum]

end fitted

section interleaved_e2e
variable {K R : Type} [Add R] [Sub R] [Mul R] [Neg R] [RealLike R] [NonAssocSemiring K] [CxLike K R]

/-- **segmented = monolithic with Tilt planes anywhere in the chain, as one theorem.** A fresh wavefront carrying the tilt list
`t0` (`Wavefront(tilt=…)`, leading Tilt planes) passes a masked plane and then masked planes and Tilt planes in any order; every
masked plane is given segmented and monolithic (`WF`, `ExtOK` on the input). Then in BOTH descriptions every field carries
exactly `t0 ++` the Tilt planes in order — once each, whatever the number of segments — so all fields have one common shift,
and for that (any) shift `fix + sub`, any output mask, shapes and sampling, `propagate_dft` (C02's model, generated
window) gives the same `Wavefront.field` and the same intensity at every sample. -/
theorem segmented_eq_monolithic_interleaved (ph : R → K) (o : R) (hph : ph o = 1) (w0 : Fld K) (h0 : w0.size1 = true)
    (t0 : List (TiltEl R)) (s : SplitPlane K R) (els : List (SplitPlane K R ⊕ TiltEl R))
    (hwf : ∀ x ∈ s :: splits els, x.WF)
    (hEseg : ExtOK ((splits els).map fun x => x.seg.boxes) s.seg.boxes)
    (hEmono : ExtOK ((splits els).map fun x => x.mono.boxes) s.mono.boxes)
    (αr αc : R) (S0 S1 P0 P1 os : Int) (mask : Option Extent) (fix0 fix1 : Int) (sub0 sub1 : R)
    (hoe : (outExtent (S0 * os) (S1 * os) mask).rmin ≤ (outExtent (S0 * os) (S1 * os) mask).rmax ∧
           (outExtent (S0 * os) (S1 * os) mask).cmin ≤ (outExtent (S0 * os) (S1 * os) mask).cmax)
    (hP : 0 < P0 * os ∧ 0 < P1 * os) (nsq : K → K) (hn : nsq 0 = 0) (i j : Int)
    (hi : 0 ≤ i ∧ i < S0 * os) (hj : 0 ≤ j ∧ j < S1 * os) :
    let DA := runChainT ph 1 o (descr true (.inl s :: els)) [(w0, t0)]
    let DB := runChainT ph 1 o (descr false (.inl s :: els)) [(w0, t0)]
    let A := propagateDftCommon (DA.map Prod.fst) αr αc S0 S1 P0 P1 os mask fix0 fix1 sub0 sub1
    let B := propagateDftCommon (DB.map Prod.fst) αr αc S0 S1 P0 P1 os mask fix0 fix1 sub0 sub1
    (∀ gt ∈ DA, gt.2 = t0 ++ chainTilts (descr true els)) ∧ (∀ gt ∈ DB, gt.2 = t0 ++ chainTilts (descr true els)) ∧
    (wfField 1 (S0 * os) (S1 * os) A).get i j = (wfField 1 (S0 * os) (S1 * os) B).get i j ∧
    ∃ IA IB, wfIntensity 1 nsq (S0 * os) (S1 * os) A = some IA ∧ wfIntensity 1 nsq (S0 * os) (S1 * os) B = some IB ∧
      IA.get i j = IB.get i j := by
  intro DA DB A B
  obtain ⟨hA, htA⟩ := interleaved_fresh ph o hph w0 h0 t0 s.seg (hwf s (List.mem_cons_self ..)).seg_ok (descr true els)
    (by rw [chainPlanes_descr]; exact List.forall_mem_map.mpr fun x hx => (hwf x (List.mem_cons_of_mem _ hx)).seg_ok)
    (by rw [chainPlanes_descr, List.map_map]; exact hEseg)
  obtain ⟨hB, htB⟩ := interleaved_fresh ph o hph w0 h0 t0 s.mono (hwf s (List.mem_cons_self ..)).mono_ok (descr false els)
    (by rw [chainPlanes_descr]; exact List.forall_mem_map.mpr fun x hx => (hwf x (List.mem_cons_of_mem _ hx)).mono_ok)
    (by rw [chainPlanes_descr, List.map_map]; exact hEmono)
  rw [chainPlanes_descr] at hA hB
  rw [chainTilts_descr] at htB
  have hA' : DA.map Prod.fst = chainMultiply ph ((s :: splits els).map SplitPlane.seg) [w0] := hA
  have hB' : DB.map Prod.fst = chainMultiply ph ((s :: splits els).map SplitPlane.mono) [w0] := hB
  have key := segmented_eq_monolithic_propagateDft ph w0 h0 s (splits els) hwf hEseg hEmono αr αc S0 S1 P0 P1 os mask
    fix0 fix1 sub0 sub1 hoe hP nsq hn i j hi hj
  rw [← hA', ← hB'] at key
  exact ⟨htA, htB, key⟩

end interleaved_e2e

section interleaved_example
local instance : RealLike Int := ⟨id, 6, id, fun x => x.natAbs⟩
local instance : CxLike Int Int := ⟨fun t => t, id, id, fun z _ => z⟩

/-- non-vacuity of `segmented_eq_monolithic_interleaved`: plane, Tilt plane, plane — with `Witness.sp` for both planes, an initial tilt
list, a non-zero common shift and an output mask box; the instantiated conclusion is the inferred type of this term -/
example :=
  segmented_eq_monolithic_interleaved Witness.ph1 (0 : Int) rfl Witness.w0 rfl [TiltEl.angular 2 3] Witness.sp
    [.inr (TiltEl.angular 1 0), .inl Witness.sp] Witness.sp_sp_wf
    Witness.sp_ext.1 Witness.sp_ext.2 1 1 2 2 2 2 2 (some ⟨1, 2, 0, 3⟩) 1 0 0 0
    (by rw [outExtent_mask]; decide) (by decide) (fun z => z * z) (by simp) 1 2 (by decide) (by decide)

end interleaved_example

/-! ## `Plane._slice`: the per-segment bounding slices are the regenerated `boundary_slice` -/
section slices

/-- **every per-segment slice of a constructed plane is `helper.boundary_slice` of that segment's mask** (about the
*generated* `Gen.boundarySlice`, helper.py:27-62 read on every run, at the default `pad = (0, 0)` that `_plane_slice` uses):
for a plane whose mask `_plane_slice` accepted (`mkMask … = some`), the slice `plane._slice[n]` of every segment is
`np.s_[rmin:rmax+1, cmin:cmax+1]` computed by the source's clamping arithmetic from the first/last row and column
holding a set mask entry (what `lentil.util.boundary` returns), and the phasor of that segment sits at
`slice_offset(s, self.shape)` of exactly that slice (generated `Gen.planeLoopOffset` of `Plane.multiply`). A change of
the `+1`, of the clamping `min`/`max`, of the axis each bound is clamped against, or of the arguments handed to
`slice_offset` breaks this proof. -/
theorem segment_slices_are_boundary_slices (s0 s1 : Int) (ms : List (Int → Int → Bool)) (l : List Seg)
    (h : mkMask s0 s1 ms = some (.segs s0 s1 l)) (g : Seg) (hg : g ∈ l) :
    ∃ rmin rmax cmin cmax : Nat,
      firstTrueIdx (fun i => anyBelowIdx (fun j => g.m i j) s1.toNat) s0.toNat = some rmin ∧
      lastTrueIdx (fun i => anyBelowIdx (fun j => g.m i j) s1.toNat) s0.toNat = some rmax ∧
      firstTrueIdx (fun j => anyBelowIdx (fun i => g.m i j) s0.toNat) s1.toNat = some cmin ∧
      lastTrueIdx (fun j => anyBelowIdx (fun i => g.m i j) s0.toNat) s1.toNat = some cmax ∧
      Gen.boundarySlice rmin rmax cmin cmax s0 s1 0 0 = ((g.s.r0, g.s.r1), (g.s.c0, g.s.c1)) ∧
      ∀ {K R : Type} [Zero K] [Mul K] (ph : R → K) (amp : Attr K) (opd : Attr R),
        ((segPhasor ph amp opd s0 s1 g).o0, (segPhasor ph amp opd s0 s1 g).o1)
          = Gen.planeLoopOffset (Gen.boundarySlice rmin rmax cmin cmax s0 s1 0 0).1.1 (Gen.boundarySlice rmin rmax cmin cmax s0 s1 0 0).1.2
              (Gen.boundarySlice rmin rmax cmin cmax s0 s1 0 0).2.1 (Gen.boundarySlice rmin rmax cmin cmax s0 s1 0 0).2.2 s0 s1 := by
  obtain ⟨rmin, rmax, cmin, cmax, h1, h2, h3, h4, hs⟩ := bboxSlice_some s0 s1 g.m g.s ((mkMask_segs s0 s1 ms s0 s1 l h).2.2 g hg)
  -- the last row and column found lie inside the array, so the clamping of `boundary_slice` does nothing
  have b2 := (lastTrue_some _ _ _ (lastTrueIdx_eq _ _ ▸ h2)).1
  have b4 := (lastTrue_some _ _ _ (lastTrueIdx_eq _ _ ▸ h4)).1
  have hb : Gen.boundarySlice rmin rmax cmin cmax s0 s1 0 0 = ((g.s.r0, g.s.r1), (g.s.c0, g.s.c1)) := by
    rw [hs]
    exact boundarySlice_pad0 _ _ _ _ _ _ ⟨by omega, by omega, by omega, by omega⟩
  refine ⟨rmin, rmax, cmin, cmax, h1, h2, h3, h4, hb, ?_⟩
  intro K R _ _ ph amp opd
  rw [hb]
  rfl

/-- non-vacuity: a 4×5 mask with set entries at (1,1) and (2,3): `_plane_slice` accepts it, the slice is `[1:3, 1:4]` -/
example : ∃ g, mkMask 4 5 [fun i j => decide ((i = 1 ∧ j = 1) ∨ (i = 2 ∧ j = 3))] = some (.segs 4 5 [g])
    ∧ g.s = ⟨1, 3, 1, 4⟩ ∧ Gen.boundarySlice 1 2 1 3 4 5 0 0 = ((1, 3), (1, 4)) :=
  ⟨⟨fun i j => decide ((i = 1 ∧ j = 1) ∨ (i = 2 ∧ j = 3)), ⟨1, 3, 1, 4⟩⟩, by rfl, rfl, by decide⟩

end slices

end Lentil.C03
