import LentilVerif.Lemmas.Propagate
import LentilVerif.Lemmas.Canvas
import LentilVerif.Lemmas.CanvasEmb
import LentilVerif.Props.C01
import LentilVerif.Gen.PlaneType
import LentilVerif.Lemmas.Geometry
import Mathlib.Algebra.Order.Floor.Ring
/-! # C02 — far-field propagation puts the Fraunhofer field on the right output samples

The integer window logic is the *generated* kernel (`Gen.dftWindow`, `Gen.maskShape`,
`Gen.maskShift`, re-translated from lentil/propagate.py on every run, on top of `Gen` extent.py); `dft2` is the model of
`lentil.fourier.dft2` (Model/Fourier.lean; its reduction to the defining double sum is C01's `dft2_eq_defining_sum`).
Theorems are generic in the scalar ring `R` (with `RealLike.ofInt` the integer cast) and the value type `K`. -/
namespace Lentil.C02
open Lentil

variable {K R : Type} [CommRing R] [RealLike R] [Add K] [Mul K] [Zero K] [CxLike K R]

/-- **Every sample of an output field is the Fraunhofer sum at its own global coordinate, and the field is exactly zero
outside `out_extent ∩ prop_extent`.** For one input field with shift `fix + sub` (any integer split), any output
extent (whole array or mask box) and any propagation shape: on the infinite zero-padded output plane the field produced
by the loop body of `propagate_dft` has, at global coordinate `(r, c)`, the value of the unitary `dft2` sum of the input
field evaluated at the real coordinate `(r - fix0 - sub0, c - fix1 - sub1)` — i.e. relative to the shifted centre — when
`(r, c)` lies in both extents, and `0` otherwise (also when no field is produced at all). -/
theorem propagateField_sample (hcast : ∀ n : Int, (RealLike.ofInt n : R) = (n : R))
    (t : TField K R) (αr αc : R) (oe : Extent) (P0 P1 : Int)
    (hoe : oe.rmin ≤ oe.rmax ∧ oe.cmin ≤ oe.cmax) (hP : 0 < P0 ∧ 0 < P1) (r c : Int) :
    embO (propagateField t αr αc oe P0 P1) r c =
      if oe.inb r c && (propExtent P0 P1 t.fix0 t.fix1).inb r c
      then fraunhoferAt t.fld αr αc (RealLike.ofInt (r - t.fix0) - t.sub0) (RealLike.ofInt (c - t.fix1) - t.sub1)
      else 0 := by
  rw [propagateField_eq t αr αc oe P0 P1 hoe hP]
  cases hi : intersect oe (propExtent P0 P1 t.fix0 t.fix1)
  · rw [not_intersect_inb _ _ hi]; rfl
  · -- the field occupies the intersection extent; inside it the recentred `dft2` sample is the sum at `(r, c) - shift`
    rw [← inter_inb]
    simp only [if_true, embO, Fld.emb, Fld.extent, dft2_shape0, dft2_shape1]
    rw [inter_roundtrip, embAt]
    refine if_congr Iff.rfl ?_ rfl
    rw [dft2_get_eq_fraunhoferAt hcast]
    exact congrArg₂ _ (kernel_coord hcast ..) (kernel_coord hcast ..)

/-- **Output shape, propagation shape and mask only choose which samples are evaluated.** Two calls that differ in the
output extent (any output shape, or any mask box) and in the propagation shape give the same value at every global
coordinate that both evaluate, for the same sampling ratios `α` and the same shift. (Oversampling: `oversample_only_scales`.) -/
theorem window_only_selects (hcast : ∀ n : Int, (RealLike.ofInt n : R) = (n : R))
    (t : TField K R) (αr αc : R) (oe oe' : Extent) (P0 P1 P0' P1' : Int)
    (hoe : oe.rmin ≤ oe.rmax ∧ oe.cmin ≤ oe.cmax) (hP : 0 < P0 ∧ 0 < P1)
    (hoe' : oe'.rmin ≤ oe'.rmax ∧ oe'.cmin ≤ oe'.cmax) (hP' : 0 < P0' ∧ 0 < P1') (r c : Int)
    (hin : (oe.inb r c && (propExtent P0 P1 t.fix0 t.fix1).inb r c) = true)
    (hin' : (oe'.inb r c && (propExtent P0' P1' t.fix0 t.fix1).inb r c) = true) :
    embO (propagateField t αr αc oe P0 P1) r c =
    embO (propagateField t αr αc oe' P0' P1') r c := by
  rw [propagateField_sample hcast t αr αc oe P0 P1 hoe hP r c,
      propagateField_sample hcast t αr αc oe' P0' P1' hoe' hP' r c]
  simp only [hin, hin', if_true]

/-- the value of an evaluated sample does not depend on how the shift is split into integer and sub-pixel part -/
theorem split_irrelevant (hcast : ∀ n : Int, (RealLike.ofInt n : R) = (n : R))
    (f : Fld K) (fix0 fix1 k0 k1 : Int) (sub0 sub1 : R) (αr αc : R) (r c : Int) :
    fraunhoferAt f αr αc (RealLike.ofInt (r - fix0) - sub0) (RealLike.ofInt (c - fix1) - sub1) =
    fraunhoferAt f αr αc (RealLike.ofInt (r - (fix0 + k0)) - (sub0 - RealLike.ofInt k0))
      (RealLike.ofInt (c - (fix1 + k1)) - (sub1 - RealLike.ofInt k1)) := by
  rw [sub_add_eq_sub_sub r, sub_add_eq_sub_sub c, sub_split hcast, sub_split hcast]

/-- **Mask box.** With a mask whose support has bounding rows `b.rmin..b.rmax` and columns `b.cmin..b.cmax` (array
indices in the `S0 x S1` output), the evaluated output extent is exactly the set of global coordinates of those
rows/columns, the origin being sample `floor(S/2)`: `_mask_shape`/`_mask_shift` (generated) re-centre the box. -/
theorem mask_bbox (S0 S1 : Int) (b : Extent) (r c : Int) :
    (outExtent S0 S1 (some b)).inb r c = true ↔
      b.rmin ≤ r + S0 / 2 ∧ r + S0 / 2 ≤ b.rmax ∧ b.cmin ≤ c + S1 / 2 ∧ c + S1 / 2 ≤ b.cmax := by
  rw [outExtent_mask, Extent.inb_iff]
  simp only [sub_le_iff_le_add, le_sub_iff_add_le]

/-- the propagation window is `P0 x P1` samples whose centre sample `floor(P/2)` sits at the integer part of the shift -/
theorem prop_window (P0 P1 fix0 fix1 r c : Int) :
    (propExtent P0 P1 fix0 fix1).inb r c = true ↔
      0 ≤ r - fix0 + P0 / 2 ∧ r - fix0 + P0 / 2 < P0 ∧ 0 ≤ c - fix1 + P1 / 2 ∧ c - fix1 + P1 / 2 < P1 := by
  unfold propExtent; rw [arrayExtent_eq, Extent.inb_iff]; simp only; omega

/-- **Whole array.** Without a mask the output extent is the whole output array: the global coordinates of indices
`0 ≤ i < S0`, `0 ≤ j < S1` with the optical axis at sample `floor(S/2)` -/
theorem whole_array (S0 S1 r c : Int) :
    (outExtent S0 S1 none).inb r c = true ↔ 0 ≤ r + S0 / 2 ∧ r + S0 / 2 < S0 ∧ 0 ≤ c + S1 / 2 ∧ c + S1 / 2 < S1 := by
  -- the whole array is the window of shape `S` at zero shift
  have h := prop_window S0 S1 0 0 r c
  simp only [sub_zero] at h
  exact h

/-- every output field of `propagate_dft` lies inside the output extent, hence (without mask) inside the output array:
nothing is ever written outside the evaluated window -/
theorem propagateField_extent (t : TField K R) (αr αc : R) (oe : Extent) (P0 P1 : Int)
    (hoe : oe.rmin ≤ oe.rmax ∧ oe.cmin ≤ oe.cmax) (hP : 0 < P0 ∧ 0 < P1) (g : Fld K)
    (hg : propagateField t αr αc oe P0 P1 = some g) :
    g.extent = intersectionExtent oe (propExtent P0 P1 t.fix0 t.fix1) := by
  rw [propagateField_eq t αr αc oe P0 P1 hoe hP] at hg
  obtain ⟨-, rfl⟩ := Option.ite_some_none_eq_some.mp hg
  exact inter_roundtrip _ _

/-- **`Wavefront.field` of the propagated wavefront, sample by sample.** For any list of input fields (each with its own
shift `fix + sub`), any sampling ratios, output shape `S`, propagation shape `P`, oversampling `os` and mask box: the
sample `[i][j]` of the output array (`0 ≤ i < S0·os`, `0 ≤ j < S1·os`) is the sum over the input fields of the unitary
`dft2` sum of that field evaluated at the sample's global coordinate `g = (i - ⌊S0·os/2⌋, j - ⌊S1·os/2⌋)` relative to
the field's shifted centre, restricted to the fields whose window `out_extent ∩ prop_extent` contains `g` — in particular
**exactly zero** where no field evaluates it. -/
theorem propagateDft_sample {K R : Type} [CommRing R] [RealLike R] [Semiring K] [CxLike K R]
    (hcast : ∀ n : Int, (RealLike.ofInt n : R) = (n : R))
    (fs : List (TField K R)) (αr αc : R) (S0 S1 P0 P1 os : Int) (mask : Option Extent)
    (hoe : (outExtent (S0 * os) (S1 * os) mask).rmin ≤ (outExtent (S0 * os) (S1 * os) mask).rmax ∧
           (outExtent (S0 * os) (S1 * os) mask).cmin ≤ (outExtent (S0 * os) (S1 * os) mask).cmax)
    (hP : 0 < P0 * os ∧ 0 < P1 * os) (i j : Int) (hi : 0 ≤ i ∧ i < S0 * os) (hj : 0 ≤ j ∧ j < S1 * os) :
    (wavefrontField 1 (propagateDft fs αr αc S0 S1 P0 P1 os mask) (S0 * os) (S1 * os)).get i j =
      (fs.map fun t =>
        if (outExtent (S0 * os) (S1 * os) mask).inb (i - S0 * os / 2) (j - S1 * os / 2) &&
           (propExtent (P0 * os) (P1 * os) t.fix0 t.fix1).inb (i - S0 * os / 2) (j - S1 * os / 2)
        then fraunhoferAt t.fld αr αc (RealLike.ofInt (i - S0 * os / 2 - t.fix0) - t.sub0)
               (RealLike.ofInt (j - S1 * os / 2 - t.fix1) - t.sub1)
        else 0).sum := by
  rw [propagateDft_get fs αr αc S0 S1 P0 P1 os mask i j hi hj]
  exact congrArg List.sum (List.map_congr_left fun t _ => propagateField_sample hcast t αr αc _ _ _ hoe hP _ _)

/-! ## The sampling ratio, oversampling and the metadata (generated wiring: `Gen.dftAlpha`, `Gen.dftAlphaCall`, `Gen.dftOutMeta`,
`Gen.dftShapeOut`, re-translated from `_dft_alpha` and `propagate_dft` on every run) -/

/-- **alpha = dx·du/(wavelength·focal_length·oversample) on each axis**, with the wavefront's own pixelscale, wavelength
and focal length and the requested output pixelscale — row axis from index 0, column axis from index 1 -/
theorem alpha_formula {R : Type} [Field R] [RealLike R] (dx0 dx1 du0 du1 wl z : R) (os : Int) :
    dftAlpha dx0 dx1 du0 du1 wl z os =
      (dx0 * du0 / (wl * z * RealLike.ofInt os), dx1 * du1 / (wl * z * RealLike.ofInt os)) := rfl

/-- **The result carries the input wavelength and focal length and a sampling of du/oversample** (wavefront and every
output Field), has shape `shape·oversample`, and the plane type is flipped pupil ↔ image (`_propagate_ptype`, generated
for C08); an untyped wavefront is refused. -/
theorem metadata_carried {R : Type} [Field R] [RealLike R] (dx0 dx1 du0 du1 wl z : R) (os S0 S1 : Int) :
    dftMeta dx0 dx1 du0 du1 wl z os = (wl, (du0 / RealLike.ofInt os, du1 / RealLike.ofInt os), z) ∧
    Gen.dftFieldPixelscale du0 du1 (RealLike.ofInt os : R) = (du0 / RealLike.ofInt os, du1 / RealLike.ofInt os) ∧
    Gen.dftShapeOut S0 S1 os = (S0 * os, S1 * os) ∧
    Gen.codePropagate .pupil = .ok .image ∧ Gen.codePropagate .image = .ok .pupil ∧
    Gen.codePropagate .none = .refused .typeError := ⟨rfl, rfl, rfl, rfl, rfl, rfl⟩

/-- **Oversampling enters only through alpha and the sample grid.** Propagating with `oversample = os` onto `shape`,
`prop_shape` is the same computation as propagating with `oversample = 1` onto `shape·os`, `prop_shape·os` with the same
sampling ratios; and the sampling ratio for `os` is that for `os = 1` divided by `os`. So sample `k` of the oversampled
grid is the Fraunhofer sum at `k/os` output pixels — nothing else depends on `os`. -/
theorem oversample_only_scales {K R : Type} [Field R] [RealLike R] [Add K] [Mul K] [Zero K] [CxLike K R]
    (h1 : (RealLike.ofInt 1 : R) = 1)
    (fs : List (TField K R)) (αr αc : R) (S0 S1 P0 P1 os : Int) (mask : Option Extent) (dx0 dx1 du0 du1 wl z : R) :
    propagateDft fs αr αc S0 S1 P0 P1 os mask = propagateDft fs αr αc (S0 * os) (S1 * os) (P0 * os) (P1 * os) 1 mask ∧
    dftAlpha dx0 dx1 du0 du1 wl z os =
      ((dftAlpha dx0 dx1 du0 du1 wl z 1).1 / RealLike.ofInt os, (dftAlpha dx0 dx1 du0 du1 wl z 1).2 / RealLike.ofInt os) := by
  constructor
  · simp only [propagateDft, Gen.dftShapeOut, Gen.dftPropShapeOut, mul_one]
  · simp only [dftAlpha, Gen.dftAlphaCall, Gen.dftAlpha, h1, mul_one]
    refine Prod.ext ?_ ?_ <;> simp only [div_div]

/-- **Scale invariance.** Multiplying every length — input and output pixel scales, wavelength, focal length — by the same
factor `k ≠ 0` leaves the sampling ratios unchanged: nothing in the propagation may depend on the absolute size of the
physical units (metres, microns, nanometres). Each axis' ratio depends on that axis' pixel scales only. -/
theorem alpha_scale_invariant {R : Type} [Field R] [RealLike R] (k dx0 dx1 du0 du1 wl z : R) (os : Int) (hk : k ≠ 0)
    (dx0' du0' dx1' du1' : R) :
    dftAlpha (k * dx0) (k * dx1) (k * du0) (k * du1) (k * wl) (k * z) os = dftAlpha dx0 dx1 du0 du1 wl z os ∧
    (dftAlpha dx0' dx1 du0' du1 wl z os).2 = (dftAlpha dx0 dx1 du0 du1 wl z os).2 ∧
    (dftAlpha dx0 dx1 du0 du1 wl z os).1 = (dftAlpha dx0 dx1' du0 du1' wl z os).1 := by
  have axis (dx du : R) :
      k * dx * (k * du) / (k * wl * (k * z) * RealLike.ofInt os) = dx * du / (wl * z * RealLike.ofInt os) := by
    rw [mul_mul_mul_comm k dx k du, mul_mul_mul_comm k wl k z, mul_assoc (k * k), mul_div_mul_left _ _ (mul_ne_zero hk hk)]
  exact ⟨Prod.ext (axis dx0 du0) (axis dx1 du1), rfl, rfl⟩

/-! ## The value is the Fraunhofer sum (composition with C01 at `K = ℂ`, `R = ℝ`) -/

/-- the model's point evaluation is the unitary Fraunhofer double sum over the field's samples, `X`, `Y` the global input
coordinates (array index minus `floor(n/2)` plus the field's offset), `(p, q)` the real output coordinate -/
theorem fraunhoferAt_eq_sum (f : Fld ℂ) (αr αc p q : ℝ) :
    fraunhoferAt f αr αc p q =
      ((Real.sqrt |αr * αc| : ℝ) : ℂ) *
      ∑ x ∈ Finset.range f.arr.s0.toNat, ∑ y ∈ Finset.range f.arr.s1.toNat, f.arr.get x y *
        Complex.exp (-(2 * Real.pi * Complex.I) *
          ((αr * (((x : ℤ) - f.arr.s0 / 2 + f.o0 : ℤ) : ℝ) * p + αc * (((y : ℤ) - f.arr.s1 / 2 + f.o1 : ℤ) : ℝ) * q : ℝ) : ℂ)) := by
  have h := C01.dft2_eq_defining_sum f.arr αr αc 1 1 (-p) (-q) f.o0 f.o1 true 0 0
  simp only [if_true, sub_neg_eq_add, show ((0 - 1 / 2 : ℤ) : ℝ) = 0 by norm_num, zero_add] at h
  exact h

/-- **`Wavefront.field` of the propagated wavefront is the Fraunhofer sum.** With `alpha = dx·du/(λ z os)` per axis
(`alpha_formula`), sample `[i][j]` of the output array equals the sum, over the input fields whose window
`out_extent ∩ prop_extent` contains the sample's global coordinate `g = (i - ⌊S0·os/2⌋, j - ⌊S1·os/2⌋)`, of
`√|αr αc| · Σ_x Σ_y f(x, y) · exp(-2πi(αr·X·(g_r - s_r) + αc·Y·(g_c - s_c)))` with `s = fix + sub` the field's shift — and is
exactly zero where no field evaluates it. -/
theorem propagateDft_sample_fraunhofer (fs : List (TField ℂ ℝ)) (dx0 dx1 du0 du1 wl z : ℝ)
    (S0 S1 P0 P1 os : Int) (mask : Option Extent)
    (hoe : (outExtent (S0 * os) (S1 * os) mask).rmin ≤ (outExtent (S0 * os) (S1 * os) mask).rmax ∧
           (outExtent (S0 * os) (S1 * os) mask).cmin ≤ (outExtent (S0 * os) (S1 * os) mask).cmax)
    (hP : 0 < P0 * os ∧ 0 < P1 * os) (i j : Int) (hi : 0 ≤ i ∧ i < S0 * os) (hj : 0 ≤ j ∧ j < S1 * os) :
    (wavefrontField 1 (propagateDft fs (dftAlpha dx0 dx1 du0 du1 wl z os).1 (dftAlpha dx0 dx1 du0 du1 wl z os).2
        S0 S1 P0 P1 os mask) (S0 * os) (S1 * os)).get i j =
      (fs.map fun t =>
        if (outExtent (S0 * os) (S1 * os) mask).inb (i - S0 * os / 2) (j - S1 * os / 2) &&
           (propExtent (P0 * os) (P1 * os) t.fix0 t.fix1).inb (i - S0 * os / 2) (j - S1 * os / 2)
        then
          ((Real.sqrt |dx0 * du0 / (wl * z * os) * (dx1 * du1 / (wl * z * os))| : ℝ) : ℂ) *
          ∑ x ∈ Finset.range t.fld.arr.s0.toNat, ∑ y ∈ Finset.range t.fld.arr.s1.toNat, t.fld.arr.get x y *
            Complex.exp (-(2 * Real.pi * Complex.I) *
              ((dx0 * du0 / (wl * z * os) * (((x : ℤ) - t.fld.arr.s0 / 2 + t.fld.o0 : ℤ) : ℝ) * (((i - S0 * os / 2 - t.fix0 : ℤ) : ℝ) - t.sub0)
                + dx1 * du1 / (wl * z * os) * (((y : ℤ) - t.fld.arr.s1 / 2 + t.fld.o1 : ℤ) : ℝ) * (((j - S1 * os / 2 - t.fix1 : ℤ) : ℝ) - t.sub1) : ℝ) : ℂ))
        else 0).sum := by
  rw [propagateDft_sample (fun _ => rfl) fs _ _ S0 S1 P0 P1 os mask hoe hP i j hi hj]
  exact congrArg List.sum (List.map_congr_left fun t _ => if_congr Iff.rfl (fraunhoferAt_eq_sum _ _ _ _ _) rfl)

/-- **The Fraunhofer sum of the input-plane field.** When all fields of the wavefront carry the same shift (no tilt, a
common Tilt plane, `Wavefront(tilt=…)`), the per-field sums merge: sample `[i][j]` of the output is the unitary `dft2` sum of
`Wavefront.field` of the INPUT wavefront (all its fields inserted into its `W0 x W1` array), evaluated at the sample's
global coordinate relative to the shifted centre, inside the common window — and zero outside. (Fields on the canvas,
non-empty; additivity of the transform in the embedded field, C03.) -/
theorem propagateDft_common_shift {K R : Type} [CommRing R] [RealLike R] [CommRing K] [CxLike K R]
    (hcast : ∀ n : Int, (RealLike.ofInt n : R) = (n : R))
    (fs : List (Fld K)) (fix0 fix1 : Int) (sub0 sub1 : R) (W0 W1 : Int) (hWp : 0 < W0 ∧ 0 < W1)
    (hfit : ∀ f ∈ fs, f.within W0 W1) (hpos : ∀ f ∈ fs, 0 < f.arr.s0 ∧ 0 < f.arr.s1)
    (αr αc : R) (S0 S1 P0 P1 os : Int) (mask : Option Extent)
    (hoe : (outExtent (S0 * os) (S1 * os) mask).rmin ≤ (outExtent (S0 * os) (S1 * os) mask).rmax ∧
           (outExtent (S0 * os) (S1 * os) mask).cmin ≤ (outExtent (S0 * os) (S1 * os) mask).cmax)
    (hP : 0 < P0 * os ∧ 0 < P1 * os) (i j : Int) (hi : 0 ≤ i ∧ i < S0 * os) (hj : 0 ≤ j ∧ j < S1 * os) :
    (wavefrontField 1 (propagateDft (fs.map fun f => (⟨f, fix0, fix1, sub0, sub1⟩ : TField K R)) αr αc S0 S1 P0 P1 os mask)
        (S0 * os) (S1 * os)).get i j =
      if (outExtent (S0 * os) (S1 * os) mask).inb (i - S0 * os / 2) (j - S1 * os / 2) &&
         (propExtent (P0 * os) (P1 * os) fix0 fix1).inb (i - S0 * os / 2) (j - S1 * os / 2)
      then fraunhoferAt ⟨wavefrontField 1 fs W0 W1, 0, 0⟩ αr αc (RealLike.ofInt (i - S0 * os / 2 - fix0) - sub0)
             (RealLike.ofInt (j - S1 * os / 2 - fix1) - sub1)
      else 0 := by
  rw [propagateDft_sample hcast _ αr αc S0 S1 P0 P1 os mask hoe hP i j hi hj, List.map_map]
  simp only [Function.comp_def]
  split
  · exact (dft2_canvas fs W0 W1 hWp hfit hpos αr αc 1 1 _ _ true 0 0).symm
  · exact List.sum_map_zero

/-! ## The split of the shift is `np.fix`, and the mask box is the bounding box of the mask's support -/

/-- **With the shift split by `np.fix`** (`tfieldOfShift`: `fix = trunc(shift)`, `sub = shift - fix`), the value at a global output
coordinate is the Fraunhofer sum at that coordinate minus the field's real-valued shift, and the propagation window is the
`P0 x P1` window whose centre sample sits at `trunc(shift)`. -/
theorem propagateField_sample_shift {K R : Type} [CommRing R] [RealLike R] [TruncLike R] [Add K] [Mul K] [Zero K] [CxLike K R]
    (hcast : ∀ n : Int, (RealLike.ofInt n : R) = (n : R))
    (f : Fld K) (s0 s1 αr αc : R) (oe : Extent) (P0 P1 : Int)
    (hoe : oe.rmin ≤ oe.rmax ∧ oe.cmin ≤ oe.cmax) (hP : 0 < P0 ∧ 0 < P1) (r c : Int) :
    embO (propagateField (tfieldOfShift f s0 s1) αr αc oe P0 P1) r c =
      if oe.inb r c && (propExtent P0 P1 (TruncLike.trunc s0) (TruncLike.trunc s1)).inb r c
      then fraunhoferAt f αr αc (RealLike.ofInt r - s0) (RealLike.ofInt c - s1)
      else 0 := by
  rw [propagateField_sample hcast (tfieldOfShift f s0 s1) αr αc oe P0 P1 hoe hP r c]
  simp only [tfieldOfShift, fixSplit, sub_split hcast]

/-- **`Wavefront.field` of the propagated wavefront when every field's split is the code's `np.fix` split.** The input is a list of
fields with their real-valued shifts `(s0, s1)` (`Field.shift`, C04); the model splits each with `tfieldOfShift` — no free integer /
sub-pixel parameter is left. Sample `[i][j]` is the sum, over the fields whose `P·os` window **centred at `trunc(shift)`** and the output
extent contain its global coordinate `g`, of the Fraunhofer sum at `g − shift`; exactly zero where no field evaluates it. -/
theorem propagateDft_sample_of_shifts {K R : Type} [CommRing R] [RealLike R] [TruncLike R] [Semiring K] [CxLike K R]
    (hcast : ∀ n : Int, (RealLike.ofInt n : R) = (n : R))
    (fs : List (Fld K × R × R)) (αr αc : R) (S0 S1 P0 P1 os : Int) (mask : Option Extent)
    (hoe : (outExtent (S0 * os) (S1 * os) mask).rmin ≤ (outExtent (S0 * os) (S1 * os) mask).rmax ∧
           (outExtent (S0 * os) (S1 * os) mask).cmin ≤ (outExtent (S0 * os) (S1 * os) mask).cmax)
    (hP : 0 < P0 * os ∧ 0 < P1 * os) (i j : Int) (hi : 0 ≤ i ∧ i < S0 * os) (hj : 0 ≤ j ∧ j < S1 * os) :
    (wavefrontField 1 (propagateDft (fs.map fun p => tfieldOfShift p.1 p.2.1 p.2.2) αr αc S0 S1 P0 P1 os mask) (S0 * os) (S1 * os)).get i j =
      (fs.map fun p =>
        if (outExtent (S0 * os) (S1 * os) mask).inb (i - S0 * os / 2) (j - S1 * os / 2) &&
           (propExtent (P0 * os) (P1 * os) (TruncLike.trunc p.2.1) (TruncLike.trunc p.2.2)).inb (i - S0 * os / 2) (j - S1 * os / 2)
        then fraunhoferAt p.1 αr αc (RealLike.ofInt (i - S0 * os / 2) - p.2.1) (RealLike.ofInt (j - S1 * os / 2) - p.2.2)
        else 0).sum := by
  rw [propagateDft_get _ αr αc S0 S1 P0 P1 os mask i j hi hj, List.map_map]
  exact congrArg List.sum (List.map_congr_left fun p _ => propagateField_sample_shift hcast p.1 p.2.1 p.2.2 αr αc _ _ _ hoe hP _ _)

/-- **One Fraunhofer sum of the input-plane field, for a common real shift.** When every field of the wavefront carries the same
real-valued shift `(s0, s1)` (no tilt, a common Tilt plane, `Wavefront(tilt=…)`) and the code splits it with `np.fix` (`tfieldOfShift`),
sample `[i][j]` of the output is the unitary transform of `Wavefront.field` of the INPUT wavefront evaluated at `g − shift`, inside the
window centred at `trunc(shift)`, and zero outside — `propagateDft_common_shift` with the split derived, not assumed. -/
theorem propagateDft_common_real_shift {K R : Type} [CommRing R] [RealLike R] [TruncLike R] [CommRing K] [CxLike K R]
    (hcast : ∀ n : Int, (RealLike.ofInt n : R) = (n : R))
    (fs : List (Fld K)) (s0 s1 : R) (W0 W1 : Int) (hWp : 0 < W0 ∧ 0 < W1)
    (hfit : ∀ f ∈ fs, f.within W0 W1) (hpos : ∀ f ∈ fs, 0 < f.arr.s0 ∧ 0 < f.arr.s1)
    (αr αc : R) (S0 S1 P0 P1 os : Int) (mask : Option Extent)
    (hoe : (outExtent (S0 * os) (S1 * os) mask).rmin ≤ (outExtent (S0 * os) (S1 * os) mask).rmax ∧
           (outExtent (S0 * os) (S1 * os) mask).cmin ≤ (outExtent (S0 * os) (S1 * os) mask).cmax)
    (hP : 0 < P0 * os ∧ 0 < P1 * os) (i j : Int) (hi : 0 ≤ i ∧ i < S0 * os) (hj : 0 ≤ j ∧ j < S1 * os) :
    (wavefrontField 1 (propagateDft (fs.map fun f => tfieldOfShift f s0 s1) αr αc S0 S1 P0 P1 os mask) (S0 * os) (S1 * os)).get i j =
      if (outExtent (S0 * os) (S1 * os) mask).inb (i - S0 * os / 2) (j - S1 * os / 2) &&
         (propExtent (P0 * os) (P1 * os) (TruncLike.trunc s0) (TruncLike.trunc s1)).inb (i - S0 * os / 2) (j - S1 * os / 2)
      then fraunhoferAt ⟨wavefrontField 1 fs W0 W1, 0, 0⟩ αr αc (RealLike.ofInt (i - S0 * os / 2) - s0) (RealLike.ofInt (j - S1 * os / 2) - s1)
      else 0 := by
  have h := propagateDft_common_shift hcast fs (TruncLike.trunc s0) (TruncLike.trunc s1) (s0 - RealLike.ofInt (TruncLike.trunc s0))
    (s1 - RealLike.ofInt (TruncLike.trunc s1)) W0 W1 hWp hfit hpos αr αc S0 S1 P0 P1 os mask hoe hP i j hi hj
  rwa [sub_split hcast, sub_split hcast] at h

/-- **The split of a field's shift in the model is the regenerated split of `propagate_dft`**: `tfieldOfShift` (integer part `trunc`,
sub-pixel part `shift − trunc`) is `Gen.dftShiftSplit` — read from `fix_shift = np.fix(shift)`, `subpx_shift = shift - fix_shift` — with
`np.fix` = truncation, whatever `floor` / `round` / `ceil` are; and the shift is asked from `Field.shift` at the wavefront's focal
length and wavelength, the call's `pixelscale` and `oversample`, in (row, column) order (`Gen.dftShiftArgs`). Another rounding in the
source (floor, round) changes `Gen.dftShiftSplit` and this proof stops checking. -/
theorem shift_split_is_generated {K R : Type} [Add R] [Sub R] [Mul R] [Div R] [RealLike R] [TruncLike R] (fl rd ce : R → R) (f : Fld K) (s0 s1 : R)
    (zf wlf du0 du1 os : R) :
    Gen.dftShiftSplit (fun s => RealLike.ofInt (TruncLike.trunc s)) fl rd ce s0 s1
      = ((RealLike.ofInt (tfieldOfShift f s0 s1).fix0, RealLike.ofInt (tfieldOfShift f s0 s1).fix1),
         ((tfieldOfShift f s0 s1).sub0, (tfieldOfShift f s0 s1).sub1)) ∧
    Gen.dftShiftArgs zf wlf du0 du1 os = ((zf, wlf, (du0, du1), os), true) := ⟨rfl, rfl⟩

/-- the real truncation toward zero (`np.fix`): `⌊s⌋` for `s ≥ 0`, `⌈s⌉` otherwise -/
noncomputable instance instTruncLikeReal : TruncLike ℝ := ⟨fun s => if 0 ≤ s then ⌊s⌋ else ⌈s⌉⟩

/-- **`np.fix` keeps the window within one sample of the shift**: the sub-pixel part has magnitude below one and the sign of the
shift, so the window centre `trunc(shift)` is the integer nearest to the shift on the side of zero. -/
theorem fix_split_spec (s : ℝ) :
    |(fixSplit s).2| < 1 ∧ (0 ≤ s → 0 ≤ (fixSplit s).2) ∧ (s ≤ 0 → (fixSplit s).2 ≤ 0) ∧
    (RealLike.ofInt (fixSplit s).1 : ℝ) + (fixSplit s).2 = s := by
  simp only [fixSplit, TruncLike.trunc, RealLike.ofInt]
  split
  · -- `s ≥ 0`: the sub-pixel part is the fractional part
    rename_i h
    have h0 : 0 ≤ s - ⌊s⌋ := Int.fract_nonneg s
    refine ⟨by rw [abs_of_nonneg h0]; exact Int.fract_lt_one s, fun _ => h0, fun hs => ?_, add_sub_cancel _ _⟩
    exact (sub_le_self s (Int.cast_nonneg (Int.floor_nonneg.mpr h))).trans hs
  · -- `s < 0`: `s ≤ ⌈s⌉ < s + 1`
    rename_i h
    have h0 : s - ⌈s⌉ ≤ 0 := sub_nonpos.mpr (Int.le_ceil s)
    exact ⟨abs_lt.mpr ⟨neg_lt_sub_iff_lt_add'.mpr (Int.ceil_lt_add_one s), h0.trans_lt one_pos⟩, fun hs => absurd hs h, fun _ => h0,
      add_sub_cancel _ _⟩

/-- **The mask box is the bounding box of the mask's support.** With `lentil.boundary(mask, threshold=0)` modelled executably (C20's
`boundary ∘ gtMask`, proved to be the tight bounding box in `C20.boundary_is_bbox`), the output extent computed from the mask array
contains the global coordinate of every mask sample above the threshold, and each of its four sides holds one — so the evaluated window
is exactly the bounding box of the support, re-centred at `⌊S/2⌋`. -/
theorem mask_extent_is_support_bbox (S0 S1 : Int) (m : Arr Bool) (oe : Extent) (h : outExtentOfMask S0 S1 (some m) = some oe) :
    (∀ i j : Nat, (i : Int) < m.s0 → (j : Int) < m.s1 → m.get i j = true → oe.inb ((i : Int) - S0 / 2) ((j : Int) - S1 / 2) = true) ∧
    (∃ j : Nat, (j : Int) < m.s1 ∧ m.get (oe.rmin + S0 / 2) j = true) ∧ (∃ j : Nat, (j : Int) < m.s1 ∧ m.get (oe.rmax + S0 / 2) j = true) ∧
    (∃ i : Nat, (i : Int) < m.s0 ∧ m.get i (oe.cmin + S1 / 2) = true) ∧ (∃ i : Nat, (i : Int) < m.s0 ∧ m.get i (oe.cmax + S1 / 2) = true) := by
  obtain ⟨b, hb, rfl⟩ := Option.map_eq_some_iff.mp h
  obtain ⟨_, hcont, hsides⟩ := boundary_bbox m b hb
  refine ⟨fun i j hi hj hm => (mask_bbox S0 S1 b _ _).mpr ?_, ?_⟩
  · simpa only [sub_add_cancel] using hcont i j hi hj hm
  · simpa only [outExtent_mask, sub_add_cancel] using hsides

/-! ## The call as the caller writes it: defaults, broadcasting, the mask guard (all generated) -/

/-- **Defaults and broadcasting of `shape` / `prop_shape`** (generated from the two conditional assignments of `propagate_dft`):
`shape=None` is the wavefront's shape, `prop_shape=None` is `shape`, one int means a square, a pair is taken as is. -/
theorem shape_defaults (W0 W1 S0 S1 n a b : Int) :
    Gen.dftShapeDefault W0 W1 .none = (W0, W1) ∧ Gen.dftShapeDefault W0 W1 (.scalar n) = (n, n) ∧
    Gen.dftShapeDefault W0 W1 (.pair a b) = (a, b) ∧
    Gen.dftPropShapeDefault S0 S1 .none = (S0, S1) ∧ Gen.dftPropShapeDefault S0 S1 (.scalar n) = (n, n) ∧
    Gen.dftPropShapeDefault S0 S1 (.pair a b) = (a, b) := by
  refine ⟨rfl, rfl, rfl, rfl, rfl, rfl⟩

/-- **Without a mask the call is `propagateDft` at the resolved shapes** — so every theorem above (stated for explicit pairs) applies to
the call with `None` / int / pair arguments; in particular `propagate_dft(w, du)` evaluates the whole `wavefront.shape * oversample` array. -/
theorem call_no_mask (fs : List (TField K R)) (αr αc : R) (W0 W1 : Int) (shape propShape : Gen.ShapeArg) (os : Int) :
    propagateDftCall fs αr αc W0 W1 shape propShape os none =
      .ok (propagateDft fs αr αc (Gen.dftShapeDefault W0 W1 shape).1 (Gen.dftShapeDefault W0 W1 shape).2
            (Gen.dftPropShapeDefault (Gen.dftShapeDefault W0 W1 shape).1 (Gen.dftShapeDefault W0 W1 shape).2 propShape).1
            (Gen.dftPropShapeDefault (Gen.dftShapeDefault W0 W1 shape).1 (Gen.dftShapeDefault W0 W1 shape).2 propShape).2 os none)
          ((Gen.dftShapeDefault W0 W1 shape).1 * os) ((Gen.dftShapeDefault W0 W1 shape).2 * os) := by
  simp only [propagateDftCall, propagateDftResolved, propagateDft, noMaskOutExtent, Gen.dftOutExtentArgsNoMask, outExtent, Gen.dftShapeOut]

/-- the all-default call: `propagate_dft(w, du, oversample=os)` -/
theorem call_all_defaults (fs : List (TField K R)) (αr αc : R) (W0 W1 os : Int) :
    propagateDftCall fs αr αc W0 W1 .none .none os none = .ok (propagateDft fs αr αc W0 W1 W0 W1 os none) (W0 * os) (W1 * os) := by
  rw [call_no_mask]; rfl

/-- **The call as written, on fields carrying their real shifts**: `propagate_dft(w, du, shape, prop_shape, oversample)` (no mask; `None` /
int / pair arguments resolved by the generated defaults) answers, and sample `[i][j]` of `Wavefront.field` of the answer is the sum over the
fields whose window centred at `trunc(shift)` contains the sample of the Fraunhofer sum at `g − shift` — the `np.fix` split (`tfieldOfShift`)
is inside the statement, the driver adds nothing. -/
theorem call_sample_of_shifts {K R : Type} [CommRing R] [RealLike R] [TruncLike R] [Semiring K] [CxLike K R]
    (hcast : ∀ n : Int, (RealLike.ofInt n : R) = (n : R))
    (fs : List (Fld K × R × R)) (αr αc : R) (W0 W1 : Int) (shape propShape : Gen.ShapeArg) (os : Int)
    (S P : Int × Int) (hS : Gen.dftShapeDefault W0 W1 shape = S) (hPs : Gen.dftPropShapeDefault S.1 S.2 propShape = P)
    (hSpos : 0 < S.1 * os ∧ 0 < S.2 * os) (hP : 0 < P.1 * os ∧ 0 < P.2 * os) :
    ∃ out, propagateDftCall (fs.map fun p => tfieldOfShift p.1 p.2.1 p.2.2) αr αc W0 W1 shape propShape os none = .ok out (S.1 * os) (S.2 * os) ∧
      ∀ i j : Int, 0 ≤ i ∧ i < S.1 * os → 0 ≤ j ∧ j < S.2 * os →
        (wavefrontField 1 out (S.1 * os) (S.2 * os)).get i j =
          (fs.map fun p =>
            if (outExtent (S.1 * os) (S.2 * os) none).inb (i - S.1 * os / 2) (j - S.2 * os / 2) &&
               (propExtent (P.1 * os) (P.2 * os) (TruncLike.trunc p.2.1) (TruncLike.trunc p.2.2)).inb (i - S.1 * os / 2) (j - S.2 * os / 2)
            then fraunhoferAt p.1 αr αc (RealLike.ofInt (i - S.1 * os / 2) - p.2.1) (RealLike.ofInt (j - S.2 * os / 2) - p.2.2)
            else 0).sum := by
  subst hS hPs
  exact ⟨_, call_no_mask _ αr αc W0 W1 shape propShape os, fun i j hi hj =>
    propagateDft_sample_of_shifts hcast fs αr αc _ _ _ _ os none (arrayExtent_valid _ _ 0 0 hSpos) hP i j hi hj⟩

/-- the resolved body with a mask, by the value of the generated guard and of `boundary` -/
theorem resolved_mask (fs : List (TField K R)) (αr αc : R) (S0 S1 P0 P1 : Int) (m : Arr Bool) :
    (Gen.dftMaskMismatch m.s0 m.s1 S0 S1 = true → propagateDftResolved fs αr αc S0 S1 P0 P1 (some m) = .valueError) ∧
    (Gen.dftMaskMismatch m.s0 m.s1 S0 S1 = false → boundary m = none → propagateDftResolved fs αr αc S0 S1 P0 P1 (some m) = .indexError) ∧
    (Gen.dftMaskMismatch m.s0 m.s1 S0 S1 = false → ∀ b, boundary m = some b → propagateDftResolved fs αr αc S0 S1 P0 P1 (some m) =
      .ok (fs.filterMap fun t => propagateField t αr αc (maskOutExtent m.s0 m.s1 S0 S1 b) P0 P1) S0 S1) := by
  refine ⟨fun hg => ?_, fun hg hb => ?_, fun hg b hb => ?_⟩
  · simp only [propagateDftResolved, hg, if_true]
  · simp only [propagateDftResolved, hg, hb, Bool.false_eq_true, if_false]
  · simp only [propagateDftResolved, hg, hb, Bool.false_eq_true, if_false]

theorem resolved_valueError_iff (fs : List (TField K R)) (αr αc : R) (S0 S1 P0 P1 : Int) (m : Arr Bool) :
    propagateDftResolved fs αr αc S0 S1 P0 P1 (some m) = .valueError ↔ Gen.dftMaskMismatch m.s0 m.s1 S0 S1 = true := by
  obtain ⟨ht, hn, hs⟩ := resolved_mask fs αr αc S0 S1 P0 P1 m
  cases hg : Gen.dftMaskMismatch m.s0 m.s1 S0 S1
  · cases hb : boundary m with
    | none => simp [hn hg hb]
    | some b => simp [hs hg b hb]
  · simp [ht hg]

/-- **With a mask of the output shape the call is `propagateDft` on the mask's bounding box**; an all-zero mask is NumPy's IndexError. -/
theorem call_mask_matching (fs : List (TField K R)) (αr αc : R) (W0 W1 : Int) (shape propShape : Gen.ShapeArg) (os : Int) (m : Arr Bool)
    (h0 : m.s0 = (Gen.dftShapeDefault W0 W1 shape).1 * os) (h1 : m.s1 = (Gen.dftShapeDefault W0 W1 shape).2 * os) :
    (boundary m = none → propagateDftCall fs αr αc W0 W1 shape propShape os (some m) = .indexError) ∧
    (∀ b, boundary m = some b → propagateDftCall fs αr αc W0 W1 shape propShape os (some m) =
      .ok (propagateDft fs αr αc (Gen.dftShapeDefault W0 W1 shape).1 (Gen.dftShapeDefault W0 W1 shape).2
            (Gen.dftPropShapeDefault (Gen.dftShapeDefault W0 W1 shape).1 (Gen.dftShapeDefault W0 W1 shape).2 propShape).1
            (Gen.dftPropShapeDefault (Gen.dftShapeDefault W0 W1 shape).1 (Gen.dftShapeDefault W0 W1 shape).2 propShape).2 os (some b))
          ((Gen.dftShapeDefault W0 W1 shape).1 * os) ((Gen.dftShapeDefault W0 W1 shape).2 * os)) := by
  have hg : Gen.dftMaskMismatch m.s0 m.s1 ((Gen.dftShapeDefault W0 W1 shape).1 * os) ((Gen.dftShapeDefault W0 W1 shape).2 * os) = false := by
    rw [Bool.eq_false_iff, Ne, dftMaskMismatch_iff, not_or, not_not, not_not]; exact ⟨h0, h1⟩
  obtain ⟨_, hn, hs⟩ := resolved_mask fs αr αc _ _ _ _ m
  refine ⟨hn hg, fun b hb => (hs hg b hb).trans ?_⟩
  -- with the mask's shape equal to the output shape, `_mask_shift` centres the box on the output array
  rw [h0, h1]; rfl

/-- **The call with a mask, on fields carrying their real shifts.** For a mask of the output shape with support (`boundary m = some b`):
the call answers, and sample `[i][j]` of `Wavefront.field` of the answer is the sum over the fields whose window centred at `trunc(shift)`
contains the sample — restricted to the bounding box of the mask's support — of the Fraunhofer sum at `g − shift`; exactly zero outside
the box. Composition of `call_mask_matching`, `C20.boundary_is_bbox` (the box is never empty) and `propagateDft_sample_of_shifts`. -/
theorem call_mask_sample_of_shifts {K R : Type} [CommRing R] [RealLike R] [TruncLike R] [Semiring K] [CxLike K R]
    (hcast : ∀ n : Int, (RealLike.ofInt n : R) = (n : R))
    (fs : List (Fld K × R × R)) (αr αc : R) (W0 W1 : Int) (shape propShape : Gen.ShapeArg) (os : Int) (m : Arr Bool) (b : Extent)
    (S P : Int × Int) (hS : Gen.dftShapeDefault W0 W1 shape = S) (hPs : Gen.dftPropShapeDefault S.1 S.2 propShape = P)
    (h0 : m.s0 = S.1 * os) (h1 : m.s1 = S.2 * os) (hb : boundary m = some b) (hP : 0 < P.1 * os ∧ 0 < P.2 * os) :
    ∃ out, propagateDftCall (fs.map fun p => tfieldOfShift p.1 p.2.1 p.2.2) αr αc W0 W1 shape propShape os (some m) = .ok out (S.1 * os) (S.2 * os) ∧
      ∀ i j : Int, 0 ≤ i ∧ i < S.1 * os → 0 ≤ j ∧ j < S.2 * os →
        (wavefrontField 1 out (S.1 * os) (S.2 * os)).get i j =
          (fs.map fun p =>
            if (outExtent (S.1 * os) (S.2 * os) (some b)).inb (i - S.1 * os / 2) (j - S.2 * os / 2) &&
               (propExtent (P.1 * os) (P.2 * os) (TruncLike.trunc p.2.1) (TruncLike.trunc p.2.2)).inb (i - S.1 * os / 2) (j - S.2 * os / 2)
            then fraunhoferAt p.1 αr αc (RealLike.ofInt (i - S.1 * os / 2) - p.2.1) (RealLike.ofInt (j - S.2 * os / 2) - p.2.2)
            else 0).sum := by
  subst hS hPs
  obtain ⟨⟨_, hr, _, _, hc, _⟩, _⟩ := boundary_bbox m b hb
  exact ⟨_, (call_mask_matching _ αr αc W0 W1 shape propShape os m h0 h1).2 b hb, fun i j hi hj =>
    propagateDft_sample_of_shifts hcast fs αr αc _ _ _ _ os (some b)
      (by rw [outExtent_mask]; exact ⟨Int.sub_le_sub_right hr _, Int.sub_le_sub_right hc _⟩) hP i j hi hj⟩

/-- **A mask of the wrong shape is refused**: the call ends in ValueError iff the mask differs from the output array
`shape * oversample` in EITHER dimension (generated guard `np.any(mask.shape != shape_out)`); so every mask that is accepted has exactly
the output shape and `call_mask_matching` applies to it. -/
theorem call_mask_refused_iff (fs : List (TField K R)) (αr αc : R) (W0 W1 : Int) (shape propShape : Gen.ShapeArg) (os : Int) (m : Arr Bool) :
    propagateDftCall fs αr αc W0 W1 shape propShape os (some m) = .valueError ↔
      m.s0 ≠ (Gen.dftShapeDefault W0 W1 shape).1 * os ∨ m.s1 ≠ (Gen.dftShapeDefault W0 W1 shape).2 * os := by
  unfold propagateDftCall
  rw [resolved_valueError_iff, dftMaskMismatch_iff]; rfl

/-- **An accepted mask has the output shape**: whenever the call with a mask is not a ValueError, the mask's shape is `shape * oversample`. -/
theorem accepted_mask_has_output_shape (fs : List (TField K R)) (αr αc : R) (W0 W1 : Int) (shape propShape : Gen.ShapeArg) (os : Int) (m : Arr Bool)
    (h : propagateDftCall fs αr αc W0 W1 shape propShape os (some m) ≠ .valueError) :
    m.s0 = (Gen.dftShapeDefault W0 W1 shape).1 * os ∧ m.s1 = (Gen.dftShapeDefault W0 W1 shape).2 * os :=
  (not_or.mp (mt (call_mask_refused_iff fs αr αc W0 W1 shape propShape os m).mpr h)).imp not_not.mp not_not.mp

/-- **A wavefront without plane type is refused (TypeError) before anything else**, whatever shape, propagation shape, oversampling
and mask — also a mask of the wrong shape or without support, which on a typed wavefront raise ValueError / IndexError: the
plane-type check precedes the mask block in the source (`Gen.dftPtypeStmt < Gen.dftMaskGuardStmt`, regenerated positions) -/
theorem untyped_refused_before_mask_guard (fs : List (TField K R)) (αr αc : R) (W0 W1 : Int) (shape propShape : Gen.ShapeArg) (os : Int)
    (mask : Option (Arr Bool)) :
    propagateDftTyped .none fs αr αc W0 W1 shape propShape os mask = DftCallOut.refusedBy .typeError := by
  have h : Gen.dftPtypeStmt < Gen.dftMaskGuardStmt := by decide
  simp only [propagateDftTyped, Gen.codePropagate, h, if_true]

/-- **Both directions run the same call**: on a pupil-plane wavefront (pupil → image) and on an image-plane wavefront (image →
pupil, "or back") the typed call is `propagateDftCall` — the call every sample theorem of this file is about — with identical
arguments; only the plane type of the result differs (flipped, generated table `Gen.codePropagate`) -/
theorem both_directions_same_call (fs : List (TField K R)) (αr αc : R) (W0 W1 : Int) (shape propShape : Gen.ShapeArg) (os : Int)
    (mask : Option (Arr Bool)) :
    propagateDftTyped .pupil fs αr αc W0 W1 shape propShape os mask
      = DftCallOut.done .image (propagateDftCall fs αr αc W0 W1 shape propShape os mask) ∧
    propagateDftTyped .image fs αr αc W0 W1 shape propShape os mask
      = DftCallOut.done .pupil (propagateDftCall fs αr αc W0 W1 shape propShape os mask) := ⟨rfl, rfl⟩

/-- an 8x10 or a 10x8 mask for an 8x8 output array raises ValueError (and the 8x8 mask is accepted) -/
theorem former_mask_witness_refused :
    Gen.dftMaskMismatch 8 10 8 8 = true ∧ Gen.dftMaskMismatch 10 8 8 8 = true ∧ Gen.dftMaskMismatch 8 8 8 8 = false := by decide

/-! ## Non-vacuity: the hypotheses are satisfiable by concrete, non-trivial instances -/
section
local instance : RealLike Int := ⟨id, 6, id, fun x => x.natAbs⟩
local instance : CxLike Int Int := ⟨fun t => t, id, id, fun z _ => z⟩

/-- a 3x2 field at offset (1,-1), shift split (2, -1) + (0, 0), a clipped 4x5 output extent and a 3x3 window -/
example : (match propagateField (K := Int) (R := Int) ⟨⟨⟨3, 2, fun i j => i + 2 * j + 1⟩, 1, -1⟩, 2, -1, 0, 0⟩ 1 1
      (outExtent 4 5 none) 3 3 with | some g => g.extent | none => ⟨0, 0, 0, 0⟩) = ⟨1, 1, -2, 0⟩ := by decide

example (r c : Int) := propagateField_sample (K := Int) (R := Int) (fun _ => rfl)
  ⟨⟨⟨3, 2, fun i j => i + 2 * j + 1⟩, 1, -1⟩, 2, -1, 0, 0⟩ 1 1 (outExtent 4 5 none) 3 3
  (arrayExtent_valid _ _ 0 0 (by decide)) (by decide) r c

example : (outExtent 7 6 (some ⟨2, 4, 0, 3⟩)).inb (-1) 0 = true := by decide

/-- `propagateDft_common_shift`: two fields at non-zero offsets on a 4x4 canvas, common shift (1, -1) -/
example (i j : Int) (hi : 0 ≤ i ∧ i < 4 * 1) (hj : 0 ≤ j ∧ j < 4 * 1) :=
  propagateDft_common_shift (K := Int) (R := Int) (fun _ => rfl)
    [⟨⟨2, 2, fun i j => i + 2 * j + 1⟩, -1, -1⟩, ⟨⟨2, 1, fun i _ => i + 5⟩, 1, 0⟩] 1 (-1) 0 0 4 4 (by decide)
    (by intro f hf; simp only [List.mem_cons, List.not_mem_nil, or_false] at hf
        rcases hf with rfl | rfl <;> (simp only [Fld.within, Fld.extent, arrayExtent_eq]; decide))
    (by intro f hf; simp only [List.mem_cons, List.not_mem_nil, or_false] at hf
        rcases hf with rfl | rfl <;> decide)
    1 1 4 4 3 3 1 none (arrayExtent_valid _ _ 0 0 (by decide)) (by decide) i j hi hj

/-- a 3x4 mask with holes (support at (0,1) and (2,3)): the mask branch answers with an extent, so the hypothesis of
`mask_extent_is_support_bbox` and `boundary m = some b` of `call_mask_matching` are reachable -/
example : ∃ oe, outExtentOfMask 3 4 (some ⟨3, 4, fun i j => (i == 0 && j == 1) || (i == 2 && j == 3)⟩) = some oe ∧ oe = ⟨-1, 1, -1, 1⟩ :=
  ⟨_, by decide, rfl⟩
example : boundary ⟨3, 4, fun i j => (i == 0 && j == 1) || (i == 2 && j == 3)⟩ = some ⟨0, 2, 1, 3⟩ := by decide

local instance : TruncLike Int := ⟨id⟩
/-- `call_sample_of_shifts` / `call_mask_sample_of_shifts`: a 2x2 wavefront, `shape=None`, `prop_shape=3`, `oversample=2`, one field shifted
by (1, -1); with the 4x4 mask whose support is the box rows 1..2, cols 0..3 -/
example := call_sample_of_shifts (K := Int) (R := Int) (fun _ => rfl) [(⟨⟨2, 2, fun i j => i + 2 * j + 1⟩, 0, 0⟩, 1, -1)] 1 1 2 2
  .none (.scalar 3) 2 (2, 2) (3, 3) rfl rfl (by decide) (by decide)
example := call_mask_sample_of_shifts (K := Int) (R := Int) (fun _ => rfl) [(⟨⟨2, 2, fun i j => i + 2 * j + 1⟩, 0, 0⟩, 1, -1)] 1 1 2 2
  .none (.scalar 3) 2 ⟨4, 4, fun i _ => i == 1 || i == 2⟩ ⟨1, 2, 0, 3⟩ (2, 2) (3, 3) rfl rfl rfl rfl (by decide) (by decide)
end

end Lentil.C02
