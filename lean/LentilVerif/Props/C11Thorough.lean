import LentilVerif.Props.C11
import LentilVerif.Lemmas.ZernikeGram
/-! # C11, thorough tier — orthonormality for every mode the implementation can evaluate (n ≤ 40, j ≤ 861)

Built and audited only by the thorough tier of tools/harness/c11.py. The Gram entries hold for every order (`gramQ_eq`); the bound
`|R_n^m| ≤ 1` rests on the one certificate table `cosCert_radial_40`. -/
namespace Lentil.C11
open Lentil

/-- the radial Gram table for all n, n' ≤ 40 -/
theorem gramUpTo_40 : GramUpTo 40 := fun n n' m _ _ hm hm' h h' => gramQ_eq n n' m hm hm' h h'

/-- **orthonormality of the model's modes, all pairs among the first 861 modes (n ≤ 40)** -/
theorem zernike_orthonormal_40 (j j' : Nat) (hj : 1 ≤ j) (hj' : 1 ≤ j') (hn : nollN j ≤ 40) (hn' : nollN j' ≤ 40) :
    diskMean (fun ρ θ => zReal j ρ θ * zReal j' ρ θ) = if j = j' then 1 else 0 :=
  zReal_orthonormal j j' hj hj'

/-- … and as an area mean over the unit disk -/
theorem zernike_orthonormal_area_40 (j j' : Nat) (hj : 1 ≤ j) (hj' : 1 ≤ j') (hn : nollN j ≤ 40) (hn' : nollN j' ≤ 40) :
    (1 / Real.pi) * ∫ q in unitDisk, zReal j (polarCoord q).1 (polarCoord q).2 * zReal j' (polarCoord q).1 (polarCoord q).2
      = if j = j' then 1 else 0 := zReal_orthonormal_area j j' hj hj'

/-- **|R_n^m| ≤ 1 on [−1, 1] for every valid (n, m) with n ≤ 40** — every mode the implementation can evaluate -/
theorem radial_abs_le_one_40 (n m : Nat) (hn : n ≤ 40) (hm : m ≤ n) (h : (n - m) % 2 = 0) (x : ℝ) (h0 : -1 ≤ x) (h1 : x ≤ 1) :
    |radialEval n m x| ≤ 1 :=
  abs_radialEval_le_one n m hn hm h x h0 h1

/-- … hence `|Z_j| ≤ 1` without normalisation on the unit disk for all 861 modes -/
theorem raw_mode_abs_le_one_40 (j : Nat) (hj : 1 ≤ j) (hn : nollN j ≤ 40) (ρ θ : ℝ) (h0 : 0 ≤ ρ) (h1 : ρ ≤ 1) :
    |zernAt (fun k => Real.sqrt k) Real.cos Real.sin j false ρ θ true| ≤ 1 := by
  obtain ⟨v1, v2, -⟩ := noll_valid j hj
  exact le_trans (raw_mode_le_radial j ρ θ) (radial_abs_le_one_40 _ _ hn v1 v2 ρ (neg_one_lt_zero.le.trans h0) h1)

end Lentil.C11
